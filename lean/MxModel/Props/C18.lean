import MxModel.Proofs.IOSpecClosed
import MxModel.Proofs.IOKeys
import MxModel.Proofs.IOSessionLoad
/-!
# C18 – an IOSpec lives exactly as long as a reference to its value

The property theorems, and the lemmas on composites (`new_space(refs=…)`, `copy`) they need (other lemmas:
`Proofs/IOSpec*.lean`; model: `Kernels/IOSpec.lean`; for the sections on
the registry of file objects and on absolute paths: `Proofs/IOKeys.lean`, `Proofs/IOSession*.lean` and the
kernels of those names).  The model
is bug-faithful: four behaviours of modelx break the property.  Each is a decidable predicate on
(state, operation) – `trigCellsName`, `trigDoubleSpec`, `trigDirtyDelete`, `trigUpdateOnto` – and
`AllClean kw st ops` says that no operation of a history meets any of them.

Closed models are inside every quantifier: `close` only deletes the model's specs and takes it out
of the registry, its handles keep working, and the model performs every operation on a closed model
as on an open one (only handles of deleted spaces, and names of models/spaces that never existed,
are answered `dead` with the state unchanged - which is what `DeletedObjectError` does).  What
`close` promises – the IOManager holds nothing of a closed model – is `closed_models_hold_no_spec_partial`
(`new_pandas` through the handle of a closed model is refused: repair c7314d3 of
C18-closed-model-new-spec, whose witness is a positive example below).

File locations: the io key is the lexically normalised path (`normPath`: `./a.csv` = `sub/../a.csv` =
`a.csv`; repair f8aca39 of C18-path-alias, whose witness is a positive example below), so the key IS the
file below the model's folder and `locations_distinct` holds at full strength.  Without `AllClean` the
`…_partial` statements are false of the model and of modelx: every `…_fails_…` theorem below is the
negation of a full statement, with the witness history that is also replayed on the implementation
(`corpus/C18/known-*.json`, known findings `C18-…`).

The model follows the code as repaired in /repo (known_findings.json, status fixed; witnesses
`corpus/C18/fixed-*.json`) in two further places: rebinding a name to the object it already holds keeps
the object's spec (aad9766), and the sheet setter refuses a sheet-less spec next to another one (626845c).
So `spec_survives_partial` covers the rebinding, `locations_distinct` holds for every history without
hypothesis, and the witnesses of the two repaired defects are positive examples at the end of this file.

`kw` is Python's keyword table (regenerated); the theorems hold for every table.
-/
namespace MxModel.C18
open MxModel.IOSpec

/-- **The statement on one state.**  For every model: `model.iospecs` never fails and is exactly
the set of specs registered in the IOManager for that model; every such spec's value is bound to
at least one reference of the model; no value has two specs; and `_valid_to_refs` lists, without
repetition and without empty entries, exactly the references bound to each non-Interface value. -/
structure IOInv (st : St) : Prop where
  listed : ∀ m, ∃ L, rmSpecs st m = .ok L ∧ ∀ σ, σ ∈ L ↔ (σ ∈ st.specs ∧ σ.group = m)
  bound : ∀ σ ∈ st.specs, ∃ r ∈ st.refs, r.owner.model = σ.group ∧ r.val = σ.val
  oneSpecPerValue : ∀ σ ∈ st.specs, ∀ τ ∈ st.specs, σ.group = τ.group → σ.val = τ.val → σ = τ
  v2rExact : ∀ m v r, r ∈ (alookup st.v2r (m, v)).getD [] ↔
      (r ∈ st.refs ∧ r.owner.model = m ∧ r.val = v ∧ v.tracked = true)
  v2rEntries : ∀ e ∈ st.v2r, e.2 ≠ [] ∧ e.2.Nodup

theorem ioInv_of_rinv {st : St} (h : RInv st) : IOInv st := by
  refine ⟨fun m => rmSpecs_exact h m, fun σ hσ => h.specRef σ hσ id, h.specVal, h.core.entMem, fun e he => ?_⟩
  have hl := mem_alookup h.keys he
  have hn := h.core.entNodup e.1
  rw [ent, hl] at hn
  exact ⟨fun h0 => h.core.noEmpty e.1 (h0 ▸ hl), hn⟩

/-- **spec_iff_referenced (partial: `AllClean`).**  After every finite history of operations –
creating models, spaces and cells, `new_pandas` (accepted or rejected), assignment of any value to
any name (new name, rebinding, a second name for a value, names of cells and spaces, invalid
names), deletion of references and of spaces, `update_pandas` in place and with a new object,
sheet and path changes, `del_spec`, `close`, on any model or space, open, closed, deleted or never
created – that avoids the four triggers, the statement holds (for every model, closed ones
included: a closed model has no spec, and whatever is created through its handles afterwards is
tracked like anything else). -/
theorem spec_iff_referenced_partial (kw : List String) (ops : List Op) (h : AllClean kw {} ops) :
    IOInv (run kw {} ops) :=
  ioInv_of_rinv (rinv_run kw ops {} rinv_empty h)

/-- one step, from any state in which the statement's invariant holds -/
theorem spec_iff_referenced_step (kw : List String) (st : St) (op : Op) (h : RInv st)
    (hc : clean st op = true) :
    IOInv (step kw st op) :=
  ioInv_of_rinv (rinv_step kw h hc)

/-- **A spec does not die before the last reference to its value (partial).**  After a clean
history, an operation other than `del_spec`/`close` that avoids the four triggers – in particular
every assignment, also of the object the name already holds – removes a spec only if afterwards no
reference of the model is bound to the spec's value. -/
theorem spec_survives_partial (kw : List String) (ops : List Op) (op : Op)
    (h : AllClean kw {} ops) (hc : clean (run kw {} ops) op = true) (hop : removesSpecs op = false) :
    ∀ σ ∈ (run kw {} ops).specs, (∀ τ ∈ (step kw (run kw {} ops) op).specs, τ.sid ≠ σ.sid) →
      ∀ r ∈ (step kw (run kw {} ops) op).refs, ¬ (r.owner.model = σ.group ∧ r.val = σ.val) :=
  fun σ hσ hn r hr hb =>
    let ⟨τ, hτ, e⟩ := spec_survives_step kw (rinv_run kw ops {} rinv_empty h) hc hop σ hσ ⟨r, hr, hb⟩
    hn τ hτ e

/-- **rejected_creation_leaves_nothing** (full strength: every history, clean or not).  If
`new_pandas` raises – the file location is taken, the data is not a pandas object, the name is
invalid, a non-scalar cells, a space – the specs, the references, `_valid_to_refs` and the cells
are exactly as before. -/
theorem rejected_creation_leaves_nothing (kw : List String) (ops : List Op) (o : Owner)
    (n path : String) (csv : Bool) (sheet : Option String) (data : Val) (e : Rej)
    (he : (newPandas kw (run kw {} ops) o n path csv sheet data).2 = .error e) :
    (newPandas kw (run kw {} ops) o n path csv sheet data).1.specs = (run kw {} ops).specs ∧
    (newPandas kw (run kw {} ops) o n path csv sheet data).1.refs = (run kw {} ops).refs ∧
    (newPandas kw (run kw {} ops) o n path csv sheet data).1.v2r = (run kw {} ops).v2r ∧
    (newPandas kw (run kw {} ops) o n path csv sheet data).1.cells = (run kw {} ops).cells :=
  newPandas_rejected (sidOK_run kw ops {} sidOK_empty) he

/-- **locations_distinct** (full strength: every history, clean or not).  "Two specs never claim
the same file location": two different specs of one model under one io key – the lexically
normalised path, i.e. the file below the model's folder, however the path was spelt (`a.csv`,
`./a.csv`, `sub/../a.csv`) – are two sheets of one Excel file with different names (a csv file, and
a sheet-less spec, are never shared) – whatever was created, updated, deleted, moved by the path
setter, and whatever sheets were set. -/
theorem locations_distinct (kw : List String) (ops : List Op) : Loc (run kw {} ops).specs :=
  loc_run kw ops {} sidOK_empty (List.forall_mem_nil _)

/-- **close_releases (partial).**  After a clean history, `System.close_model` (`closeModel`: what the
operation `close m` runs for an open model; the statement holds of every `m`) succeeds, leaves no spec
(hence no io) of that model in the IOManager, and the model is gone from the registry. -/
theorem close_releases_partial (kw : List String) (ops : List Op) (m : Nat) (h : AllClean kw {} ops) :
    (closeModel (run kw {} ops) m).2 = .ok () ∧
    (∀ σ ∈ (closeModel (run kw {} ops) m).1.specs, σ.group ≠ m) ∧
    m ∉ (closeModel (run kw {} ops) m).1.models :=
  closeModel_releases (rinv_run kw ops {} rinv_empty h) m

/-- **closed_models_hold_no_spec (partial).**  At every point of a clean history – not only right
after `close` – the IOManager holds no spec (hence no io) of any closed model, whatever was done
through the handles of closed models in between (assignments, deletions, `update_pandas`, a second
`close`, new spaces and cells; `new_pandas` is refused). -/
theorem closed_models_hold_no_spec_partial (kw : List String) (ops : List Op) (h : AllClean kw {} ops) :
    ∀ σ ∈ (run kw {} ops).specs, σ.group ∉ (run kw {} ops).closed := by
  intro σ hσ hin
  have := closedFree_run kw ops {} rinv_empty (List.forall_mem_nil _) h σ hσ
  rw [List.contains_eq_mem, decide_eq_false_iff_not] at this
  exact this hin

/-! ## Spaces created WITH references: `new_space(refs=…)`, `UserSpace.copy` -/

/-- a structural operation (no `new_pandas`, deletion or `update_pandas`) meets no trigger -/
def Structural : Op → Prop
  | .newSpace _ _ _ | .newCells _ _ _ | .bind _ _ _ => True
  | _ => False

theorem structural_clean {op : Op} (h : Structural op) (st : St) : clean st op = true := by
  cases op with
  | newSpace | newCells | bind => rfl
  | _ => exact False.elim h

theorem allClean_of_structural (kw : List String) : ∀ (ops : List Op) (st : St),
    (∀ op ∈ ops, Structural op) → AllClean kw st ops
  | [], _, _ => trivial
  | op :: rest, st, h =>
    ⟨structural_clean (h op (List.mem_cons_self ..)) st,
     allClean_of_structural kw rest _ (fun o ho => h o (List.mem_cons_of_mem _ ho))⟩

theorem newSpaceRefsOps_structural (m s : Nat) (name : String) (refs : List (String × Val)) :
    ∀ op ∈ newSpaceRefsOps m s name refs, Structural op := by
  intro op hop
  simp only [newSpaceRefsOps, List.mem_cons, List.mem_map] at hop
  rcases hop with rfl | ⟨_, _, rfl⟩ <;> trivial

theorem copySpaceOps_structural (st : St) (m src s : Nat) (name : String) :
    ∀ op ∈ copySpaceOps st m src s name, Structural op := by
  intro op hop
  simp only [copySpaceOps, List.mem_append, List.mem_map] at hop
  rcases hop with h | ⟨_, _, rfl⟩
  · exact newSpaceRefsOps_structural _ _ _ _ op h
  · trivial

/-- **A composite is a history.**  What `new_space(refs=…)` / `copy` leave behind is the state after a prefix of
their expansion: all of it, or - the creation of the space refused - its first operation alone. -/
theorem composite_is_a_history (kw : List String) (st : St) (ops : List Op) :
    (runGuarded kw st ops).1 = run kw st ops ∨ (runGuarded kw st ops).1 = run kw st (ops.take 1) := by
  cases ops with
  | nil => left; rfl
  | cons op rest =>
    simp only [runGuarded]
    cases hres : stepR kw st op with
    | mk st1 r =>
      have h1 : step kw st op = st1 := by simp [step, hres]
      cases r with
      | ok u => left; simp [run, List.foldl_cons, h1]
      | error e => right; simp [run, h1]

theorem rinv_runGuarded (kw : List String) {st : St} (h : RInv st) {ops : List Op}
    (hs : ∀ op ∈ ops, Structural op) : RInv (runGuarded kw st ops).1 := by
  rcases composite_is_a_history kw st ops with e | e <;> rw [e]
  · exact rinv_run kw ops st h (allClean_of_structural kw ops st hs)
  · exact rinv_run kw (ops.take 1) st h
      (allClean_of_structural kw _ st (fun o ho => hs o (List.mem_of_mem_take ho)))

/-- **A space created with references registers each of them** (`new_space(name, refs=…)`).  From any state in
which the statement's invariant holds - in particular after any clean history - the statement holds after the
creation, whatever the mapping binds: several names to ONE object (each is listed under the object in
`_valid_to_refs`), objects that have an IOSpec, Interfaces, objects bound elsewhere in the model. -/
theorem created_with_refs_keeps_statement (kw : List String) {st : St} (h : RInv st) (m s : Nat) (name : String)
    (refs : List (String × Val)) :
    IOInv (runGuarded kw st (newSpaceRefsOps m s name refs)).1 :=
  ioInv_of_rinv (rinv_runGuarded kw h (newSpaceRefsOps_structural m s name refs))

/-- **A copy of a space registers the references it is created with** (`source.copy(model, name)`). -/
theorem copied_space_keeps_statement (kw : List String) {st : St} (h : RInv st) (m src s : Nat) (name : String) :
    IOInv (copySpace kw st m src s name).1 := by
  unfold copySpace
  split
  · exact ioInv_of_rinv h
  · exact ioInv_of_rinv (rinv_runGuarded kw h (copySpaceOps_structural st m src s name))

/-- the twins of a created space: `S1.x` has an IOSpec; `S2` is created with `x` and `y` both bound to that
object; then `S1.x` and `S2.y` are deleted - the spec lives, `S2.x` still holds the value; it dies with `S2.x` -/
def twins : List Op :=
  [.newModel 0, .newSpace 0 1 "S1", .newPandas ⟨0, 1⟩ "x" "a.csv" true none (.df 0)] ++
  newSpaceRefsOps 0 2 "S2" [("x", .df 0), ("y", .df 0)] ++ [.del ⟨0, 1⟩ "x", .del ⟨0, 2⟩ "y"]

example : AllClean [] {} twins := by decide +kernel
example : ((run [] {} (twins.take 6)).v2r.map (fun e => (e.1, e.2.map (fun r => (r.owner.space, r.name))))) =
    [((0, .df 0), [(1, "x"), (2, "x"), (2, "y")])] := by decide +kernel
example : ((run [] {} twins).specs.map (·.val), (run [] {} twins).refs.map (fun r => (r.owner.space, r.name))) =
    ([.df 0], [(2, "x")]) := by decide +kernel
example : (run [] {} (twins ++ [.del ⟨0, 2⟩ "x"])).specs = [] := by decide +kernel
example : ((copySpace [] (run [] {} (twins.take 6)) 0 2 3 "S3").1.v2r.map (fun e => e.2.map (fun r => (r.owner.space, r.name)))) =
    [[(1, "x"), (2, "x"), (2, "y"), (3, "x"), (3, "y")]] := by decide +kernel

/-! ## The registry of file objects: relative and absolute paths (`Kernels/IOKeys.lean`) -/

/-- **io_keys_unique** (every history of creations, path changes – relative→relative,
relative→absolute, absolute→relative, absolute→absolute, accepted or refused – and removals, from
any models): no two file objects are registered under one key, and none twice. -/
theorem io_keys_unique (ops : List IOKeys.Op) :
    (∀ a ∈ (IOKeys.run {} ops).ios, ∀ b ∈ (IOKeys.run {} ops).ios, a.group = b.group → a.path = b.path → a = b) ∧
    (∀ a ∈ (IOKeys.run {} ops).ios, ∀ b ∈ (IOKeys.run {} ops).ios, a.id = b.id → a = b) :=
  ⟨(IOKeys.inv_run ops {} IOKeys.inv_empty).keyUnique, (IOKeys.inv_run ops {} IOKeys.inv_empty).idUnique⟩

/-- **io_keys_are_locations (partial: no path change from an absolute to a relative path).**  The key
a file object is registered under IS the file it is written to – an absolute path in the
session-wide group, a relative path in the group of its model (the file below that model's folder) –
after every history, however files are created and moved.  With `io_keys_unique`: keys and file
locations are in bijection, through the path setter too; two file objects never denote one file. -/
theorem io_keys_are_locations_partial (ops : List IOKeys.Op) (h : IOKeys.NoAbsToRel {} ops) :
    ∀ a ∈ (IOKeys.run {} ops).ios, a.group.isNone = IOKeys.isAbs a.path := by
  intro a ha
  have := IOKeys.wellKeyed_run ops {} (List.forall_mem_nil _) h a ha
  simpa [IOKeys.Io.wellKeyed] using this

/-- the path setter from an absolute to a relative path leaves the file in the session-wide group
(recorded finding C18-absolute-io-shared): a second file object under the same relative path in the
model's own group is then accepted – two file objects, one file -/
theorem io_keys_are_locations_fails_abs_to_rel :
    ¬ ∀ (ops : List IOKeys.Op), ∀ a ∈ (IOKeys.run {} ops).ios, a.group.isNone = IOKeys.isAbs a.path := by
  intro h
  have := h [.claim 0 "/t/a.csv", .move 0 "a.csv", .claim 0 "a.csv"] ⟨0, none, "a.csv"⟩ (by decide +kernel)
  revert this; decide +kernel

/-- non-vacuity: the three kinds of move the hypothesis admits (relative→absolute, absolute→absolute,
relative→relative), a refused move onto a key in use, creations on the destinations afterwards from the
same and from another model -/
def keyDemo : List IOKeys.Op :=
  [.claim 0 "a.csv", .claim 0 "sub/../b.xlsx", .move 0 "/t/M0/./c.csv", .claim 1 "/t/M0/c.csv",
   .claim 0 "a.csv", .move 1 "/t/M0/c.csv", .move 0 "/t/d.csv", .move 1 "x/b.xlsx", .claim 1 "b.xlsx", .drop 0]

example : IOKeys.NoAbsToRel {} keyDemo := by decide +kernel
example : (IOKeys.run {} keyDemo).ios.map (fun i => (i.id, i.group, i.path)) =
    [(2, some 0, "a.csv"), (1, some 0, "x/b.xlsx"), (3, some 1, "b.xlsx")] := by decide +kernel
example : ((IOKeys.stepR (IOKeys.run {} (keyDemo.take 3)) (.claim 1 "/t/M0/c.csv")).2,
    (IOKeys.stepR (IOKeys.run {} (keyDemo.take 5)) (.move 1 "/t/M0/c.csv")).2) =
    (.existing 0, .refused) := by decide +kernel

/-! ## The full statements fail: one witness per known finding -/

def s1 : Owner := ⟨0, 1⟩
def setup : List Op := [.newModel 0, .newSpace 0 1 "S"]

/-- C18-cells-name -/
def wCellsName : List Op :=
  setup ++ [.newCells s1 "c" true, .newPandas s1 "c" "a.csv" true none (.df 0)]
/-- C18-double-spec -/
def wDoubleSpec : List Op :=
  setup ++ [.newPandas s1 "x" "a.csv" true none (.df 0), .newPandas s1 "y" "b.csv" true none (.df 0)]
/-- C18-del-space -/
def wDelSpace : List Op :=
  setup ++ [.newPandas s1 "x" "a.csv" true none (.df 0), .del ⟨0, 0⟩ "S"]
/-- C18-update-onto-referenced -/
def wUpdateOnto : List Op :=
  setup ++ [.newPandas s1 "x" "a.csv" true none (.df 0), .bind s1 "y" (.df 1), .update 0 (.df 0) (.df 1)]

/-- `new_pandas` onto the name of a scalar cells: accepted, a spec is registered, no reference -/
theorem full_fails_cells_name : ¬ ∀ (kw : List String) (ops : List Op), IOInv (run kw {} ops) := by
  intro h
  have := (h [] wCellsName).bound
  revert this; decide +kernel

/-- `new_pandas` twice for one value: two specs for it, `iospecs` shows one -/
theorem full_fails_double_spec : ¬ ∀ (kw : List String) (ops : List Op), IOInv (run kw {} ops) := by
  intro h
  have := (h [] wDoubleSpec).oneSpecPerValue
  revert this; decide +kernel

/-- `del model.S` while `S.x` holds a value with a spec: the spec stays, bound to nothing -/
theorem full_fails_del_space : ¬ ∀ (kw : List String) (ops : List Op), IOInv (run kw {} ops) := by
  intro h
  have := (h [] wDelSpace).bound
  revert this; decide +kernel

/-- `update_pandas(old, new)` with `new` already referenced: its entry is overwritten, `S.y` is no
longer listed for the value it holds -/
theorem full_fails_update_onto_referenced :
    ¬ ∀ (kw : List String) (ops : List Op), IOInv (run kw {} ops) := by
  intro h
  have := (h [] wUpdateOnto).v2rExact 0 (.df 1) ⟨1, s1, "y", .df 1⟩
  revert this; decide +kernel

/-- after `new_pandas` twice for one value, `close` leaves a spec (and its io) of the model behind -/
theorem close_releases_fails_double_spec :
    ¬ ∀ (kw : List String) (ops : List Op) (m : Nat),
      ∀ σ ∈ (closeModel (run kw {} ops) m).1.specs, σ.group ≠ m := by
  intro h
  have := h [] wDoubleSpec 0
  revert this; decide +kernel

/-- fixed C18-closed-model-new-spec -/
def wClosedNew : List Op :=
  setup ++ [.close 0, .newPandas s1 "x" "a.csv" true none (.df 0), .close 0]
/-- fixed C18-path-alias -/
def wPathAlias : List Op :=
  setup ++ [.newPandas s1 "x" "a.csv" true none (.df 0), .newPandas s1 "y" "sub/../a.csv" true none (.df 1)]

/-- fixed C18-closed-model-new-spec: `new_pandas` through the handle of a space of a closed model
is refused, nothing is left -/
example : (match (stepR [] (run [] {} (wClosedNew.take 3)) (wClosedNew.getD 3 (.close 0))).2 with
    | .error .value => true
    | _ => false) = true ∧ (run [] {} wClosedNew).specs = [] := by decide +kernel

/-- fixed C18-path-alias: `sub/../a.csv` is the key `a.csv`, the second csv spec is refused -/
example : (match (stepR [] (run [] {} (wPathAlias.take 3)) (wPathAlias.getD 3 (.close 0))).2 with
    | .error .value => true
    | _ => false) = true ∧ (run [] {} wPathAlias).specs.map (·.path) = ["a.csv"] := by decide +kernel

/-! ## Non-vacuity -/

/-- a clean history with sharing across spaces and models, rebinding, deletion, both forms of
`update_pandas`, a rejected creation (location taken), a sheet change and `close` -/
def demo : List Op :=
  setup ++ [.newSpace 0 2 "T", .newModel 1, .newSpace 1 1 "S",
    .newPandas s1 "x" "b.xlsx" false (some "s1") (.df 0),
    .bind ⟨0, 2⟩ "y" (.df 0), .bind ⟨0, 0⟩ "z" (.df 0), .bind ⟨1, 1⟩ "x" (.df 0),
    .newPandas ⟨0, 2⟩ "w" "b.xlsx" false none (.df 1),           -- rejected: sheet-less next to s1
    .newPandas ⟨0, 2⟩ "w" "b.xlsx" false (some "s2") (.df 1),
    .bind s1 "x" (.df 1),                                        -- rebinding; df 0 still has y, z
    .del ⟨0, 2⟩ "y", .update 0 (.df 0) (.df 0), .update 0 (.df 0) (.df 2),
    .setSheet 0 (.df 2) (some "s3"),
    .del ⟨0, 0⟩ "z",                                             -- last reference: spec of df 2 goes
    .del ⟨0, 2⟩ "w", .close 1]

example : AllClean [] {} demo := by decide +kernel
example : ((run [] {} demo).specs.map (fun σ => (σ.val, σ.path, σ.sheet))) =
    [(.df 1, "b.xlsx", some "s2")] := by decide +kernel
example : IOInv (run [] {} demo) := spec_iff_referenced_partial [] demo (by decide +kernel)
example : Loc (run [] {} demo).specs := locations_distinct [] demo
/-- the rejected creation of `demo` is really rejected -/
example : (match (stepR [] (run [] {} (demo.take 9)) (demo.getD 9 (.close 0))).2 with
    | .error .value => true
    | _ => false) = true := by
  decide +kernel
/-- the last deletion of `z` really removes a spec, and no reference to its value is left -/
example : ((run [] {} (demo.take 16)).specs.length, (run [] {} (demo.take 17)).specs.length) = (2, 1) := by
  decide +kernel
example : (closeModel (run [] {} demo) 0).2 = .ok () := (close_releases_partial [] demo 0 (by decide +kernel)).1

/-- a clean history that goes on through the handles of a closed model (assignment, a second name,
`update_pandas`, deletion, a new space, closing again), uses three spellings of one path (the
second `new_pandas` is refused: `./b.xlsx` IS the key `b.xlsx`), and moves a file with the path
setter (refused onto a key in use, accepted onto a free one) -/
def demo2 : List Op :=
  setup ++ [.newModel 1, .newSpace 1 1 "S",
    .newPandas s1 "x" "b.xlsx" false none (.df 0),
    .newPandas s1 "y" "./b.xlsx" false none (.df 1),             -- rejected: same key, sheet-less
    .newPandas s1 "y" "sub/./c.csv" true none (.df 1),
    .setPath 0 (.df 1) "b.xlsx",                                  -- rejected: key in use
    .setPath 0 (.df 1) "sub//d.csv",
    .close 0, .bind s1 "z" (.df 0), .bind ⟨0, 0⟩ "w" (.df 0), .update 0 (.df 0) (.df 2),
    .del s1 "z", .newSpace 0 2 "T", .bind ⟨0, 2⟩ "x" (.df 3), .close 0,
    .newPandas ⟨1, 1⟩ "x" "b.xlsx" false none (.df 0)]

example : AllClean [] {} demo2 := by decide +kernel
example : ((run [] {} (demo2.take 9)).specs.map (fun σ => (σ.val, σ.path)),
    (run [] {} demo2).specs.map (fun σ => (σ.group, σ.val, σ.path)), (run [] {} demo2).closed) =
    ([(.df 0, "b.xlsx"), (.df 1, "sub/d.csv")], [(1, .df 0, "b.xlsx")], [0]) := by decide +kernel
example : ((run [] {} demo2).refs.filter (fun r => r.owner.model = 0)).map (fun r => (r.owner.space, r.name, r.val)) =
    [(1, "y", .df 1), (0, "w", .df 2), (1, "x", .df 2), (2, "x", .df 3)] := by decide +kernel
example : IOInv (run [] {} demo2) := spec_iff_referenced_partial [] demo2 (by decide +kernel)
example : ∀ σ ∈ (run [] {} demo2).specs, σ.group ∉ (run [] {} demo2).closed :=
  closed_models_hold_no_spec_partial [] demo2 (by decide +kernel)

/-! ## The repaired defects as positive examples -/

/-- fixed C18-rebind-same -/
def wRebindSame : List Op :=
  setup ++ [.newPandas s1 "x" "a.csv" true none (.df 0), .bind s1 "x" (.df 0),
            .bind s1 "y" (.df 1), .newPandas s1 "y" "b.csv" true none (.df 1)]
/-- fixed C18-sheet-setter -/
def wSheet : List Op :=
  setup ++ [.newPandas s1 "x" "b.xlsx" false (some "s1") (.df 0),
            .newPandas s1 "y" "b.xlsx" false (some "s2") (.df 1)]

/-- `S.x = df` while `S.x` is the only reference to `df` keeps the spec of `df` (the entry then
lists the new reference); so does `new_pandas` onto a name that already holds the object -/
example : AllClean [] {} wRebindSame := by decide +kernel
example : ((run [] {} (wRebindSame.take 3)).specs.map (·.sid), (run [] {} (wRebindSame.take 4)).specs.map (·.sid),
    (run [] {} wRebindSame).specs.map (fun σ => (σ.sid, σ.val))) = ([0], [0], [(0, .df 0), (1, .df 1)]) := by
  decide +kernel
example : (run [] {} (wRebindSame.take 4)).v2r.map (fun e => (e.1, e.2.map (·.rid))) = [((0, .df 0), [1])] := by
  decide +kernel
/-- the sheet setter refuses `None` next to another spec of the workbook, and a name in use -/
example : (match (stepR [] (run [] {} wSheet) (.setSheet 0 (.df 1) none)).2,
      (stepR [] (run [] {} wSheet) (.setSheet 0 (.df 1) (some "s1"))).2,
      (stepR [] (run [] {} wSheet) (.setSheet 0 (.df 1) (some "s3"))).2 with
    | .error .value, .error .value, .ok () => true
    | _, _, _ => false) = true := by decide +kernel
/-- alone in its workbook a spec may drop its sheet name -/
example : (match (stepR [] (run [] {} (wSheet.take 3)) (.setSheet 0 (.df 0) none)).2 with
    | .ok () => true
    | _ => false) = true := by decide +kernel

/-! ## Absolute paths: one file object per path for the whole session (`Kernels/IOSession.lean`)

The recorded finding C18-absolute-io-shared as the hypothesis it is: `IOSession.AbsPrivate st m m'` - no file object
of the session-wide group `None` serves both `m` and `m'`. -/

/-- **A spec survives what other models do** (here: their `close`) - `Model.iospecs` of `m'`, with the files' keys,
is unchanged.  Partial: `AbsPrivate` (C18-absolute-io-shared). -/
theorem spec_survives_other_close_partial (ops : List IOSession.Op) (m m' : Nat) (hne : m ≠ m')
    (hpriv : IOSession.AbsPrivate (IOSession.run {} ops) m m') :
    IOSession.specsOf (IOSession.closeModel (IOSession.run {} ops) m) m' = IOSession.specsOf (IOSession.run {} ops) m' :=
  (IOSession.closeModel_frame _ m m' hne (IOSession.reachable_inv ops).det hpriv).1

/-- the negation: one object referenced from two models, its file under an absolute path - `get_spec_from_value`
of the second model finds the first model's spec in group `None`, and closing the second deletes it -/
example : ¬ (∀ (ops : List IOSession.Op) (m m' : Nat), m ≠ m' →
    IOSession.specsOf (IOSession.closeModel (IOSession.run {} ops) m) m' = IOSession.specsOf (IOSession.run {} ops) m') := by
  intro h
  have := h [.newModel, .newModel, .newSpec 0 "S.a" ⟨true, "x/a.csv"⟩ false none 1, .bind 1 "S.a" 1] 1 0 (by decide)
  revert this
  decide +kernel

/-- two models with sheets in one external workbook ARE a state of the session (the second `new_pandas` is
accepted: one file object, two specs, two models) -/
example : IOSession.sharedPath.ios.length = 1 ∧
    (IOSession.specsOf IOSession.sharedPath 0).length = 1 ∧ (IOSession.specsOf IOSession.sharedPath 1).length = 1 := by
  decide +kernel

end MxModel.C18
