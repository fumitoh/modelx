import MxModel.Props.C08
import MxModel.Props.C01
import MxModel.Proofs.ExecFlagsRun
import MxModel.Props.C02
/-!
# C09 – the cached flag never changes any result

The specification `Den` mentions the cached flag in two places only: user-assigned values
(inputs) are consulted for cached cells only, and `None` is rejected for cached cells only.
`flags_irrelevant_to_values_partial`: two flag assignments give the same specification as soon as
(I) assigned values sit only on cells whose flag is the same in both (an uncached cells accepts no
assignment), and (II) no formula of a cells whose flag DIFFERS returns `None` where `None` is not
allowed – (II) excludes exactly the recorded finding C09-uncached-none-unchecked
(`flags_full_statement_fails`), nothing else; the default configuration `allow_none = False` is
covered.  `flags_irrelevant_when_none_never_returned`: the same with (II) stated on the all-cached
assignment alone ("no evaluation fails with `NoneReturnedError`").  With C01 (the mechanism returns
the specification's value under *every* flag assignment) every assignment gives the same results:
`mechanism_results_flag_independent_partial`; and after any history of evaluations and reference /
formula / flag edits (`results_flag_independent_after_history_partial`: both runs hold certificates
for their own definitions, C02, and the two specifications coincide).
-/
namespace MxModel.C09
open MxModel.Exec

theorem denoteBody_congr (env env' : Env) (f : Node → Res × Bool) (hr : env'.refs = env.refs)
    (ha : env'.alive = env.alive) :
    ∀ p : Prog, denoteBody env' f p = denoteBody env f p := by
  intro p
  induction p with
  | ret v => rfl
  | raise e => rfl
  | reraise e => rfl
  | read a r k ih => simp only [denoteBody, hr]; exact ih _
  | call n k ih => simp only [denoteBody, calleeAt, ha, ih]

/-- **Two flag assignments give the same values** (specification level; partial: (I) and (II)).
(I) `hinp`: an element with an assigned value belongs to a cells whose flag is the same in both
assignments.  (II) `hnone`: no formula of a cells whose flag differs returns `None` where `None` is
not allowed (stated for the first assignment; by the theorem itself it is then true of the second). -/
theorem flags_irrelevant_to_values_partial (env : Env) (c1 c2 : CellId → Bool) (inp : Node → Option Val)
    (hinp : ∀ n, inp n ≠ none → c1 n.1 = c2 n.1)
    (hnone : ∀ d n, c1 n.1 ≠ c2 n.1 → env.allowNone n.1 = false →
      (denoteBody (withFlags env c1) (denoteN (withFlags env c1) inp d) (env.formula n)).1 ≠ .ok .none) :
    ∀ (d : Nat) (n : Node), denoteN (withFlags env c1) inp d n = denoteN (withFlags env c2) inp d n := by
  intro d
  induction d with
  | zero => intro n; rfl
  | succ d ih =>
    intro n
    have hf : denoteN (withFlags env c1) inp d = denoteN (withFlags env c2) inp d := funext ih
    have hb := hnone d n
    simp only [denoteN]
    rw [← hf, denoteBody_congr (withFlags env c1) (withFlags env c2) _ rfl rfl]
    have h1 : (if (withFlags env c1).cached n.1 = true then inp n else none) =
        (if (withFlags env c2).cached n.1 = true then inp n else none) := by
      show (if c1 n.1 = true then inp n else none) = (if c2 n.1 = true then inp n else none)
      cases hi : inp n with
      | none => split <;> split <;> rfl
      | some v => rw [hinp n (by rw [hi]; exact fun h => by cases h)]
    rw [h1]
    have hck : checkNone (withFlags env c1) n.1
          (denoteBody (withFlags env c1) (denoteN (withFlags env c1) inp d) ((withFlags env c1).formula n)).1 =
        checkNone (withFlags env c2) n.1
          (denoteBody (withFlags env c1) (denoteN (withFlags env c1) inp d) ((withFlags env c1).formula n)).1 := by
      generalize hB : (denoteBody (withFlags env c1) (denoteN (withFlags env c1) inp d)
        ((withFlags env c1).formula n)).1 = B
      have hb' : c1 n.1 ≠ c2 n.1 → env.allowNone n.1 = false → B ≠ .ok .none := by
        intro h1 h2; rw [← hB]; exact hb h1 h2
      unfold checkNone
      cases B with
      | err e => rfl
      | ok v =>
        cases v with
        | int i => rfl
        | none =>
          show (if (c1 n.1 && !env.allowNone n.1) = true then _ else _) =
            (if (c2 n.1 && !env.allowNone n.1) = true then _ else _)
          by_cases hc : c1 n.1 = c2 n.1
          · rw [hc]
          · cases ha : env.allowNone n.1 with
            | true => simp
            | false => exact absurd rfl (hb' hc ha)
    rw [hck]
    rfl

/-- no evaluation under the ALL-CACHED assignment fails with `NoneReturnedError`: no formula returns
`None` where it is not allowed (and none raises that error by hand) -/
def NoneNeverReturned (env : Env) (inp : Node → Option Val) : Prop :=
  ∀ d n, (denoteN (withFlags env (fun _ => true)) inp d n).1 ≠ .err .noneRet

/-- **Any flag assignment gives the values of the all-cached assignment** when no evaluation of the
all-cached model ends in `NoneReturnedError` and the assigned values sit on cached cells (partial:
these two; `allow_none` may be `False` everywhere – the default). -/
theorem flags_irrelevant_when_none_never_returned (env : Env) (c : CellId → Bool) (inp : Node → Option Val)
    (hinp : ∀ n, inp n ≠ none → c n.1 = true) (hnone : NoneNeverReturned env inp) :
    ∀ (d : Nat) (n : Node),
      denoteN (withFlags env c) inp d n = denoteN (withFlags env (fun _ => true)) inp d n := by
  intro d n
  refine (flags_irrelevant_to_values_partial env (fun _ => true) c inp (fun n h => (hinp n h).symm) ?_ d n).symm
  -- a cells whose flag differs is uncached under `c`, so it holds no assigned value; were its formula to
  -- return `None` unallowed, the all-cached model would fail with `NoneReturnedError`
  intro d n hne hal hbody
  have hi : inp n = none := by
    cases h : inp n with
    | none => rfl
    | some v => exact absurd (hinp n (by rw [h]; exact fun h' => nomatch h')).symm hne
  apply hnone (d + 1) n
  rw [denoteN]
  show (match (if true = true then inp n else none) with
    | some v => (Res.ok v, false)
    | none => _).1 = _
  rw [if_pos rfl, hi]
  show checkNone _ n.1 (denoteBody _ _ (env.formula n)).1 = _
  rw [hbody]
  show (if (true && !env.allowNone n.1) = true then Res.err Err.noneRet else _) = _
  rw [hal]; rfl

/-- …hence any TWO assignments under which the assigned values sit on cached cells agree. -/
theorem flags_irrelevant_between_assignments (env : Env) (c1 c2 : CellId → Bool) (inp : Node → Option Val)
    (hinp1 : ∀ n, inp n ≠ none → c1 n.1 = true) (hinp2 : ∀ n, inp n ≠ none → c2 n.1 = true)
    (hnone : NoneNeverReturned env inp) (d : Nat) (n : Node) :
    denoteN (withFlags env c1) inp d n = denoteN (withFlags env c2) inp d n := by
  rw [flags_irrelevant_when_none_never_returned env c1 inp hinp1 hnone,
    flags_irrelevant_when_none_never_returned env c2 inp hinp2 hnone]

/-- **Switching any subset of cells between cached and uncached changes no value**
(specification level; no inputs, `None` allowed) – corollary of `flags_irrelevant_to_values_partial`. -/
theorem flags_irrelevant_to_values (env : Env) (c : CellId → Bool)
    (hnone : ∀ x, env.allowNone x = true) :
    ∀ (d : Nat) (n : Node),
      denoteN (withFlags env c) (fun _ => none) d n = denoteN env (fun _ => none) d n := by
  intro d n
  exact flags_irrelevant_to_values_partial env c env.cached (fun _ => none) (fun n h => absurd rfl h)
    (fun d n _ ha => by rw [hnone] at ha; cases ha) d n

/-- … hence the mechanism returns the same value under any two flag assignments (each equals the
specification's value, C01; partial: (I), (II) as above and `LimitNotCaughtInThisCall` for the two
evaluations). -/
theorem mechanism_results_flag_independent_partial (env : Env) (c1 c2 : CellId → Bool)
    (inp : Node → Option Val)
    (hinp : ∀ n, inp n ≠ none → c1 n.1 = c2 n.1)
    (hnone : ∀ d n, c1 n.1 ≠ c2 n.1 → env.allowNone n.1 = false →
      (denoteBody (withFlags env c1) (denoteN (withFlags env c1) inp d) (env.formula n)).1 ≠ .ok .none)
    (n : Node) (s s' : St) (v v' : Val)
    (hg : Good (withFlags env c1) inp s) (hg' : Good (withFlags env c2) inp s')
    (he : LimitNotCaughtInThisCall (withFlags env c1) n s)
    (he' : LimitNotCaughtInThisCall (withFlags env c2) n s')
    (hv : (evalTop (withFlags env c1) n s).1 = .ok v)
    (hv' : (evalTop (withFlags env c2) n s').1 = .ok v') : v = v' := by
  have a := (C01.eval_value_is_denotation_partial _ _ n s hg he).1 v hv
  have b := (C01.eval_value_is_denotation_partial _ _ n s' hg' he').1 v' hv'
  obtain ⟨d, hd⟩ := b
  rw [← flags_irrelevant_to_values_partial env c1 c2 inp hinp hnone d n] at hd
  have := Den_det _ _ n _ _ a ⟨d, hd⟩
  cases this; rfl

/-- the instance with `None` allowed everywhere and no inputs -/
theorem mechanism_results_flag_independent (env : Env) (c : CellId → Bool)
    (hnone : ∀ x, env.allowNone x = true) (n : Node) (s s' : St) (v v' : Val)
    (hg : Good env (fun _ => none) s) (hg' : Good (withFlags env c) (fun _ => none) s')
    (he : LimitNotCaughtInThisCall env n s) (he' : LimitNotCaughtInThisCall (withFlags env c) n s')
    (hv : (evalTop env n s).1 = .ok v) (hv' : (evalTop (withFlags env c) n s').1 = .ok v') : v = v' :=
  mechanism_results_flag_independent_partial env env.cached c (fun _ => none) (fun n h => absurd rfl h)
    (fun d n _ ha => by rw [hnone] at ha; cases ha) n s s' v v' hg hg' he he' hv hv'

/-! ### "now or after any further edits": the same history under two initial flag assignments -/

/-- **Two runs of one history that differ only in the initial assignment of the cached flag return
the same values** (partial: regime `C02.WF` – terminating, `NoCatch`, statically scoped –;
`NoneNeverReturned` for the definitions reached; the history makes no assignment – an uncached cells
accepts none, so an assignment to a cells whose flag differs is not the same operation in the two
runs).  `ops` is any admissible history of the thirteen-operation language: evaluations (returned,
failed, stopped by the limit), clears, reference edits, formula edits, FLAG edits at any point, cells
deleted and created, limit changes.  Both runs hold certificates for their own definitions (C02), so
both answers are the specification's (C01, no hypothesis about the limit), the two sets of
definitions differ in the flags only, and the two specifications coincide
(`flags_irrelevant_between_assignments`). -/
theorem results_flag_independent_after_history_partial (lt : Node → Node → Prop) (ho : StrictOrder lt)
    (env0 : Env) (c : CellId → Bool) (hw0 : C02.WF env0 lt) (ops : List C02.Op)
    (hadm : C02.Admissible lt (env0, {}) ops) (hna : ∀ op ∈ ops, C02.isAssign op = false)
    (hnone : NoneNeverReturned (C02.run (env0, {}) ops).1 (fun _ => none)) (n : Node) (v v' : Val)
    (hv : (evalTop (C02.run (env0, {}) ops).1 n (C02.run (env0, {}) ops).2).1 = .ok v)
    (hv' : (evalTop (C02.run (withFlags env0 c, {}) ops).1 n (C02.run (withFlags env0 c, {}) ops).2).1 = .ok v') :
    v = v' := by
  have hr0 : RgNoInputs ({} : St) := fun e he => by simp at he
  have hadm' : C02.Admissible lt (withFlags env0 c, {}) ops := C02.admissible_flags lt ops env0 c {} {} hadm
  have hw0' : C02.WF (withFlags env0 c) lt := C02.wf_withFlags hw0 c
  -- both runs hold certificates for their own definitions; neither has inputs
  obtain ⟨c1, w1⟩ := C02.run_ci lt ho ops (env0, {}) hw0 (CI.empty env0 lt) hadm
  obtain ⟨c2, w2⟩ := C02.run_ci lt ho ops (withFlags env0 c, {}) hw0' (CI.empty _ lt) hadm'
  have i1 : inpOf (C02.run (env0, {}) ops).2 = fun _ => none := by
    rw [C02.run_inp ho ops (env0, {}) hw0 (CI.empty env0 lt) hr0 hadm]
    exact C02.inpRun_none ops hna env0
  have i2 : inpOf (C02.run (withFlags env0 c, {}) ops).2 = fun _ => none := by
    rw [C02.run_inp ho ops (withFlags env0 c, {}) hw0' (CI.empty _ lt) hr0 hadm']
    exact C02.inpRun_none ops hna _
  have a := (C01.eval_value_is_denotation_nocatch_partial _ _ w1.noCatch n _ c1.good).1 v hv
  have b := (C01.eval_value_is_denotation_nocatch_partial _ _ w2.noCatch n _ c2.good).1 v' hv'
  rw [i1] at a; rw [i2] at b
  -- the definitions reached differ in the flags only
  have henv : (C02.run (withFlags env0 c, {}) ops).1 =
      withFlags (C02.run (env0, {}) ops).1 (C02.run (withFlags env0 c, {}) ops).1.cached := by
    rw [C02.run_env, C02.run_env]
    exact (C02.foldl_envStep_flags ops env0 c).symm
  obtain ⟨d, hd⟩ := b
  rw [henv, flags_irrelevant_between_assignments (C02.run (env0, {}) ops).1 _ (C02.run (env0, {}) ops).1.cached
    (fun _ => none) (fun n h => absurd rfl h) (fun n h => absurd rfl h) hnone d n] at hd
  have := Den_det _ _ n _ _ a ⟨d, hd⟩
  cases this; rfl

/-- **Uncached cells hold no values** (every reachable state of terminating programs). -/
theorem uncached_holds_nothing (env : Env) (lt : Node → Node → Prop) (ho : StrictOrder lt)
    (hr : Ranked env lt) (ops : List C08.Op) (m : Node) (hc : env.cached m.1 = false) :
    lookup (C08.run env {} ops).data m = none :=
  C08.uncached_holds_nothing env lt ho hr ops m hc

/-- …**in every state reachable by the full edit language** (`C02.Op`: also reference, formula and
flag edits – "flag changes at any point of a history" –, cells deleted and created): a cells that is
uncached NOW holds nothing, and the graph has an object node only for such a cells. -/
theorem uncached_holds_nothing_full (lt : Node → Node → Prop) (ho : StrictOrder lt) (env0 : Env)
    (hw0 : C02.WF env0 lt) (ops : List C02.Op) (hadm : C02.Admissible lt (env0, {}) ops) (m : Node)
    (hc : (C02.run (env0, {}) ops).1.cached m.1 = false) :
    lookup (C02.run (env0, {}) ops).2.data m = none ∧
    (∀ c, GNode.obj c ∈ (C02.run (env0, {}) ops).2.gn → (C02.run (env0, {}) ops).1.cached c = false) :=
  ⟨C08.uncached_holds_nothing_full lt ho env0 hw0 ops hadm m hc,
   fun c h => (C08.object_nodes_only_for_uncached_full lt ho env0 hw0 ops hadm c h).1⟩

/-- **…and are re-executed on every call**: a call of an uncached cells always reaches the
formula evaluator, whatever the cache holds; its arguments are never looked up.  (`keepExc`: when
the call returns, the caller's exception identity is what it was – bookkeeping of C17 that no value,
graph or cache field depends on.  `ha`: the cells exists – the name of a deleted cells is not
bound, the call fails in the caller.) -/
theorem uncached_always_executes (env : Env) (ef : Node → St → Res × St) (n : Node) (s : St)
    (ha : env.alive n.1 = true) (hc : env.cached n.1 = false) :
    evalNode env ef n s = keepExc s (ef n s) ∧ (evalNode env ef n s).1 = (ef n s).1 ∧
    (evalNode env ef n s).2.data = (ef n s).2.data ∧ (evalNode env ef n s).2.log = (ef n s).2.log := by
  have : evalNode env ef n s = keepExc s (ef n s) := by unfold evalNode; simp [ha, hc]
  rw [this]
  exact ⟨rfl, keepExc_fst s _, (keepExc_excOnly s _).data, (keepExc_excOnly s _).log⟩

/-! ### The hypothesis `None is allowed everywhere` is needed: a known finding

`CellsImpl.on_eval_formula` checks the `None` rule only when it stores a value, i.e. for cached
cells; an uncached cells hands `None` to its caller unchecked.  So the flag DOES change a result
when a cells returns `None` where `None` is not allowed (known finding
C09-uncached-none-unchecked): cells 0 returns `None`, cells 1 returns `c0() ` or, when that fails
with `NoneReturnedError`, 7.  With cells 0 cached the answer is 7, with cells 0 uncached it is
`None` … and then cells 1 itself fails the rule. -/

def nCells : CellId → Option Expr
  | 0 => some .none
  | 1 => some (.try_ (.call 0 []) .noneRet (.lit 7))
  | _ => none

def nEnv : Env where
  formula := fun n => match nCells n.1 with
    | some e => formulaOf (fun c => (nCells c).map (fun _ => 0)) e n.2
    | none => .raise (.user kName)
  cached := fun _ => true
  allowNone := fun _ => false
  refs := fun _ => .none
  maxdepth := 10

/-- **The full statement is false of the code**: with `None` not allowed, switching cells 0 to
uncached changes what cells 1 returns – in the mechanism and in the specification alike. -/
theorem flags_full_statement_fails :
    ¬ ∀ (env : Env) (c : CellId → Bool) (n : Node),
        (evalTop (withFlags env c) n {}).1 = (evalTop env n {}).1 := by
  intro h
  have := h nEnv (fun x => x != 0) (1, [])
  revert this
  decide +kernel

example : (evalTop nEnv (1, []) {}).1 = .ok (.int 7) := by decide +kernel
example : (evalTop (withFlags nEnv (fun x => x != 0)) (1, []) {}).1 =
    .formulaError .noneRet [(1, [])] := by decide +kernel

/-! Non-vacuity: the program of C08 with `None` allowed, evaluated under two assignments. -/
example : (evalTop { C08.gEnv with allowNone := fun _ => true } (3, []) {}).1 =
    (evalTop (withFlags { C08.gEnv with allowNone := fun _ => true } (fun _ => true)) (3, []) {}).1 := by decide +kernel

/-! Non-vacuity for the DEFAULT configuration (`allow_none = False` everywhere, which
`flags_irrelevant_to_values` does not cover): `c0() = 3`, `c1() = c0() + 1`, an assigned value on the cached `c2`.
No evaluation ends in `NoneReturnedError`; the assignment that makes `c0` uncached gives the same
specification, and the mechanism the same answers. -/
def qK : Res → Prog
  | .ok (.int i) => .ret (.int (i + 1))
  | .ok .none => .ret (.int 0)
  | .err e => .reraise e

def qEnv : Env where
  formula := fun n => if n.1 = 0 then .ret (.int 3) else .call (0, []) qK
  cached := fun _ => true
  allowNone := fun _ => false
  refs := fun _ => none
  maxdepth := 10

def qInp : Node → Option Val := fun n => if n = (2, []) then some (.int 50) else none

theorem qEnv_none_never_returned (c0 : CellId → Bool) (inp : Node → Option Val) :
    NoneNeverReturned (withFlags qEnv c0) inp := by
  intro d
  induction d with
  | zero => intro n h; cases h
  | succ d ih =>
    intro n
    simp only [denoteN]
    split
    · intro h; cases h
    · by_cases hn : n.1 = 0
      · have : (withFlags (withFlags qEnv c0) (fun _ => true)).formula n = .ret (.int 3) := by
          simp [withFlags, qEnv, hn]
        rw [this]; intro h; cases h
      · have : (withFlags (withFlags qEnv c0) (fun _ => true)).formula n = .call (0, []) qK := by
          simp [withFlags, qEnv, hn]
        rw [this]
        have hcal : calleeAt (withFlags (withFlags qEnv c0) (fun _ => true))
            (denoteN (withFlags (withFlags qEnv c0) (fun _ => true)) inp d) (0, []) =
            denoteN (withFlags (withFlags qEnv c0) (fun _ => true)) inp d (0, []) := rfl
        simp only [denoteBody, hcal]
        have := ih (0, [])
        generalize (denoteN (withFlags (withFlags qEnv c0) (fun _ => true)) inp d (0, [])).1 = r at this
        match r, this with
        | .ok (.int i), _ => intro h; cases h
        | .ok .none, _ => intro h; cases h
        | .err e, hne =>
          intro h
          simp only [qK, denoteBody, checkNone] at h
          exact hne h

theorem qEnv_wf (c0 : CellId → Bool) : C02.WF (withFlags qEnv c0) idLt := by
  refine ⟨?_, ?_, ?_⟩
  · intro n
    show CallsBelow idLt n (if n.1 = 0 then .ret (.int 3) else .call (0, []) qK)
    split
    · trivial
    · rename_i hn
      exact ⟨Nat.pos_of_ne_zero hn, fun r => by
        match r with
        | .ok (.int i) => trivial
        | .ok .none => trivial
        | .err e => trivial⟩
  · intro n
    show NoCatch (if n.1 = 0 then .ret (.int 3) else .call (0, []) qK)
    split
    · trivial
    · exact ⟨fun e => trivial, fun r => by
        match r with
        | .ok (.int i) => trivial
        | .ok .none => trivial
        | .err e => trivial⟩
  · intro n
    show NameReadsIn _ (if n.1 = 0 then .ret (.int 3) else .call (0, []) qK)
    split
    · trivial
    · exact fun r => by
        match r with
        | .ok (.int i) => trivial
        | .ok .none => trivial
        | .err e => trivial

example (d : Nat) (n : Node) :
    denoteN (withFlags qEnv (fun c => c != 0)) qInp d n = denoteN (withFlags qEnv (fun _ => true)) qInp d n :=
  flags_irrelevant_when_none_never_returned qEnv _ qInp
    (by intro n h; by_cases hn : n = (2, []) <;> simp_all [qInp]) (qEnv_none_never_returned qEnv.cached qInp) d n

example : (evalTop (withFlags qEnv (fun c => c != 0)) (1, []) {}).1 = .ok (.int 4) ∧
    (evalTop (withFlags qEnv (fun _ => true)) (1, []) {}).1 = .ok (.int 4) := by decide +kernel

/-! …and over a history with a flag edit in the middle: `c1()` is evaluated, `c0` is switched to
uncached, `c1()` again – started with all cells cached, and started with `c1` uncached. -/
def qOps : List C02.Op := [.eval (1, []), .setCached 0 false, .eval (1, [])]

theorem qOps_admissible : C02.Admissible idLt (qEnv, {}) qOps :=
  ⟨qEnv_wf qEnv.cached, qEnv_wf _, qEnv_wf _, trivial⟩

example (n : Node) (v v' : Val)
    (hv : (evalTop (C02.run (qEnv, {}) qOps).1 n (C02.run (qEnv, {}) qOps).2).1 = .ok v)
    (hv' : (evalTop (C02.run (withFlags qEnv (fun x => x != 1), {}) qOps).1 n
      (C02.run (withFlags qEnv (fun x => x != 1), {}) qOps).2).1 = .ok v') : v = v' :=
  results_flag_independent_after_history_partial idLt idLt_strict qEnv _ (qEnv_wf qEnv.cached) qOps
    qOps_admissible (by intro op h; simp [qOps] at h; rcases h with rfl | rfl | rfl <;> rfl)
    (qEnv_none_never_returned _ _) n v v' hv hv'

example : (evalTop (C02.run (qEnv, {}) qOps).1 (1, []) (C02.run (qEnv, {}) qOps).2).1 = .ok (.int 4) ∧
    (evalTop (C02.run (withFlags qEnv (fun x => x != 1), {}) qOps).1 (1, [])
      (C02.run (withFlags qEnv (fun x => x != 1), {}) qOps).2).1 = .ok (.int 4) ∧
    (C02.run (qEnv, {}) qOps).2.gn = [.obj 0, .elem (1, [])] ∧
    (C02.run (withFlags qEnv (fun x => x != 1), {}) qOps).2.gn = [] := by decide +kernel


/-! ## The flag as part of a definition: structural histories

In the combined machine (`Edit/Machine.lean`) the cache flag belongs to the definition a member entry
carries (`Params.flagOf payload`; a derived cells takes the flag of its definer: `CellsImpl.on_inherit`
copies `is_cached`), and `cells.is_cached = b` is `set_cells_property`: the cells AND its derived copies in
the sub spaces are cleared as objects.  `C02.machine_keeps_ci` therefore covers flag edits in base
spaces: invalidation still reaches every held value computed through a cells that was or becomes
uncached, in the sub spaces too.  What does not lift: the two-run statement
`results_flag_independent_after_history_partial` (it needs the two-run induction over structural
histories). -/
section combined

/-- **uncached cells hold nothing** in every state of the combined machine with the invariant -/
theorem uncached_members_hold_nothing (P : Edit.Params) (lt : Node → Node → Prop) (w : Edit.W)
    (h : Edit.CIW P lt w) (c : CellId) (hc : (w.env P).cached c = false) (key : Key) :
    lookup w.ex.data (c, key) = none := by
  cases hl : lookup w.ex.data (c, key) with
  | none => rfl
  | some v =>
    have := (h.ci.gi.heldNodes (c, key) (by rw [hl]; rfl)).2
    rw [hc] at this; cases this

/-- **a flag edit in a base keeps the invariant** (it is `set_cells_property`: instance of
`C02.machine_keeps_ci`) – for the cells and for its derived copies in every sub space -/
theorem flag_edit_in_base_keeps_invariant (P : Edit.Params) (lt : Node → Node → Prop) (ho : StrictOrder lt)
    (w : Edit.W) (p : SM.Path) (name : String) (v : Nat) (hw : C02.WF (w.env P) lt) (h : Edit.CIW P lt w) :
    Edit.CIW P lt (Edit.step P w (.struct (.setFormula p name v))) :=
  C02.machine_keeps_ci P lt ho w _ hw h

/-- the example of C02 with payload 2 standing for the UNCACHED definition `y * 3` -/
def fP : Edit.Params := { Edit.eP with flagOf := fun v => v != 2 }

def fOps : List Edit.Op := [
  .struct (.newSpace [] "Base" [] []), .struct (.newCells ["Base"] "f" "f" 0), .struct (.setRef ["Base"] "y" 1),
  .struct (.newSpace [] "Sub" [["Base"]] []), .eval ["Sub"] "f" [],
  .struct (.setFormula ["Base"] "f" 2), .eval ["Sub"] "f" [],
  .struct (.setFormula ["Base"] "f" 1), .eval ["Sub"] "f" []]

/-! `Sub.f()` is 2 and held; `Base.f` becomes the uncached `y * 3`: the derived `Sub.f` is cleared and
uncached too – `Sub.f()` is 3 and NOTHING is held; `Base.f` becomes cached again: `Sub.f()` is 3 and
held.  The history is admissible and ends in a state with the invariant. -/
example : (Edit.run fP {} (fOps.take 5)).ex.data = [((1, []), .int 2)] ∧
    (Edit.run fP {} (fOps.take 6)).ex.data = [] ∧
    Edit.answer fP (Edit.run fP {} (fOps.take 6)) ["Sub"] "f" [] = some (.ok (.int 3)) ∧
    (Edit.run fP {} (fOps.take 7)).ex.data = [] ∧
    (fP.flagOf 2 = false) ∧
    (Edit.run fP {} fOps).ex.data = [((1, []), .int 3)] := by
  decide +kernel

theorem fOps_admissible : Edit.Admissible fP idLt {} fOps :=
  Edit.admissible_of_sources fP idLt Edit.eP_noCatch Edit.eP_scoped Edit.eP_noCalls fOps {} Edit.allocOK_empty rfl

example : Edit.CIW fP idLt (Edit.run fP {} fOps) :=
  (C02.machine_reachable_ci fP idLt idLt_strict fOps fOps_admissible).1

example (key : Key) : lookup (Edit.run fP {} (fOps.take 7)).ex.data (1, key) = none :=
  uncached_members_hold_nothing fP idLt _
    (C02.machine_reachable_ci fP idLt idLt_strict (fOps.take 7)
      (Edit.admissible_of_sources fP idLt Edit.eP_noCatch Edit.eP_scoped Edit.eP_noCalls _ {} Edit.allocOK_empty rfl)).1
    1 (by decide +kernel) key

end combined

end MxModel.C09
