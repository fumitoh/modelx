import MxModel.Proofs.RegistryExact
import MxModel.Proofs.IOSessionLoad
/-!
# C19 – Model registry: unique names, no model dropped

Property theorems only (helper lemmas are in `Proofs/Registry.lean`, `Proofs/RegistryExact.lean` and, for the
second part, `Proofs/IOSession*.lean`).  The model is `Kernels/Registry.lean`, and `Kernels/IOSession.lean` for the
file objects the models of a session share; `kw` is Python's keyword table (regenerated from the running
interpreter, but the theorems hold for every table).
-/
namespace MxModel.C19
open MxModel.Registry MxModel.Names

/-- Every operation – `new_model` (named or auto-named), `read_model` (succeeding or failing
after the parse-time rename), `rename` with and without `rename_old`, `close`, on any
model identity, with any name, valid or not, accepted or rejected – preserves:
each key maps to the model whose own name is that key; keys are unique; every model is
registered once. -/
theorem registry_inv_step (kw : List String) (r : Reg) (op : Op) (h : RegInv r) :
    RegInv (step kw r op) :=
  step_inv kw h op

/-- …hence after every finite operation sequence from the empty session. -/
theorem registry_inv_run (kw : List String) (ops : List Op) : RegInv (run kw {} ops) :=
  run_inv kw ops regInv_empty

/-- **After every history** the registry maps each name to the model that carries that name, names
are unique, and no model is registered under two names. -/
theorem registry_maps_names (kw : List String) (ops : List Op) :
    (∀ k m, lookupName (run kw {} ops).models k = some m → m.name = k) ∧
    (keys (run kw {} ops)).Nodup ∧ (ids (run kw {} ops).models).Nodup :=
  ⟨fun _ _ hk => (registry_inv_run kw ops).nameKey _ (lookupName_some hk),
   (registry_inv_run kw ops).keysNodup, (registry_inv_run kw ops).idsNodup⟩

/-- **One operation, exactly** (`never_dropped` and its converse).  After any operation a model is
registered iff it was registered before and the operation is not its own `close`, or it is the
model the operation handed to the caller (`new_model` that was accepted, `read_model` that
succeeded).  So nothing but its own `close` drops a model – not a creation, a read (also one that
fails and closes the model it had created) or a rename under a name in use – and nothing is
registered that was not handed out. -/
theorem registered_step_iff (kw : List String) (r : Reg) (h : RegInv r) (op : Op) (j : Nat) :
    j ∈ ids (step kw r op).models ↔
      (j ∈ ids r.models ∧ closes op j = false) ∨ handed kw r op = some j :=
  step_ids_iff kw h op j

/-- **Every history**: the registered models are exactly the models the caller was handed and has
not closed since (`openHandles` is computed from what the caller sees alone: the identities
returned by `new_model`/`read_model` and its own `close` calls). -/
theorem registered_iff_open_handle (kw : List String) (ops : List Op) (j : Nat) :
    j ∈ ids (run kw {} ops).models ↔ j ∈ openHandles kw {} ops [] :=
  run_ids_iff kw ops {} [] regInv_empty (fun _ => Iff.rfl) j

/-- No operation other than its own `close` drops a model: creating, reading (also a read
that fails and closes the model it created) or renaming under a name already in use keeps
every open model registered. -/
theorem never_dropped (kw : List String) (r : Reg) (h : RegInv r) (op : Op) (i : Nat)
    (hop : ∀ j, op = .close j → j ≠ i) (hi : i ∈ ids r.models) :
    i ∈ ids (step kw r op).models := by
  refine (step_ids_iff kw h op i).mpr (Or.inl ⟨hi, ?_⟩)
  cases op with
  | close j => exact beq_eq_false_iff_ne.2 (hop j rfl)
  | _ => rfl

/-- closing removes exactly that model -/
theorem close_removes_exactly (kw : List String) (r : Reg) (h : RegInv r) (i j : Nat) :
    j ∈ ids (step kw r (.close i)).models ↔ j ∈ ids r.models ∧ j ≠ i :=
  close_ids h i j

/-- a name that is in use is never overwritten: the model created under it is a new
identity and the previous holder is still registered (under a backup name) -/
theorem new_model_keeps_old (kw : List String) (r : Reg) (h : RegInv r) (n : String) (m : Model)
    (hk : lookupName r.models n = some m) :
    m.id ∈ ids (step kw r (.new (some n))).models :=
  never_dropped kw r h _ _ (by intro j hj; cases hj) (by
    simp only [ids, List.mem_map]; exact ⟨(n, m), lookupName_some hk, rfl⟩)

/-- "… it is renamed with a backup suffix": after `new_model(n)` for a name `n` in use, the previous
holder is registered under `n_BAK<k>` for some number `k`, and that is its own name now (by
`registry_inv_step` this is its only registration) -/
theorem displaced_model_gets_backup_name (kw : List String) (r : Reg) (n : String) (m : Model)
    (hk : lookupName r.models n = some m) :
    ∃ k : Nat, (n ++ "_BAK" ++ toString k, { id := m.id, name := n ++ "_BAK" ++ toString k }) ∈
      (step kw r (.new (some n))).models :=
  newModel_displaced kw r n m hk

/-! Non-vacuity: a concrete non-trivial session (collision with an already-suffixed name: the first
displaced `A` becomes `A_BAK2`) meets the invariant; the backup counter is session-wide (`A_BAK3`, `A_BAK4`). -/
def demoOps : List Op :=
  [.new (some "A"), .new (some "A_BAK1"), .new (some "A"), .rename 1 "A" true, .read "A" true,
   .close 0, .new none]

example : (keys (run [] {} demoOps)) = ["A_BAK3", "A_BAK4", "Model2"] := by
  decide +kernel

example : RegInv (run [] {} demoOps) := registry_inv_run [] demoOps

/-- the hypothesis of `displaced_model_gets_backup_name` is met after `new_model("A")`; the backup
name is `A_BAK1` -/
example : lookupName (run [] {} [.new (some "A")]).models "A" = some ⟨0, "A"⟩ ∧
    (run [] {} [.new (some "A"), .new (some "A")]).models = [("A_BAK1", ⟨0, "A_BAK1"⟩), ("A", ⟨1, "A"⟩)] := by
  decide +kernel

/-- the caller's side of `demoOps`: handed 0 1 2, (3 by the failing read: not handed), closed 0,
handed 4 -/
example : openHandles [] {} demoOps [] = [1, 2, 4] ∧ ids (run [] {} demoOps).models = [2, 1, 4] := by
  decide +kernel
/-- a `close` BEFORE the identity exists does not count, closing twice neither -/
example : openHandles [] {} [.close 0, .new (some "A"), .close 1, .new none, .close 1] [] = [0] ∧
    ids (run [] {} [.close 0, .new (some "A"), .close 1, .new none, .close 1]).models = [0] := by
  decide +kernel

/-! ## Isolation of the models in the session-wide IOManager (`Kernels/IOSession.lean`)

Several models share ONE `IOManager`; files under an absolute path are filed under the session-wide group `None`.
The statements are about EVERY state the session reaches (`run {} ops`, any operation list): the invariant
`IOSession.Inv` is proved for the empty session and preserved by every operation (`Proofs/IOSessionInv.lean`, `Proofs/IOSessionLoad.lean`). -/

/-- **Closing a model leaves the others alone** (relative AND absolute paths): for every other model `m'`,
`Model.iospecs` (with the keys of the files), every file object of its group, every session-wide file object it
uses (identity, key, all specs) and every reference are what they were.
Partial: `AbsPrivate st m m'` - no session-wide file object serves both models (the recorded finding
C18-absolute-io-shared: files under an absolute path are shared by the models of a session). -/
theorem close_leaves_other_models_specs_partial (ops : List IOSession.Op) (m m' : Nat) (hne : m ≠ m')
    (hpriv : IOSession.AbsPrivate (IOSession.run {} ops) m m') :
    let st := IOSession.run {} ops
    IOSession.specsOf (IOSession.closeModel st m) m' = IOSession.specsOf st m' ∧
    (IOSession.closeModel st m).ios.filter (IOSession.inGroup (some m')) =
      st.ios.filter (IOSession.inGroup (some m')) ∧
    (∀ io ∈ st.ios, io.group = none → (∃ s ∈ io.specs, IOSession.boundIn st.refs m' s.val = true) →
      io ∈ (IOSession.closeModel st m).ios) ∧
    (IOSession.closeModel st m).refs = st.refs :=
  IOSession.closeModel_frame _ m m' hne (IOSession.reachable_inv ops).det hpriv

/-- the session invariant (`IOSession.Inv`: identities handed out by counters, one identity - one value - one
group, no file object without a spec, references of created models only, group `None` = absolute path) holds after
every history: `Inv {}` and `Inv st → Inv (step st op)` for every operation, by induction over the operation list -/
theorem session_inv_reachable (ops : List IOSession.Op) : IOSession.Inv (IOSession.run {} ops) :=
  IOSession.reachable_inv ops

example : IOSession.SidDet IOSession.demo ∧ IOSession.AbsPrivate IOSession.demo 1 0 ∧
    IOSession.specsOf IOSession.demo 0 ≠ [] := by decide +kernel

/-- the hypothesis is needed, twice: one external workbook with a sheet of each model - closing one model changes
the file object the other one writes; one object referenced from two models - closing the one that merely
references it deletes the other's spec -/
example : ¬ IOSession.AbsPrivate IOSession.sharedPath 1 0 ∧
    ¬ (∀ io ∈ IOSession.sharedPath.ios, io.group = none →
        (∃ s ∈ io.specs, IOSession.boundIn IOSession.sharedPath.refs 0 s.val = true) →
        io ∈ (IOSession.closeModel IOSession.sharedPath 1).ios) := by decide +kernel
example : ¬ IOSession.AbsPrivate IOSession.sharedValue 1 0 ∧
    IOSession.specsOf IOSession.sharedValue 0 ≠ [] ∧
    IOSession.specsOf (IOSession.closeModel IOSession.sharedValue 1) 0 = [] := by decide +kernel

/-- **C19-mutG is not the code**: `del_all_spec` over `get_ios(model)` and `get_ios(None)` deletes the external
spec of the OTHER model -/
example : IOSession.specsOf (IOSession.closeModelMutG IOSession.demo 1) 0 ≠ IOSession.specsOf IOSession.demo 0 ∧
    IOSession.specsOf (IOSession.closeModel IOSession.demo 1) 0 = IOSession.specsOf IOSession.demo 0 := by
  decide +kernel

/-- **Closing a model releases what is its own**: no file object of its group remains, and no spec of a
session-wide file is referenced by it any more.
Partial: one spec per value in the model's view (`new_pandas` twice for one object leaves a second spec: trigger
of C18), every spec filed under the model is referenced by it. -/
theorem close_releases_own_partial (ops : List IOSession.Op) (m : Nat)
    (hopen : (IOSession.run {} ops).opened.contains m = true)
    (hone : IOSession.OneSpecPerValue (IOSession.run {} ops) m)
    (href : IOSession.GroupReferenced (IOSession.run {} ops) m) :
    let st := IOSession.run {} ops
    ∀ io ∈ (IOSession.closeModel st m).ios, io.group ≠ some m ∧
      (io.group = none → ∀ s ∈ io.specs, IOSession.boundIn (IOSession.closeModel st m).refs m s.val = false) :=
  IOSession.closeModel_releases _ m hopen hone href (IOSession.reachable_inv ops).nonempty

example : IOSession.demo.opened.contains 1 = true ∧ IOSession.OneSpecPerValue IOSession.demo 1 ∧
    IOSession.GroupReferenced IOSession.demo 1 ∧ IOSession.NoEmptyIo IOSession.demo ∧
    (IOSession.closeModel IOSession.demo 1).ios.length = 2 := by decide +kernel

/-- without "one spec per value" the second spec of the object stays behind under the closed model -/
example :
    let st := IOSession.run {} [.newModel, .newSpec 0 "S.a" ⟨false, "a.csv"⟩ false none 1,
      .newSpec 0 "S.b" ⟨false, "b.csv"⟩ false none 1]
    ¬ IOSession.OneSpecPerValue st 0 ∧ (IOSession.closeModel st 0).ios.any (fun io => io.group == some 0) = true := by
  decide +kernel

/-- the same for a whole session: when no session-wide file object serves two models (`AbsPrivateAll`, a decidable
predicate on the state reached), closing ANY model leaves `iospecs` of EVERY other model as they were -/
theorem close_leaves_other_models_specs_private_session (ops : List IOSession.Op)
    (hall : IOSession.AbsPrivateAll (IOSession.run {} ops)) (m m' : Nat) (hne : m ≠ m') :
    IOSession.specsOf (IOSession.closeModel (IOSession.run {} ops) m) m' =
      IOSession.specsOf (IOSession.run {} ops) m' :=
  (IOSession.closeModel_frame _ m m' hne (IOSession.reachable_inv ops).det
    (IOSession.absPrivate_of_all (IOSession.reachable_inv ops) hall m m' hne)).1

example : IOSession.AbsPrivateAll IOSession.demo ∧ ¬ IOSession.AbsPrivateAll IOSession.sharedValue ∧
    ¬ IOSession.AbsPrivateAll IOSession.sharedPath := by decide +kernel

end MxModel.C19
