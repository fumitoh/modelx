import MxModel.Proofs.ItemSpaceBind
import MxModel.Proofs.ItemSpaceGet
import MxModel.Proofs.ItemSpaceTotal
import MxModel.Proofs.ItemSpaceValues
import MxModel.Proofs.StructMechFrame
import MxModel.Generated.Tables
/-!
# C07 – ItemSpaces are parametrised, isolated, identity-stable instances of their base

Property theorems only (lemmas: `Proofs/ItemSpace*.lean`, for 3b also `Proofs/StructMechFrame.lean`; model:
`Kernels/ItemSpace.lean`).  Parts:

1. `bindArgs` (`node.py` `_bind_args`): every spelling that binds at all binds to the key of the
   fully positional spelling; what binds and to what is exactly Python's rule; everything else
   is rejected.
2. the table of live dynamic spaces under every history of accesses, deletions and edits
   (`World`, `step`, `run`): equal keys give the same instance, different keys give instances
   that share no identity (so an assignment in one changes no value of another), and an
   interface obtained earlier is dead or denotes the live instance of the same address.
3. what edits of the definitions leave behind: after ANY edit of a static space (a cells
   created, redefined, renamed or deleted; a child space created or deleted; a reference
   created, changed or deleted; the parameter formula set or deleted; a model-level reference)
   and after the deletion of a space, no dynamic space built from the edited (deleted) space is
   left, wherever it hangs (`instance_fresh`, `deleted_base_leaves_no_instance`).  This was FALSE
   of the code before the repair 482219e (fixed finding C07-dynbase-edit-not-propagated; its
   witnesses stay in `corpus/C07/` and run first).
   Over HISTORIES (3b): with a clock that ticks once per operation, every live dynamic space was built
   after the last operation that touched its base - also when the edit reached the base through
   inheritance (`instances_always_fresh`, `instances_always_fresh_inherited`,
   `access_after_edit_builds_new`); and values (3c): one store keyed by the owner of the cells, an
   assignment through one address is invisible through every other one, a new instance holds no value,
   no value survives an edit of the definitions it was computed from (`assignment_isolated_in_world`,
   `new_instance_holds_no_value`, `no_value_survives_an_edit`).
4. the reference chain of a dynamic space in the order `space.py` lists it
   (`Generated.mxDynRefsOrder`, re-read from the source on every run).
5. names inside an instance (namespace order).
-/
namespace MxModel.C07
open MxModel.ItemSpace

/-! ## 1. Binding -/

/-- **Every spelling that binds at all binds to the same key as the fully positional
spelling with all parameters given.**  (Positional, keyword in any order, mixed, defaults
omitted: whatever the spelling, its key, written out positionally, binds to itself.) -/
theorem bind_canonical (sig : Sig) (args : List Val) (kw : KwArgs) (key : Key)
    (h : bindArgs sig args kw = some key) : bindArgs sig key [] = some key ∧ key.length = sig.length := by
  have hv := bindArgs_bindVals h
  exact ⟨bindArgs_eq_some_iff.mpr ⟨List.nodup_nil, fun _ hk => absurd hk List.not_mem_nil, bindVals_canonical hv⟩,
    bindVals_length hv⟩

/-- **What binds, and to what, is exactly Python's rule** (`Signature.bind` + `apply_defaults`
for positional-or-keyword parameters): the spelling is accepted iff no keyword is repeated,
there are not more positional arguments than parameters, every keyword names a parameter not
already given positionally, and every parameter without default is given; the key then lists,
parameter by parameter, the positional argument, else the keyword argument, else the default. -/
theorem bind_iff (sig : Sig) (hwf : (names sig).Nodup) (args : List Val) (kw : KwArgs) (key : Key) :
    bindArgs sig args kw = some key ↔ Accepts sig args kw ∧ key = specKey sig args kw :=
  bindArgs_iff_accepts sig hwf args kw key

/-- the order of the keywords is irrelevant -/
theorem bind_keyword_order (sig : Sig) (args : List Val) (kw kw' : KwArgs) (hp : kw.Perm kw') :
    bindArgs sig args kw = bindArgs sig args kw' :=
  bindArgs_perm sig args hp

/-- too many positional arguments are rejected -/
theorem bind_rejects_too_many (sig : Sig) (hwf : (names sig).Nodup) (args : List Val) (kw : KwArgs)
    (h : sig.length < args.length) : bindArgs sig args kw = none := by
  cases hb : bindArgs sig args kw with
  | none => rfl
  | some key =>
    have := ((bind_iff sig hwf args kw key).mp hb).1.2.1
    omega

/-- a keyword that names no parameter is rejected -/
theorem bind_rejects_unknown_keyword (sig : Sig) (hwf : (names sig).Nodup) (args : List Val) (kw : KwArgs)
    (k : String) (hk : k ∈ kwKeys kw) (hn : k ∉ names sig) : bindArgs sig args kw = none := by
  cases hb : bindArgs sig args kw with
  | none => rfl
  | some key =>
    have := ((bind_iff sig hwf args kw key).mp hb).1.2.2.1 k hk
    simp only [names, List.mem_map] at this hn
    obtain ⟨p, hp, hpn⟩ := this
    exact absurd ⟨p, List.mem_of_mem_drop hp, hpn⟩ hn

/-- a parameter given positionally and by keyword is rejected -/
theorem bind_rejects_duplicate (sig : Sig) (hwf : (names sig).Nodup) (args : List Val) (kw : KwArgs)
    (p : Param) (hp : p ∈ sig.take args.length) (hk : p.name ∈ kwKeys kw) : bindArgs sig args kw = none := by
  cases hb : bindArgs sig args kw with
  | none => rfl
  | some key =>
    exfalso
    have hd := ((bind_iff sig hwf args kw key).mp hb).1.2.2.1 p.name hk
    rw [names_take_drop sig args.length] at hwf
    exact (List.nodup_append.mp hwf).2.2 p.name (List.mem_map.mpr ⟨p, hp, rfl⟩) p.name hd rfl

/-- a parameter without default that is not given is rejected -/
theorem bind_rejects_missing (sig : Sig) (hwf : (names sig).Nodup) (args : List Val) (kw : KwArgs)
    (p : Param) (hp : p ∈ sig.drop args.length) (hd : p.dflt = none) (hk : p.name ∉ kwKeys kw) :
    bindArgs sig args kw = none := by
  cases hb : bindArgs sig args kw with
  | none => rfl
  | some key => exact absurd (((bind_iff sig hwf args kw key).mp hb).1.2.2.2 p hp hd) hk

/-! ## 2. Instance identity -/

/-- the table of every history from the empty session meets the invariant -/
theorem reachable_inv (ops : List Op) : Inv (run {} ops).tbl :=
  (evolves_steps.run ops {}).inv inv_empty

/-- **Arguments that bind equally give the same instance.**  After `S(spelling₁)` returned an
instance, any spelling that binds to the same key (under the signature the node carries)
returns that very instance – same implementation, same interface – and creates nothing. -/
theorem equal_keys_same_instance (defs : Defs) (t t1 : Table) (p : Addr) (a1 a2 : List Val) (k1 k2 : KwArgs)
    (e : Entry) (nd : Node) (sig : Sig) (hn : nodeAt defs t p = some nd) (hs : nd.sig = some sig)
    (h1 : getItem defs t p a1 k1 = (t1, .ok e)) (hk : bindArgs sig a1 k1 = bindArgs sig a2 k2) :
    getItem defs t1 p a2 k2 = (t1, .ok e) := by
  obtain ⟨key, l, hb, hf, hl⟩ := getItem_ok_sig hn hs h1
  exact getItem_hit (nodeAt_append hl hn) hs (hk ▸ hb) hf

/-- **A miss creates**: in every world reached from the empty one by any history, `get_itemspace` with a
spelling that binds, on a live node whose parameter formula names an existing base, at a key that is not
live, returns a NEW instance at that key built from that base, and appends exactly that ItemSpace and one
replica per static space below the base.  (The two totalisation branches of the model - `addEntry` doing
nothing on an address that is live already, `getItem` answering `.noNode` after a creation - never fire:
`ItemSpace.getItem_noNode_iff` holds in every table, `ItemSpace.createItem_all_added` in every closed one.) -/
theorem miss_creates_instance (ops : List Op) (parent : Addr) (args : List Val) (kw : KwArgs)
    (nd : Node) (sig : Sig) (key : Key) (base : SDef)
    (hn : nodeAt (run {} ops).defs (run {} ops).tbl parent = some nd) (hs : nd.sig = some sig)
    (hb : bindArgs sig args kw = some key)
    (hmiss : findLive (run {} ops).tbl ⟨parent.root, parent.dkey ++ [.key key]⟩ = none)
    (hbase : baseOf (run {} ops).defs nd = some base) :
    ∃ e t', getItem (run {} ops).defs (run {} ops).tbl parent args kw = (t', .ok e) ∧
      e.addr = ⟨parent.root, parent.dkey ++ [.key key]⟩ ∧ e.base = base.id ∧
      t'.live.length = (run {} ops).tbl.live.length + 1 + (descendants (run {} ops).defs base.path).length :=
  reachable_creation_total ops parent args kw nd sig key base hn hs hb hmiss hbase

/-- non-vacuity: `S(i)` with a child `S.X`, from the empty world; `S[1]` misses and creates `S[1]`, `S[1].X` -/
example : ∃ e t', getItem (run {} [.newSpace ["S"] (some [⟨"i", none⟩]) none, .newSpace ["S", "X"] none none]).defs
      (run {} [.newSpace ["S"] (some [⟨"i", none⟩]) none, .newSpace ["S", "X"] none none]).tbl ⟨0, []⟩ [1] [] = (t', .ok e) ∧
      e.addr = ⟨0, [.key [1]]⟩ ∧ e.base = 0 ∧ t'.live.length = 0 + 1 + 1 :=
  miss_creates_instance [.newSpace ["S"] (some [⟨"i", none⟩]) none, .newSpace ["S", "X"] none none] ⟨0, []⟩ [1] []
    ⟨some [⟨"i", none⟩], none, 0⟩ [⟨"i", none⟩] [1] ⟨0, ["S"], some [⟨"i", none⟩], none⟩ rfl rfl rfl rfl rfl

/-- `get_itemspace` answers "no such node" only when the parent node does not exist (every table) -/
theorem no_node_only_without_parent (defs : Defs) (t : Table) (parent : Addr) (args : List Val) (kw : KwArgs) :
    (∃ t', getItem defs t parent args kw = (t', .noNode)) ↔ nodeAt defs t parent = none :=
  getItem_noNode_iff defs t parent args kw

/-- **Different arguments give different instances that share nothing**: two live dynamic
spaces with different addresses (different keys of one parent, different parents, different
child names) have different implementations – hence disjoint cells – and different interfaces. -/
theorem different_keys_different_instances (t : Table) (h : Inv t) (e1 e2 : Entry) (h1 : e1 ∈ t.live)
    (h2 : e2 ∈ t.live) (hne : e1.addr ≠ e2.addr) : e1.impl ≠ e2.impl ∧ e1.handle ≠ e2.handle := by
  refine ⟨fun hc => hne (congrArg _ (inv_impl_inj h h1 h2 hc)), fun hc => ?_⟩
  have c1 := h.cached e1 h1
  have c2 := h.cached e2 h2
  rw [hc] at c1
  exact hne (cache_handle_inj h c1 c2)

/-- two accesses from one parent whose spellings bind to different keys return different
instances (both alive afterwards) -/
theorem different_spellings_different_instances (defs : Defs) (t t1 t2 : Table) (hinv : Inv t) (p : Addr)
    (a1 a2 : List Val) (k1 k2 : KwArgs) (e1 e2 : Entry) (nd : Node) (sig : Sig)
    (hn : nodeAt defs t p = some nd) (hs : nd.sig = some sig)
    (h1 : getItem defs t p a1 k1 = (t1, .ok e1)) (h2 : getItem defs t1 p a2 k2 = (t2, .ok e2))
    (hk : bindArgs sig a1 k1 ≠ bindArgs sig a2 k2) : e1.impl ≠ e2.impl ∧ e1.handle ≠ e2.handle := by
  obtain ⟨key1, l1, hb1, hf1, hl1⟩ := getItem_ok_sig hn hs h1
  obtain ⟨key2, l2, hb2, hf2, hl2⟩ := getItem_ok_sig (nodeAt_append hl1 hn) hs h2
  have i1 : Inv t1 := by have := (evolves_steps.getItem defs t p a1 k1).inv hinv; rwa [h1] at this
  have i2 : Inv t2 := by have := (evolves_steps.getItem defs t1 p a2 k2).inv i1; rwa [h2] at this
  have m1 := findLive_some (findLive_append hl2 hf1)
  have m2 := findLive_some hf2
  refine different_keys_different_instances t2 i2 e1 e2 m1.1 m2.1 fun hc => hk ?_
  rw [m1.2, m2.2] at hc
  rw [hb1, hb2, Seg.key.inj (List.cons.inj (List.append_cancel_left (Addr.mk.inj hc).2)).1]

/-- **An assignment in one instance changes no value of another**: the values of the cells of
an instance are stored under the identity of its implementation. -/
theorem assignment_isolated (s : Store) (c c' : CellsId) (k k' : Key) (v : Val) (hne : c'.1 ≠ c.1) :
    (s.set c k v).get c' k' = s.get c' k' := by
  have hc : ¬ c = c' := fun h => hne (by rw [h])
  simp [Store.set, Store.get, hc]

/-- **A handle obtained earlier is dead or denotes the re-created instance – never a third
thing.**  Once an interface `h` has been handed out for the address `a` (it is then in the
`dynamic_cache`), after ANY further history – accesses with any spellings, `clear_at`, `del`,
`clear_items`, `clear_all`, edits of every kind, deletion of spaces – it is still the cached
interface of `a`, and a live dynamic space whose interface is `h` lives at `a`. -/
theorem old_handle (w : World) (hinv : Inv w.tbl) (a : Addr) (h : Nat) (hc : (a, h) ∈ w.tbl.cache)
    (ops : List Op) :
    (a, h) ∈ (run w ops).tbl.cache ∧ ∀ e ∈ (run w ops).tbl.live, e.handle = h → e.addr = a := by
  have ev := evolves_steps.run ops w
  have hi := ev.inv hinv
  refine ⟨ev.cache _ hc, fun e he heh => ?_⟩
  have c1 := hi.cached e he
  rw [heh] at c1
  exact cache_handle_inj hi c1 (ev.cache _ hc)

/-- the interface returned by an access is recorded for its address (so `old_handle` applies to it) -/
theorem handle_is_cached (t : Table) (hinv : Inv t) (e : Entry) (he : e ∈ t.live) : (e.addr, e.handle) ∈ t.cache :=
  hinv.cached e he

/-! ## 3. Freshness after edits -/

/-- **No stale instance after any edit of the base**: whatever the edit of the static space
`b` – `new_cells`, a formula change, a cells rename, a cells deleted, a child space created or
deleted, a reference created/changed/deleted, the parameter formula set or deleted, a
model-level reference – no dynamic space built from `b` is left, wherever it hangs (own
ItemSpaces, replicated children of other ItemSpaces, instances of another parent that chose
this base).  The next access therefore builds a new instance from the edited definitions. -/
theorem instance_fresh (t : Table) (k : EditKind) (b : SId) :
    ∀ e ∈ (applyEdit t k b).live, e.base ≠ b :=
  applyEdit_no_copy t k b

/-- **Deleting a space leaves no instance of it or of a space below it**, wherever it hangs. -/
theorem deleted_base_leaves_no_instance (defs : Defs) (t : Table) (d : SDef) :
    ∀ e ∈ (delSpace defs t d).2.live, ∀ x ∈ defs, d.path.isPrefixOf x.path = true → e.base ≠ x.id :=
  delSpace_no_copy defs t d

/-- every edit and every deletion only removes dynamic spaces (nothing is re-created behind
the user's back; handles stay cached: `old_handle`) -/
theorem edit_only_removes (t : Table) (k : EditKind) (b : SId) :
    ∀ e ∈ (applyEdit t k b).live, e ∈ t.live :=
  deletes_sub.applyEdit t k b

/-! ## 3b. Freshness over histories, through inheritance

`runH` (Kernels/ItemSpace.lean, 3c) runs the world and stamps, with a clock that ticks once per operation,
every static space with the last operation that TOUCHED it (`touched`: the edited space; the parent of a
created / deleted child space; every space of a deleted tree; every space for a model-level reference)
and every implementation object with the operation that created it.  The stamps are ghost state
(`stamped_run_is_the_run`).  An edit that reaches sub spaces through inheritance is the user-level
operation `UOp.editInh`: the edit of the space followed by an edit of each sub space it reaches - what
`SpaceManager`'s walks over `_get_subs` and `UserSpaceImpl.on_inherit` do (each sub space whose members
change gets its own `clear_subs_rootitems()` / `on_namespace_change()`); which sub spaces those are is
the structural mechanism's business (`inherited_edit_reaches_only_sub_spaces`). -/

/-- the stamps are read by no operation: the stamped run is the run, the clock counts the operations -/
theorem stamped_run_is_the_run (ops : List Op) :
    (runH {} ops).w = run {} ops ∧ (runH {} ops).clock = ops.length := by
  refine ⟨runH_world ops {}, ?_⟩
  rw [runH_clock]; show 0 + ops.length = _; omega

/-- the stamp of a touched space is the stamp of the operation … -/
theorem stamp_of_edit (h : Hist) (op : Op) (s : SId) (hs : s ∈ touched h.w op) :
    (h.step op).editedAt s = (h.step op).clock := by
  show (if s ∈ touched h.w op then h.clock + 1 else h.editedAt s) = h.clock + 1
  simp [hs]

/-- … and so is the stamp of every dynamic space the operation created -/
theorem stamp_of_build (h : Hist) (op : Op) (hinv : Inv h.w.tbl) (e : Entry)
    (he : e ∈ (step h.w op).1.tbl.live) (hnew : e ∉ h.w.tbl.live) :
    (h.step op).builtAt e.impl = (h.step op).clock := by
  show (if h.w.tbl.nextImpl ≤ e.impl ∧ e.impl < (step h.w op).1.tbl.nextImpl then h.clock + 1 else h.builtAt e.impl)
    = h.clock + 1
  have h1 : h.w.tbl.nextImpl ≤ e.impl := by
    rcases (evolves_steps.step h.w op).live e he with ho | hn
    · exact absurd ho hnew
    · exact hn
  have h2 := ((evolves_steps.step h.w op).inv hinv).implLt e he
  simp [h1, h2]

/-- **Every live instance was built after the last edit that affects its base** - after EVERY history of
accesses (with any spellings, nested, through replicated children), deletions of instances
(`clear_at`, `del`, `clear_items`, `clear_all`), edits of every kind of every static space, creation and
deletion of spaces: for every live dynamic space, the operation that created its implementation is LATER
than the last operation that touched the static space it is a copy of. -/
theorem instances_always_fresh (ops : List Op) :
    ∀ e ∈ (runH {} ops).w.tbl.live, (runH {} ops).editedAt e.base < (runH {} ops).builtAt e.impl :=
  (fresh_runH ops {} fresh_empty).fresh

/-- the same for histories with edits that reach sub spaces through inheritance: an inherited edit stamps
the edited space and every sub space it reaches -/
theorem instances_always_fresh_inherited (us : List UOp) :
    ∀ e ∈ (runU {} us).w.tbl.live, (runU {} us).editedAt e.base < (runU {} us).builtAt e.impl :=
  instances_always_fresh _

/-- **An inherited edit leaves no instance of the edited space nor of any sub space it reaches**, wherever
the instance hangs -/
theorem inherited_edit_leaves_no_instance (w : World) (k : EditKind) (path : ItemSpace.Path)
    (reach : List (EditKind × ItemSpace.Path)) :
    ∀ e ∈ (run w (UOp.expand (.editInh k path reach))).tbl.live,
      ∀ q ∈ path :: reach.map (·.2), ∀ d, findDef w.defs q = some d → e.base ≠ d.id := by
  intro e he q hq d hd
  have := run_edits_no_copy ((k, path) :: reach) w e (by simpa [UOp.expand] using he)
  rcases List.mem_cons.mp hq with rfl | hq
  · exact this (k, q) (by simp) d hd
  · obtain ⟨r, hr, rfl⟩ := List.mem_map.mp hq
    exact this r (List.mem_cons_of_mem _ hr) d hd

/-- **Which sub spaces an edit reaches** (the structural mechanism model, `Struct/Mech.lean`, C03): when
`new_cells`, a formula change, or the deletion of a cells or reference of the space `p` is accepted, a
space whose member table differs afterwards (a member appeared, disappeared, or carries another
definition) is `p` itself or a sub space of `p` (`p` is in its linearisation).  So the spaces an inherited
edit has to reach are found along the inheritance relation, nowhere else; the member tables of all other
spaces - what their instances were built from - are what they were. -/
theorem inherited_edit_reaches_only_sub_spaces (kw : List String) (st st' : SM.St) (p : SM.Path) (name : String)
    (v : Nat) (a : SM.Attr)
    (hop : st.newCells kw p name v = some st' ∨ st.setFormula p name v = some st' ∨ st.delMember a p name = some st')
    (q : SM.Path) (b : SM.Attr) (n : String) (hne : st'.mem b q n ≠ st.mem b q n) :
    q = p ∨ q ∈ st.subs p := by
  have hf : SM.Frame st st' p := by
    rcases hop with h | h | h
    · exact SM.newCells_frame kw st st' p name v h
    · exact SM.setFormula_frame st st' p name v h
    · exact SM.delMember_frame st st' a p name h
  have := hf.changed_mem b q n hne
  simpa [SM.St.touched] using this

/-- **The next access after an edit builds a new instance.**  If an operation touches the static space `b`,
then - whatever happens afterwards - every dynamic space built from `b` that is ever live again has an
implementation object that did not exist when the edit happened (its number had not been handed out).
The INTERFACE may be the old one: modelx re-attaches the cached interface of the address to the new
implementation (`old_handle`), that is the documented behaviour of handles. -/
theorem access_after_edit_builds_new (ops1 : List Op) (op : Op) (ops2 : List Op) (b : SId)
    (hb : b ∈ touched (run {} ops1) op) :
    ∀ e ∈ (run {} (ops1 ++ op :: ops2)).tbl.live, e.base = b → (run {} ops1).tbl.nextImpl ≤ e.impl := by
  intro e he heb
  have hr : run {} (ops1 ++ op :: ops2) = run (step (run {} ops1) op).1 ops2 := by
    simp [run, List.foldl_append]
  rw [hr] at he
  exact built_after_touch hb (evolves_steps.run ops2 _) e he heb

/-- … while accesses with no operation in between return the same instance, whatever the spellings
(`equal_keys_same_instance`), and any history keeps the instances it does not delete: an operation that
touches no static space and deletes nothing (an access) leaves every live instance live -/
theorem access_keeps_instances (w : World) (root : ItemSpace.Path) (chain : List ChainSeg) :
    ∀ e ∈ w.tbl.live, e ∈ (step w (.item root chain)).1.tbl.live := by
  intro e he
  obtain ⟨l, hl⟩ := creates_append.stepItem w root chain
  rw [hl]
  exact List.mem_append_left l he

/-! ## 3c. Values: isolation and freshness as theorems about the world

`VWorld` (Kernels/ItemSpace.lean, 4b): the world plus ONE store of values, each owned by the cells object
it was assigned to / computed in - a cells of a static space, or of the implementation of a dynamic space.
That a value hangs on the cells object (`CellsImpl.data`) and that the cells objects of a dynamic space
are created with it is the modelling assumption (read off the code, sampled by the isolation oracle);
that distinct addresses have distinct objects, and that the objects of re-created instances are new, are
theorems about the table. -/

/-- **An assignment (or a cached result) in one instance is visible nowhere else**: after every history, a
value stored through the access chain that leads to the address `p` leaves what is read at every other
address - another instance of the same space, an instance of another space, a replicated child space, the
static space itself - exactly what the store held before. -/
theorem assignment_isolated_in_world (ops : List VOp) (root : ItemSpace.Path) (chain : List ChainSeg)
    (c : String) (k : Key) (v : Val) (p : Addr)
    (hp : (VWorld.run {} ops).target root chain = some p) (a' : Addr) (hne : a' ≠ p) (c' : String) (k' : Key) :
    ((VWorld.run {} ops).step (.assign root chain c k v)).valueAt a' c' k' =
      match ownerAt ((VWorld.run {} ops).step (.assign root chain c k v)).w a' with
      | some o' => (VWorld.run {} ops).store.get o' c' k'
      | none => none :=
  assign_isolated (vinv_run ops {} vinv_empty) hp c k v hne c' k'

/-- in particular the static space does not see what is assigned in its instances -/
theorem static_space_unaffected_by_instance_values (ops : List VOp) (root : ItemSpace.Path) (chain : List ChainSeg)
    (c : String) (k : Key) (v : Val) (p : Addr)
    (hp : (VWorld.run {} ops).target root chain = some p) (hdyn : p.dkey ≠ []) (s : SId) (c' : String) (k' : Key) :
    ((VWorld.run {} ops).step (.assign root chain c k v)).valueAt ⟨s, []⟩ c' k' =
      match ownerAt ((VWorld.run {} ops).step (.assign root chain c k v)).w ⟨s, []⟩ with
      | some o' => (VWorld.run {} ops).store.get o' c' k'
      | none => none :=
  assignment_isolated_in_world ops root chain c k v p hp ⟨s, []⟩ (fun e => hdyn (by rw [← e])) c' k'

/-- **A newly built instance holds no value**: whatever the history, a dynamic space that an operation
creates (it is live afterwards and was not before) owns none of the values the store holds - it does not
inherit the values of an earlier instance of the same address, of its base, or of anything else. -/
theorem new_instance_holds_no_value (ops : List VOp) (op : VOp) (e : Entry)
    (he : e ∈ ((VWorld.run {} ops).step op).w.tbl.live) (hnew : e ∉ (VWorld.run {} ops).w.tbl.live)
    (c : String) (k : Key) : (VWorld.run {} ops).store.get (.dyn e.impl) c k = none :=
  new_entry_holds_no_value (vinv_run ops {} vinv_empty) op he hnew c k

/-- **No value survives an edit of the definitions it was computed from**: when an operation touches the
static space `b` - directly, or as a sub space reached by an inherited edit (each reached sub space is
touched by its own `Op.edit`) - then none of the values that exist at that moment is ever served by a
dynamic space built from `b`, at any later time: every such dynamic space is a new object
(`access_after_edit_builds_new`) and starts empty. -/
theorem no_value_survives_an_edit (ops1 : List VOp) (o : Op) (ops2 : List VOp) (b : SId)
    (hb : b ∈ touched (VWorld.run {} ops1).w o) :
    ∀ e ∈ (VWorld.run {} (ops1 ++ .op o :: ops2)).w.tbl.live, e.base = b →
      ∀ c k, (VWorld.run {} ops1).store.get (.dyn e.impl) c k = none := by
  intro e he heb c k
  have hv := vinv_run ops1 {} vinv_empty
  have hr : VWorld.run {} (ops1 ++ .op o :: ops2) = ((VWorld.run {} ops1).step (.op o)).run ops2 := by
    simp [VWorld.run, List.foldl_append]
  rw [hr] at he
  exact store_none_of_new hv e.impl
    (built_after_touch hb (evolves_steps.vrun ops2 ((VWorld.run {} ops1).step (.op o))) e he heb) c k

/-- a small world for the witnesses: static `S` (id 0, parameter `i`) with a child space `S.X` (id 1) -/
def demoDefs : Defs := [⟨0, ["S"], some [⟨"i", none⟩], none⟩, ⟨1, ["S", "X"], none, none⟩]

/-- `S[1]` (with its replicated child `S[1].X`) and `S[2]` -/
def demoWorld : World :=
  run { defs := demoDefs, nextStatic := 2 }
    [.item ["S"] [.call [1] []], .item ["S"] [.call [] [("i", 2)]]]

/-- the witness of the finding C07-dynbase-edit-not-propagated (repaired by 482219e):
deleting a cells of `S.X` (an edit that reaches `S.X` only through its namespace) removes
`S[1]` and `S[2]`, in which the copies of `S.X` live -/
theorem fixed_witness_del_cells : (applyEdit demoWorld.tbl .delCells 1).live = [] := by decide +kernel

/-! ## 4. The reference chain -/

/-- the chain of a dynamic space, in the order read from `space.py` -/
def chain (argmaps : List RefMap) (own sys dynbase global : RefMap) : List RefMap :=
  refChain MxModel.Generated.mxDynRefsOrder MxModel.Generated.mxAllargsOrder argmaps own sys dynbase global

/-- with the order `_init_allargs` has now, the argument maps are searched innermost first -/
theorem allargs_order (argmaps : List RefMap) : allargs MxModel.Generated.mxAllargsOrder argmaps = argmaps := by
  induction argmaps with
  | nil => rfl
  | cons a rest ih =>
    unfold MxModel.Generated.mxAllargsOrder at ih ⊢
    simp [allargs, ih]

/-- with the order `space.py` has now, the chain is: arguments (innermost ItemSpace first), own
references (those the parameter formula returned), `_self/_space/_model`, the base's
references, the model's -/
theorem chain_order (argmaps : List RefMap) (own sys dynbase global : RefMap) :
    chain argmaps own sys dynbase global = argmaps ++ [own, sys, dynbase, global] := by
  simp [chain, refChain, MxModel.Generated.mxDynRefsOrder, chainMaps, allargs_order]

/-- **The innermost ItemSpace's argument wins** over an argument of the same name of an
enclosing ItemSpace, and over every reference of that name. -/
theorem innermost_argument_wins (inner : RefMap) (outer : List RefMap) (own sys dynbase global : RefMap)
    (x : String) (v : Val) (h : inner.find x = some v) :
    chainFind (chain (inner :: outer) own sys dynbase global) x = some v := by
  rw [chain_order]
  simp [chainFind, h]

/-- **A parameter shadows a base reference (and a model-level one) of the same name.** -/
theorem parameter_shadows_base_reference (argmaps : List RefMap) (own sys dynbase global : RefMap)
    (x : String) (v : Val) (h : chainFind argmaps x = some v) :
    chainFind (chain argmaps own sys dynbase global) x = some v := by
  rw [chain_order]
  exact chainFind_append_some h

/-- a reference returned by the parameter formula shadows the base's and the model's -/
theorem formula_reference_shadows_base_reference (argmaps : List RefMap) (own sys dynbase global : RefMap)
    (x : String) (v : Val) (ha : chainFind argmaps x = none) (h : own.find x = some v) :
    chainFind (chain argmaps own sys dynbase global) x = some v := by
  rw [chain_order, chainFind_append_none ha]
  simp [chainFind, h]

/-- the base's reference is what an instance sees when neither an argument nor the formula
nor the system names shadow it; it shadows the model's -/
theorem base_reference_shadows_model (argmaps : List RefMap) (own sys dynbase global : RefMap)
    (x : String) (v : Val) (ha : chainFind argmaps x = none) (ho : own.find x = none)
    (hs : sys.find x = none) (h : dynbase.find x = some v) :
    chainFind (chain argmaps own sys dynbase global) x = some v := by
  rw [chain_order, chainFind_append_none ha]
  simp [chainFind, ho, hs, h]

/-! ## 5. Names inside an instance -/

/-- **Calls to sibling cells stay inside the instance**: in the namespace order `space.py` has
now (cells, then references, then child spaces) a name that is a cells of the dynamic space
denotes the cells of that very implementation – not the base's, not another instance's (their
implementations differ, `different_keys_different_instances`) – whatever arguments or
references carry the same name. -/
theorem sibling_call_stays_inside (impl : Nat) (cellNames : List String) (refs : List RefMap)
    (children : List String) (x : String) (hx : x ∈ cellNames) :
    resolveName MxModel.Generated.mxNamespaceOrder impl cellNames refs children x = some (.cells impl x) := by
  simp [resolveName, MxModel.Generated.mxNamespaceOrder, namespaceMap, hx]

/-- a name that is no cells of the instance is looked up in its reference chain: the bound
parameters first (`parameter_shadows_base_reference`) -/
theorem parameter_is_bound_as_name (impl : Nat) (cellNames : List String) (argmaps : List RefMap)
    (own sys dynbase global : RefMap) (children : List String) (x : String) (v : Val)
    (hx : x ∉ cellNames) (h : chainFind argmaps x = some v) :
    resolveName MxModel.Generated.mxNamespaceOrder impl cellNames (chain argmaps own sys dynbase global)
      children x = some (.ref v) := by
  have := parameter_shadows_base_reference argmaps own sys dynbase global x v h
  simp [resolveName, MxModel.Generated.mxNamespaceOrder, List.findSome?, namespaceMap, hx, this]

/-! ## Non-vacuity -/

def sig2 : Sig := [⟨"i", none⟩, ⟨"j", some 2⟩]

-- all the spellings of `S[1]` for `lambda i, j=2` bind to `(1, 2)`
example : bindArgs sig2 [1] [] = some [1, 2] := by decide +kernel
example : bindArgs sig2 [] [("i", 1)] = some [1, 2] := by decide +kernel
example : bindArgs sig2 [1] [("j", 2)] = some [1, 2] := by decide +kernel
example : bindArgs sig2 [] [("j", 2), ("i", 1)] = some [1, 2] := by decide +kernel
example : bindArgs sig2 [1, 2] [] = some [1, 2] := by decide +kernel
-- … and the malformed ones are rejected
example : bindArgs sig2 [1, 2, 3] [] = none := by decide +kernel
example : bindArgs sig2 [1] [("k", 2)] = none := by decide +kernel
example : bindArgs sig2 [1] [("i", 1)] = none := by decide +kernel
example : bindArgs sig2 [] [("j", 1)] = none := by decide +kernel
example : Accepts sig2 [1] [("j", 5)] ∧ specKey sig2 [1] [("j", 5)] = [1, 5] := by
  unfold Accepts
  decide +kernel

-- the demo world: three live dynamic spaces, two instances; the invariant holds (by the theorem)
example : demoWorld.tbl.live.map (fun e => (e.addr.dkey, e.impl, e.handle, e.base)) =
    [([.key [1]], 0, 0, 0), ([.key [1], .name "X"], 1, 1, 1), ([.key [2]], 2, 2, 0),
     ([.key [2], .name "X"], 3, 3, 1)] := by decide +kernel
example : Inv demoWorld.tbl := (evolves_steps.run _ _).inv inv_empty

-- a propagated edit of S.X removes both instances; a re-created S[1] gets its old interface back
example : (applyEdit demoWorld.tbl .setFormula 1).live = [] := by decide +kernel
example : ((step { demoWorld with tbl := applyEdit demoWorld.tbl .setFormula 1 }
    (.item ["S"] [.call [1] []])).1.tbl.live.map (fun e => (e.addr.dkey, e.impl, e.handle))) =
    [([.key [1]], 4, 0), ([.key [1], .name "X"], 5, 1)] := by decide +kernel
-- an edit of S (not of S.X) removes S's own ItemSpaces with the copies of S.X below them
example : (applyEdit demoWorld.tbl .newRef 0).live = [] := by decide +kernel
-- an edit of a space nothing was built from removes nothing
example : (applyEdit demoWorld.tbl .delCells 7).live.length = 4 := by decide +kernel

-- histories with stamps: `S(i)` with child `S.X`; `S[1]`, `S[2]`; a cells of `S.X` is deleted (op 5, touches
-- `S.X` only); `S[1]` again (op 6): new implementations 4, 5 built at 6 > the stamps 2 (`S`: its child was
-- created at op 2) and 5 (`S.X`); the interfaces 0, 1 are the old ones
def histOps : List Op := [
  .newSpace ["S"] (some [⟨"i", none⟩]) none, .newSpace ["S", "X"] none none,
  .item ["S"] [.call [1] []], .item ["S"] [.call [2] []],
  .edit .delCells ["S", "X"],
  .item ["S"] [.call [1] []]]

example : (runH {} histOps).w.tbl.live.map (fun e => (e.addr.dkey, e.impl, e.handle, e.base,
      (runH {} histOps).builtAt e.impl, (runH {} histOps).editedAt e.base)) =
    [([.key [1]], 4, 0, 0, 6, 2), ([.key [1], .name "X"], 5, 1, 1, 6, 5)] := by decide +kernel
example : touched (run {} (histOps.take 4)) (.edit .delCells ["S", "X"]) = [1] := by decide +kernel
example : (run {} (histOps.take 4)).tbl.nextImpl = 4 ∧ (run {} (histOps.take 5)).tbl.live = [] := by decide +kernel

-- inheritance: `S(i)` and `T(j)`; `S` derives the cells of `B`, `T` does not.  The formula of `B`'s cells
-- changes: the edit reaches `S` (stamp 7), not `T`: `T[5]` (built at 5) stays, `S[1]` is rebuilt (op 8 > 7)
def inhOps : List UOp := [
  .op (.newSpace ["B"] none none), .op (.newSpace ["S"] (some [⟨"i", none⟩]) none),
  .op (.newSpace ["T"] (some [⟨"j", none⟩]) none),
  .op (.item ["S"] [.call [1] []]), .op (.item ["T"] [.call [5] []]),
  .editInh .setFormula ["B"] [(.setFormula, ["S"])],
  .op (.item ["S"] [.call [1] []])]

example : (runU {} inhOps).w.tbl.live.map (fun e => (e.addr.root, e.addr.dkey, e.impl, e.handle,
      (runU {} inhOps).builtAt e.impl, (runU {} inhOps).editedAt e.base)) =
    [(2, [.key [5]], 1, 1, 5, 0), (1, [.key [1]], 2, 0, 8, 7)] := by decide +kernel

-- the structural mechanism: `S` derives `B`, `T` does not; the formula of `B.f` changes: `S`'s table
-- changes (and `S` is a sub space of `B`), `T`'s does not
example :
    let st := SM.St.run [] {} [.newSpace [] "B" [] [], .newCells ["B"] "f" "f" 1, .newSpace [] "S" [["B"]] [],
      .newSpace [] "T" [] [], .newCells ["T"] "f" "f" 1]
    ∃ st', st.setFormula ["B"] "f" 2 = some st' ∧ st'.mem .cells ["S"] "f" ≠ st.mem .cells ["S"] "f" ∧
      st'.mem .cells ["T"] "f" = st.mem .cells ["T"] "f" ∧ ["S"] ∈ st.subs ["B"] ∧ ["T"] ∉ st.subs ["B"] := by
  intro st
  show ∃ st' ∈ st.setFormula ["B"] "f" 2, _
  decide +kernel

-- values: `S[1].f[0] = 10`, `S[2].f[0] = 20`, `S.f[0] = 30` are three values; after a formula change of `S`
-- the re-created `S[1]` holds none
def valOps : List VOp := [
  .op (.newSpace ["S"] (some [⟨"i", none⟩]) none),
  .assign ["S"] [.call [1] []] "f" [0] 10,
  .assign ["S"] [.call [2] []] "f" [0] 20,
  .assign ["S"] [] "f" [0] 30]

example : (VWorld.run {} valOps).valueAt ⟨0, [.key [1]]⟩ "f" [0] = some 10 ∧
    (VWorld.run {} valOps).valueAt ⟨0, [.key [2]]⟩ "f" [0] = some 20 ∧
    (VWorld.run {} valOps).valueAt ⟨0, []⟩ "f" [0] = some 30 := by decide +kernel
example : (VWorld.run {} valOps).target ["S"] [.call [1] []] = some ⟨0, [.key [1]]⟩ := by decide +kernel
example : (VWorld.run {} (valOps ++ [.op (.edit .setFormula ["S"]), .op (.item ["S"] [.call [1] []])])).valueAt
    ⟨0, [.key [1]]⟩ "f" [0] = none := by decide +kernel
example : (0 : SId) ∈ touched (VWorld.run {} valOps).w (.edit .setFormula ["S"]) := by decide +kernel

-- the chain: a parameter `i` shadows the base's `i` and the model's; the inner `i` wins
example : chainFind (chain [[("i", 2)], [("i", 1)]] [("r", 7)] [] [("i", 50), ("r", 3)] [("i", 99), ("u", 11)]) "i"
    = some 2 := by decide +kernel
example : chainFind (chain [[("i", 2)], [("i", 1)]] [("r", 7)] [] [("i", 50), ("r", 3)] [("i", 99), ("u", 11)]) "r"
    = some 7 := by decide +kernel

-- `f` is a cells of the instance with implementation 4 and also the name of an argument: the cells wins
example : resolveName MxModel.Generated.mxNamespaceOrder 4 ["f", "g"] [[("f", 1), ("i", 2)]] ["X"] "f"
    = some (.cells 4 "f") := by decide +kernel
example : resolveName MxModel.Generated.mxNamespaceOrder 4 ["f", "g"] [[("f", 1), ("i", 2)]] ["X"] "i"
    = some (.ref 2) := by decide +kernel

end MxModel.C07
