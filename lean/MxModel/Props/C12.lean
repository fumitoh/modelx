import MxModel.Struct.Namespace
import MxModel.Generated.Tables
import MxModel.Proofs.StructMechNamespace
import MxModel.Proofs.StructMechRenameSpace
import MxModel.Proofs.StructMechCoreRun
/-!
# C12 – the visible namespace equals the containers, with the documented precedence

The namespace of a space is a chain of maps searched in order.  The order is regenerated
from modelx/core/space.py on every run (`Generated.namespaceOrder` = the `map_ids` of the
namespace `ImplChainMap`; `userRefsOrder` / `dynRefsOrder` = the maps of `refs` in
`UserSpaceImpl._init_refs` / `DynamicSpaceImpl._init_refs`), so the precedence theorems
below are re-checked against the code of that run.
Name *uniqueness* across the containers after every edit is decided for the implementation by
the oracle of the check; for the mechanism model (`Struct/Mech.lean`, tied to the code edit by edit)
it is a theorem: `reachable_names_unique` and `reachable_containers_disjoint` hold in every
reachable state (part `Disj` of the invariant `SM.Inv`).  What is *not* an invariant – and not
claimed by the property – is disjointness of model-level references and the members of a space:
`model.x = v` makes no check against members (`global_may_shadow_member`); a space-level name
takes precedence (`space_level_shadows_model_level`).
-/
namespace MxModel.C12
open MxModel.Struct MxModel.Generated

variable {β : Type}

/-- **The visible names are exactly the names in the containers**: a name resolves iff some
map of the chain has it. -/
theorem visible_iff_in_some_container (chain : List (String × NMap β)) (x : String) :
    (chainFind chain x).isSome ↔ x ∈ chainKeys chain := by
  rw [chainFind_isSome_iff, chainKeys, List.mem_flatMap]
  simp only [NMap.find_isSome_iff]

/-- **Precedence**: a name found in an earlier map of the chain is resolved there, whatever
the later maps hold. -/
theorem earlier_map_wins (pre : List (String × NMap β)) (nm : String) (m : NMap β)
    (post : List (String × NMap β)) (x : String) (v : β)
    (hpre : ∀ e ∈ pre, e.2.find x = none) (hm : m.find x = some v) :
    chainFind (pre ++ (nm, m) :: post) x = some (nm, v) := by
  induction pre with
  | nil => simp [chainFind, hm]
  | cons e rest ih =>
    obtain ⟨n0, m0⟩ := e
    have h0 : m0.find x = none := hpre (n0, m0) (by simp)
    simp only [List.cons_append, chainFind, h0]
    exact ih (fun e he => hpre e (by simp [he]))

def pos (order : List String) (k : String) : Nat := order.findIdx (· == k)

/-- **The code's chain orders give the documented precedence** (checked against the tables
regenerated from /repo): cells before references before child spaces; in a static space own
(incl. derived) references before the special names before model-level references; in a
dynamic space arguments first, and the base's references before model-level ones. -/
theorem code_precedence :
    pos namespaceOrder "cells" < pos namespaceOrder "refs" ∧
    pos namespaceOrder "refs" < pos namespaceOrder "spaces" ∧
    pos userRefsOrder "own_refs" < pos userRefsOrder "global_refs" ∧
    pos userRefsOrder "sys_refs" < pos userRefsOrder "global_refs" ∧
    pos dynRefsOrder "allargs" < pos dynRefsOrder "own_refs" ∧
    pos dynRefsOrder "own_refs" < pos dynRefsOrder "dynbase_refs" ∧
    pos dynRefsOrder "dynbase_refs" < pos dynRefsOrder "global_refs" ∧
    namespaceOrder.length = 3 ∧ userRefsOrder.length = 3 ∧ dynRefsOrder.length = 5 := by
  decide +kernel

/-- hence a space-level reference shadows a model-level one of the same name -/
theorem space_level_shadows_model_level (own sys glob : NMap β) (x : String) (v : β)
    (h : own.find x = some v) :
    chainFind [("own_refs", own), ("sys_refs", sys), ("global_refs", glob)] x = some ("own_refs", v) :=
  earlier_map_wins [] "own_refs" own _ x v (by simp) h

example : chainFind [("cells", [("f", 1)]), ("refs", [("f", 2), ("y", 3)]), ("spaces", [("X", 4)])] "f"
    = some ("cells", 1) := by decide +kernel
example : chainFind [("cells", [("f", 1)]), ("refs", [("f", 2), ("y", 3)]), ("spaces", [("X", 4)])] "y"
    = some ("refs", 3) := by decide +kernel

section mechanism
open MxModel.SM

/-- **Member names are unique within a container**: in every reachable state no space has two
cells, or two references, of one name; and no two spaces have the same id. -/
theorem reachable_names_unique (kw : List String) (ops : List Op) :
    (St.run kw {} ops).ids.Nodup ∧
    ∀ s ∈ (St.run kw {} ops).spaces, (s.cells.map (·.1)).Nodup ∧ (s.refs.map (·.1)).Nodup :=
  (run_inv kw ops).names_unique

/-- **In every space a name denotes at most one thing among its cells, its own references and
its child spaces; the same holds for the spaces and references of the model** – in every state
reachable by any sequence of operations, including member creation in a base of a space that uses
the name for another kind (`newCells`, `setRef`, `renameCells` check every sub space) and
`addBases` / `newSpace` with bases whose members clash (`noConflict`). -/
theorem reachable_containers_disjoint (kw : List String) (ops : List Op) (q : Path) (n : String) :
    ¬ (((St.run kw {} ops).mem .cells q n).isSome = true ∧ ((St.run kw {} ops).mem .refs q n).isSome = true) ∧
    (n ∈ (St.run kw {} ops).childNames q →
      (St.run kw {} ops).mem .cells q n = none ∧ (St.run kw {} ops).mem .refs q n = none) ∧
    (n ∈ (St.run kw {} ops).globals → n ∉ (St.run kw {} ops).childNames []) :=
  (run_inv kw ops).containers_disjoint q n

/-- `kindOf` (what a name is in the namespace of a space, searched in the code's order cells,
references - own and model-level -, child spaces) in every reachable state: the containers of the
space are disjoint, so the order only matters where a *model-level* reference is involved - it is
shadowed by a cells of the name, and it shadows a child space of the name (`global_may_shadow_child`) -/
theorem kind_well_defined (kw : List String) (ops : List Op) (q : Path) (n : String) :
    ((St.run kw {} ops).kindOf q n = some .cells ↔ ((St.run kw {} ops).mem .cells q n).isSome = true) ∧
    ((St.run kw {} ops).kindOf q n = some .ref ↔
      (St.run kw {} ops).mem .cells q n = none ∧
        (((St.run kw {} ops).mem .refs q n).isSome = true ∨ n ∈ (St.run kw {} ops).globals)) ∧
    ((St.run kw {} ops).kindOf q n = some .space ↔
      n ∈ (St.run kw {} ops).childNames q ∧ n ∉ (St.run kw {} ops).globals) ∧
    ((St.run kw {} ops).kindOf q n = none ↔
      (St.run kw {} ops).mem .cells q n = none ∧ (St.run kw {} ops).mem .refs q n = none ∧
        n ∉ (St.run kw {} ops).childNames q ∧ n ∉ (St.run kw {} ops).globals) :=
  kindOf_iff_of_disj (run_inv kw ops).disj q n

/-- what is *not* an invariant (and not claimed): a model-level reference may bear the name of a
member of a space – `ModelImpl.set_attr` checks top-level spaces only; the space-level name wins -/
theorem global_may_shadow_member :
    let st := St.run [] {} [.newSpace [] "A" [] [], .newCells ["A"] "x" "x" 1, .setGlobal "x"]
    "x" ∈ st.globals ∧ (st.mem .cells ["A"] "x").isSome = true ∧ st.kindOf ["A"] "x" = some .cells := by
  decide +kernel

/-- ... and a model-level reference may bear the name of a child space of a *nested* space
(`setGlobal` looks at top-level spaces only): the namespace of the space then resolves the name to the
reference, the child space cannot be reached by name from its parent.  The property's "space-level
names take precedence" holds for cells and own references, not for child spaces. -/
theorem global_may_shadow_child :
    let st := St.run [] {} [.newSpace [] "A" [] [], .newSpace ["A"] "K" [] [], .setGlobal "K"]
    "K" ∈ st.globals ∧ "K" ∈ st.childNames ["A"] ∧ st.kindOf ["A"] "K" = some .ref := by
  decide +kernel

/-! Non-vacuity: requests for a second kind of thing of one name are refused – in the space itself,
from a base (a cells `x` in a base of a space with reference `x`), through `addBases`, and the
case repaired by 8550727 (a reference named like a child space, with a model-level reference). -/
def clashOps : List Op := [
  .newSpace [] "A" [] [], .newSpace [] "B" [["A"]] [], .setRef ["B"] "x" 1, .newSpace ["A"] "y" [] [],
  .newSpace [] "C" [] [], .newCells ["C"] "x" "x" 2, .setGlobal "y"]

/-- the state `clashOps` reaches (under both keyword tables the examples use), evaluated once -/
private theorem clash_run (kw : List String) (hkw : kw ∈ [[], ["for"]] := by decide) : St.run kw {} clashOps =
    { spaces := [
        ⟨["A"], [], [], []⟩,
        ⟨["B"], [["A"]], [], [("x", ⟨false, 1⟩)]⟩,
        ⟨["A", "y"], [], [], []⟩,
        ⟨["C"], [], [("x", ⟨false, 2⟩)], []⟩],
      globals := ["y"] } := by
  revert kw
  decide +kernel

example : ((St.run [] {} clashOps).step [] (.newCells ["B"] "x" "x" 3)).2 = false := by
  rw [clash_run []]; decide +kernel
example : ((St.run [] {} clashOps).step [] (.newCells ["A"] "x" "x" 3)).2 = false := by
  rw [clash_run []]; decide +kernel
example : ((St.run [] {} clashOps).step [] (.addBases ["B"] [["C"]])).2 = false := by
  rw [clash_run []]; decide +kernel
example : ((St.run [] {} clashOps).step [] (.setRef ["A"] "y" 3)).2 = false := by
  rw [clash_run []]; decide +kernel
example : ((St.run [] {} clashOps).step [] (.newCells ["A"] "z" "z" 3)).2 = true := by
  rw [clash_run []]; decide +kernel
example : (St.run [] {} (clashOps ++ [.newCells ["A"] "z" "z" 3])).mem .cells ["B"] "z"
    = some { derived := true, payload := 3 } := by
  rw [St.run_append, clash_run []]; decide +kernel

/-! references handed to `new_space(refs=...)`: refused as a whole when a name is that of a cells the
new space derives (`C` has the cells `x`) or not a valid name; an own reference overrides an inherited
one and may bear the name of a model-level reference -/
example : ((St.run [] {} clashOps).step [] (.newSpace [] "S" [["C"]] [("x", 1)])).2 = false := by
  rw [clash_run []]; decide +kernel
example : ((St.run [] {} clashOps).step [] (.newSpace [] "S" [["C"]] [("w", 1), ("x", 1)])).1.has ["S"] = false := by
  rw [clash_run []]; decide +kernel
example : ((St.run ["for"] {} clashOps).step ["for"] (.newSpace [] "S" [] [("for", 1)])).2 = false := by
  rw [clash_run ["for"]]; decide +kernel
example : ((St.run [] {} clashOps).step [] (.newSpace [] "S" [] [("_a", 1)])).2 = false := by
  rw [clash_run []]; decide +kernel
example : (St.run [] {} (clashOps ++ [.newSpace [] "S" [["B"]] [("x", 7), ("y", 8)]])).mem .refs ["S"] "x"
    = some { derived := false, payload := 7 } := by
  rw [St.run_append, clash_run []]; decide +kernel

/-! ## The visible namespace of every reachable state

`SM.St.namespaceIn` (Struct/MechNamespace.lean) builds, for a space `q` of a state of the mechanism
model, the chain of maps `BaseSpaceImpl.__init__` / `UserSpaceImpl._init_refs` build: the cells of `q`,
its references (own ones - defined or derived -, the special names `_self`, `_space`, `_model`, the
model-level ones), its child spaces, flattened in the order of the two regenerated tables.  Formula
globals, attribute access and `dir()` of the implementation all read that one chain (`namespace`), so
the model has one namespace per space; that the three views of the implementation agree with each
other is decided by the check's oracle, not here.  Parameters (the `allargs` map) exist only in
dynamic spaces (`Kernels/ItemSpace.lean`, `C07.chain_order`). -/

/-- the namespace of the space `q`, in the order of the tables regenerated from space.py -/
def namespaceOf (st : St) (q : SM.Path) : List (String × NMap Denot) :=
  st.namespaceIn namespaceOrder userRefsOrder q

/-- with the order read from the source: cells, own references, special names, model-level references,
child spaces (the proof unfolds the two tables, so it fails when the source changes the order) -/
theorem namespaceOf_eq (st : St) (q : SM.Path) : namespaceOf st q = st.codeChain q := by
  unfold namespaceOf namespaceOrder userRefsOrder
  exact namespaceIn_code st q

/-- **The visible names are exactly the cells, the references and the child spaces**: after every
sequence of operations, a name resolves in the namespace of `q` iff it is a cells of `q`, a reference of
`q` (defined there or derived), one of the three special names, a model-level reference, or a child
space of `q` - nothing else is visible, and nothing of these is invisible. -/
theorem visible_names_are_exactly_the_members (kw : List String) (ops : List Op) (q : SM.Path) (n : String) :
    (chainFind (namespaceOf (St.run kw {} ops) q) n).isSome = true ↔
      (((St.run kw {} ops).mem .cells q n).isSome = true ∨ ((St.run kw {} ops).mem .refs q n).isSome = true ∨
        n ∈ sysNames ∨ n ∈ (St.run kw {} ops).globals ∨ n ∈ (St.run kw {} ops).childNames q) := by
  rw [namespaceOf_eq]
  exact chain_visible_iff _ q n

/-- **What a visible name denotes** (the precedence the chain really has): a cells of the space; else a
reference of the space; else a special name; else a model-level reference; else a child space.  So a
space-level cells or reference takes precedence over a model-level reference of the same name, and a
model-level reference takes precedence over a CHILD SPACE of the same name. -/
theorem name_resolution (kw : List String) (ops : List Op) (q : SM.Path) (n : String) :
    chainFind (namespaceOf (St.run kw {} ops) q) n =
      match (St.run kw {} ops).mem .cells q n with
      | some m => some ("cells", .cells m)
      | none =>
        match (St.run kw {} ops).mem .refs q n with
        | some m => some ("own_refs", .ownRef m)
        | none =>
          if n ∈ sysNames then some ("sys_refs", .sys)
          else if n ∈ (St.run kw {} ops).globals then some ("global_refs", .global)
          else if n ∈ (St.run kw {} ops).childNames q then some ("spaces", .child)
          else none := by
  rw [namespaceOf_eq]
  exact chain_resolution _ q n

/-- **Each visible name has one meaning, up to the two documented shadowings.**  After every sequence of
operations, when the lookup of `n` in the namespace of `q` stops at the map `mapName`, every OTHER map of
the chain that also holds `n` is
* the model-level references, and the lookup stopped at a cells, an own reference or a special name of the
  space (the space-level name takes precedence, as the property says; `model._self = 1` is accepted by the
  code - model-level names are not checked - and every space still resolves `_self` to itself), or
* the child spaces, and the lookup stopped at a model-level reference (the child space LOSES - the
  property's "space-level ones taking precedence" does not hold for child spaces, in the code as in the
  model: `global_may_shadow_child`; impossible at top level, `reachable_containers_disjoint`).
In particular the cells, the own references, the special names and the child spaces of a space never
share a name, so among them the first match is the only match. -/
theorem each_visible_name_has_one_meaning (kw : List String) (ops : List Op) (q : SM.Path) (n : String)
    (mapName : String) (d : Denot)
    (hf : chainFind (namespaceOf (St.run kw {} ops) q) n = some (mapName, d)) :
    ∀ e ∈ namespaceOf (St.run kw {} ops) q, e.1 ≠ mapName → (e.2.find n).isSome = true →
      (e.1 = "global_refs" ∧ (mapName = "cells" ∨ mapName = "own_refs" ∨ mapName = "sys_refs")) ∨
      (e.1 = "spaces" ∧ mapName = "global_refs") := by
  rw [namespaceOf_eq] at hf ⊢
  exact chain_other_matches (run_invN kw ops) q n mapName d hf

/-- the space's own containers and the special names are pairwise disjoint in every reachable state
(a model-level reference may bear a special name: `ModelImpl.set_attr` tests no name) -/
theorem space_level_names_disjoint (kw : List String) (ops : List Op) (q : SM.Path) (n : String) :
    ¬ (((St.run kw {} ops).mem .cells q n).isSome = true ∧ ((St.run kw {} ops).mem .refs q n).isSome = true) ∧
    ¬ (((St.run kw {} ops).mem .cells q n).isSome = true ∧ n ∈ sysNames) ∧
    ¬ (((St.run kw {} ops).mem .refs q n).isSome = true ∧ n ∈ sysNames) ∧
    ¬ (((St.run kw {} ops).mem .cells q n).isSome = true ∧ n ∈ (St.run kw {} ops).childNames q) ∧
    ¬ (((St.run kw {} ops).mem .refs q n).isSome = true ∧ n ∈ (St.run kw {} ops).childNames q) ∧
    ¬ (n ∈ sysNames ∧ n ∈ (St.run kw {} ops).childNames q) :=
  space_level_disjoint (run_invN kw ops) q n

/-- **A refused name is never visible**: after every sequence of operations every name visible in the
namespace of any space is a valid name (an identifier that is no keyword and does not start with an
underscore), one of the three special names, or a model-level reference - whatever names the operations
asked for.  Model-level references are the exception because the code never refuses their names:
`model.name = value` (`EditableParent.__setattr__` -> `ModelImpl.set_attr`) has no `is_valid_name` test,
so `model._x = 1` is accepted and `_x` is visible in every space (`unchecked_model_level_name_is_visible`).
For every name that is no model-level reference the statement has its full strength. -/
theorem refused_names_never_visible (kw : List String) (ops : List Op) (q : SM.Path) (n : String)
    (hbad : Names.isValidName kw n = false) (hs : n ∉ sysNames) (hg : n ∉ (St.run kw {} ops).globals) :
    chainFind (namespaceOf (St.run kw {} ops) q) n = none := by
  rw [namespaceOf_eq]
  cases hf : chainFind ((St.run kw {} ops).codeChain q) n with
  | none => rfl
  | some r =>
    rcases visible_valid (run_invN kw ops) q n (by rw [hf]; rfl) with h | h | h
    · rw [hbad] at h; cases h
    · exact absurd h hs
    · exact absurd h hg

/-- the same as a classification of everything visible: a valid name, a special name, or a model-level
reference -/
theorem visible_names_are_valid_special_or_model_level (kw : List String) (ops : List Op) (q : SM.Path) (n : String)
    (hv : (chainFind (namespaceOf (St.run kw {} ops) q) n).isSome = true) :
    Names.isValidName kw n = true ∨ n ∈ sysNames ∨ n ∈ (St.run kw {} ops).globals := by
  rw [namespaceOf_eq] at hv
  exact visible_valid (run_invN kw ops) q n hv

/-- **the names of model-level references are not checked** (the behaviour of the code): every name that is
not the name of a top-level space is accepted by `model.name = value`, valid or not, and is then visible in
the namespace of every space -/
theorem unchecked_model_level_name_is_visible (kw : List String) (ops : List Op) (n : String) (q : SM.Path)
    (hn : n ∉ (St.run kw {} ops).childNames []) :
    ((St.run kw {} ops).step kw (.setGlobal n)).2 = true ∧
    (chainFind (namespaceOf ((St.run kw {} ops).step kw (.setGlobal n)).1 q) n).isSome = true := by
  have hacc : ((St.run kw {} ops).apply kw (.setGlobal n)).isSome = true := by
    rw [apply_isSome]
    simp only [St.accepts, St.acceptsSetGlobal, Bool.not_eq_true', List.contains_eq_mem, decide_eq_false_iff_not]
    exact hn
  unfold St.step
  cases hop : (St.run kw {} ops).apply kw (.setGlobal n) with
  | none => rw [hop] at hacc; cases hacc
  | some st' =>
    refine ⟨rfl, ?_⟩
    rw [namespaceOf_eq]
    have := (apply_spec kw _ st' (run_inv kw ops).wf.keys (.setGlobal n) hop).2 n
    exact global_visible st' q n (this.mpr (Or.inr rfl))

/-- the name test the mechanism's own checks use (`St.kindOf`: `_can_add`, `new_ref`, `set_attr`) is the
lookup in this chain - for every name but the three special ones, which are no valid names -/
theorem mechanism_checks_read_the_namespace (kw : List String) (ops : List Op) (q : SM.Path) (n : String)
    (hs : n ∉ sysNames) :
    (St.run kw {} ops).kindOf q n = (chainFind (namespaceOf (St.run kw {} ops) q) n).map (fun r => r.2.kind) := by
  rw [namespaceOf_eq]
  exact kindOf_eq_chain _ q n hs

/-! Non-vacuity: the state of `clashOps` plus a cells and a derived reference; the two shadowings. -/
def nsOps : List Op := clashOps ++ [.newCells ["A"] "z" "z" 3, .setRef ["A"] "w" 5, .setGlobal "z", .setGlobal "u"]

private theorem ns_run (kw : List String) (hkw : kw ∈ [[], ["for"]] := by decide) : St.run kw {} nsOps =
    { spaces := [
        ⟨["A"], [], [("z", ⟨false, 3⟩)], [("w", ⟨false, 5⟩)]⟩,
        ⟨["B"], [["A"]], [("z", ⟨true, 3⟩)], [("x", ⟨false, 1⟩), ("w", ⟨true, 5⟩)]⟩,
        ⟨["A", "y"], [], [], []⟩,
        ⟨["C"], [], [("x", ⟨false, 2⟩)], []⟩],
      globals := ["y", "z", "u"] } := by
  rw [nsOps, St.run_append, clash_run kw hkw]
  revert kw
  decide +kernel

example : (namespaceOf (St.run [] {} nsOps) ["B"]).map (fun e => (e.1, e.2.map (·.1))) =
    [("cells", ["z"]), ("own_refs", ["x", "w"]), ("sys_refs", ["_self", "_space", "_model"]),
     ("global_refs", ["y", "z", "u"]), ("spaces", [])] := by
  rw [ns_run []]; decide +kernel
-- `z`: a (derived) cells of `B` and a model-level reference: the cells wins
example : chainFind (namespaceOf (St.run [] {} nsOps) ["B"]) "z" = some ("cells", .cells ⟨true, 3⟩) := by
  rw [ns_run []]; decide +kernel
-- `y`: a child space of `A` and a model-level reference: the reference wins
example : chainFind (namespaceOf (St.run [] {} nsOps) ["A"]) "y" = some ("global_refs", .global) := by
  rw [ns_run []]; decide +kernel
example : ("spaces", [("y", Denot.child)]) ∈ namespaceOf (St.run [] {} nsOps) ["A"] := by
  rw [ns_run []]; decide +kernel
-- `u`: only a model-level reference; `w`: derived in `B`; `_space`; an unused name
example : chainFind (namespaceOf (St.run [] {} nsOps) ["B"]) "u" = some ("global_refs", .global) := by
  rw [ns_run []]; decide +kernel
example : chainFind (namespaceOf (St.run [] {} nsOps) ["B"]) "w" = some ("own_refs", .ownRef ⟨true, 5⟩) := by
  rw [ns_run []]; decide +kernel
example : chainFind (namespaceOf (St.run [] {} nsOps) ["B"]) "_space" = some ("sys_refs", .sys) := by
  rw [ns_run []]; decide +kernel
example : chainFind (namespaceOf (St.run [] {} nsOps) ["B"]) "v" = none := by
  rw [ns_run []]; decide +kernel
-- a refused name: the request is made, nothing becomes visible
example : chainFind (namespaceOf (St.run ["for"] {} (nsOps ++ [.setRef ["A"] "for" 1, .setRef ["A"] "_p" 1])) ["A"]) "for" = none :=
  refused_names_never_visible ["for"] _ ["A"] "for" (by decide +kernel) (by decide +kernel)
    (by rw [St.run_append, ns_run ["for"]]; decide +kernel)
-- ... but a model-level reference `_x` (and a keyword, and a special name) IS accepted and visible in every space,
-- as in the code (`model._x = 1`); `_self` still resolves to the space
example : ((St.run ["for"] {} nsOps).step ["for"] (.setGlobal "_x")).2 = true := by
  rw [ns_run ["for"]]; decide +kernel
example : chainFind (namespaceOf (St.run ["for"] {} (nsOps ++ [.setGlobal "_x", .setGlobal "for", .setGlobal "_self"])) ["B"]) "_x"
    = some ("global_refs", .global) := by
  rw [St.run_append, ns_run ["for"]]; decide +kernel
example : chainFind (namespaceOf (St.run ["for"] {} (nsOps ++ [.setGlobal "_x", .setGlobal "for", .setGlobal "_self"])) ["A"]) "for"
    = some ("global_refs", .global) := by
  rw [St.run_append, ns_run ["for"]]; decide +kernel
example : chainFind (namespaceOf (St.run ["for"] {} (nsOps ++ [.setGlobal "_x", .setGlobal "for", .setGlobal "_self"])) ["A"]) "_self"
    = some ("sys_refs", .sys) := by
  rw [St.run_append, ns_run ["for"]]; decide +kernel
example := unchecked_model_level_name_is_visible ["for"] nsOps "_x" ["B"]
  (by rw [ns_run ["for"]]; decide +kernel)
-- the name of a top-level space is refused
example : ((St.run [] {} nsOps).step [] (.setGlobal "A")).2 = false := by
  rw [ns_run []]; decide +kernel

/-! ## `rename_space` (`space.rename(name)`)

`SM.St.renameSpace` (Struct/MechRename.lean; in the `smech` correspondence the line `renamespace`): refused
for an invalid name and when `_can_add(parent, name, UserSpaceImpl)` says no; otherwise every path at or
below the renamed space is relabelled in every place the state holds a path (ids = the tree of containers,
direct bases = the node ids of the inheritance graph, keys of the name counters).  Histories of the twelve
operations and renames: `SM.OpR`, `SM.St.runR`. -/

/-- **`rename_space` keeps names unique and valid**: in every state reachable by any history of the twelve
operations AND renames of spaces - no two spaces with one id; no two cells / references of one name in a
space; a name is at most one of cells, reference, child space in a space (and a model-level reference is
no top-level space); every component of every id is a valid name; and every direct base is the id of a
space (the node ids of the inheritance graph are paths of the tree). -/
theorem rename_space_keeps_names_unique_and_valid (kw : List String) (ops : List OpR) :
    (St.runR kw {} ops).ids.Nodup ∧
    (∀ s ∈ (St.runR kw {} ops).spaces, (s.cells.map (·.1)).Nodup ∧ (s.refs.map (·.1)).Nodup) ∧
    (∀ q n, ¬ (((St.runR kw {} ops).mem .cells q n).isSome = true ∧ ((St.runR kw {} ops).mem .refs q n).isSome = true) ∧
      (n ∈ (St.runR kw {} ops).childNames q →
        (St.runR kw {} ops).mem .cells q n = none ∧ (St.runR kw {} ops).mem .refs q n = none) ∧
      (n ∈ (St.runR kw {} ops).globals → n ∉ (St.runR kw {} ops).childNames [])) ∧
    (∀ q ∈ (St.runR kw {} ops).ids, ∀ c ∈ q, Names.isValidName kw c = true) ∧
    (∀ q b, b ∈ (St.runR kw {} ops).basesOf q → b ∈ (St.runR kw {} ops).ids) := by
  have hN := runR_invN kw ops
  exact ⟨hN.toInv.names_unique.1, hN.toInv.names_unique.2, hN.toInv.containers_disjoint, hN.names.ids,
    hN.toInv.wf.bases⟩

/-- **a refused `rename_space` changes nothing** (by the type of the step, as `C11.rejected_edit_changes_nothing`),
and it is refused exactly when the code refuses: the path is no space, the name is invalid, or the parent
cannot add a space of the name -/
theorem refused_rename_changes_nothing (kw : List String) (st : St) (p : SM.Path) (new : String) :
    ((st.stepR kw (.renameSpace p new)).2 = false → (st.stepR kw (.renameSpace p new)).1 = st) ∧
    ((st.stepR kw (.renameSpace p new)).2 = false ↔
      (p = [] ∨ st.has p = false ∨ Names.isValidName kw new = false ∨ st.canAdd p.dropLast new .space = false)) := by
  unfold St.stepR
  rw [applyR_renameSpace]
  unfold St.renameSpace
  by_cases h1 : p = []
  · simp [h1]
  · cases h2 : st.has p with
    | false => simp [h1]
    | true =>
      cases h3 : Names.isValidName kw new with
      | false => simp [h1]
      | true =>
        cases h4 : st.canAdd p.dropLast new .space with
        | false => simp [h1]
        | true => simp [h1]

/-! Non-vacuity: `A`, `A.A` (a nested space bearing its parent's name, with a cells), `T` with base `A.A`;
`A.A` is renamed to `B` (accepted: `T`'s base and derived cells follow); refused: its own name, the name of a
cells of the parent, an invalid name, the name of another top-level space; a top-level rename moves the subtree. -/

def aaOps : List OpR := [
  .op (.newSpace [] "A" [] []), .op (.newCells ["A"] "g" "g" 2),
  .op (.newSpace ["A"] "A" [] []), .op (.newCells ["A", "A"] "f" "f" 1),
  .op (.newSpace [] "T" [["A", "A"]] [])]

private theorem aa_run : St.runR [] {} aaOps =
    { spaces := [
        ⟨["A"], [], [("g", ⟨false, 2⟩)], []⟩,
        ⟨["A", "A"], [], [("f", ⟨false, 1⟩)], []⟩,
        ⟨["T"], [["A", "A"]], [("f", ⟨true, 1⟩)], []⟩] } := by
  decide +kernel

example : (St.runR [] {} aaOps).ids = [["A"], ["A", "A"], ["T"]] := by
  rw [aa_run]; decide +kernel
example : ((St.runR [] {} aaOps).stepR [] (.renameSpace ["A", "A"] "B")).2 = true := by
  rw [aa_run]; decide +kernel
example : (St.runR [] {} (aaOps ++ [.renameSpace ["A", "A"] "B"])).ids = [["A"], ["A", "B"], ["T"]] := by
  rw [St.runR_append, aa_run]; decide +kernel
example : (St.runR [] {} (aaOps ++ [.renameSpace ["A", "A"] "B"])).basesOf ["T"] = [["A", "B"]] := by
  rw [St.runR_append, aa_run]; decide +kernel
example : (St.runR [] {} (aaOps ++ [.renameSpace ["A", "A"] "B"])).mem .cells ["T"] "f"
    = some { derived := true, payload := 1 } := by
  rw [St.runR_append, aa_run]; decide +kernel
example : ((St.runR [] {} aaOps).stepR [] (.renameSpace ["A", "A"] "A")).2 = false := by
  rw [aa_run]; decide +kernel
example : ((St.runR [] {} aaOps).stepR [] (.renameSpace ["A", "A"] "g")).2 = false := by
  rw [aa_run]; decide +kernel
example : ((St.runR [] {} aaOps).stepR [] (.renameSpace ["A", "A"] "_x")).2 = false := by
  rw [aa_run]; decide +kernel
example : ((St.runR [] {} aaOps).stepR [] (.renameSpace ["A"] "T")).2 = false := by
  rw [aa_run]; decide +kernel
example : ((St.runR [] {} aaOps).stepR [] (.renameSpace ["A"] "C")).1.ids = [["C"], ["C", "A"], ["T"]] := by
  rw [aa_run]; decide +kernel
example := rename_space_keeps_names_unique_and_valid [] (aaOps ++ [.renameSpace ["A", "A"] "B"])
example := (refused_rename_changes_nothing [] (St.runR [] {} aaOps) ["A", "A"] "g").1
  (by rw [aa_run]; decide +kernel)

/-- **negative witness (seeded change C12-mutG)**: relabelling the FIRST component that equals the old name,
instead of the component at the position of the renamed space, is not the model's rename on `A.A`, and
breaks the invariant: `T`'s direct base becomes `B.A`, which is the id of no space (graph node ids are no
longer the paths of the tree) -/
theorem first_component_relabelling_breaks_invariant :
    ((St.runR [] {} aaOps).renameSpaceFirst ["A", "A"] "B").basesOf ["T"] = [["B", "A"]] ∧
    ((St.runR [] {} aaOps).stepR [] (.renameSpace ["A", "A"] "B")).1.basesOf ["T"] = [["A", "B"]] ∧
    ¬ Inv ((St.runR [] {} aaOps).renameSpaceFirst ["A", "A"] "B") := by
  rw [aa_run]
  refine ⟨by decide +kernel, by decide +kernel, ?_⟩
  intro h
  have := h.wf.bases ["T"] ["B", "A"] (by decide +kernel)
  revert this
  decide +kernel

end mechanism

end MxModel.C12
