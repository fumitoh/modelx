import MxModel.Proofs.PathCodec
import MxModel.Proofs.DocQuote
import MxModel.Kernels.Dispatch
import MxModel.Proofs.SaveFiles
import MxModel.Proofs.SerialDispatch
import MxModel.Proofs.SerialMain
import MxModel.Proofs.SerialOrder
/-!
# C04 – Write/read round trip

Property theorems only (helper lemmas are in `Proofs/PathCodec.lean`, `Proofs/DocQuote.lean`,
`Proofs/SerialDispatch.lean`, `Proofs/SaveFiles.lean` and `Proofs/Serial*.lean`), in the order of the sections:

* `Kernels/PathCodec.lean` – `abs_to_rel` / `rel_to_abs` and the tuple forms of
  `modelx/core/util.py`, by which direct bases, object-valued references and the addresses of
  ItemSpace inputs are stored relative to the space that holds them.
* `Kernels/DocQuote.lean` – `quote_docstring` of `modelx/core/formula.py` (the writer of every
  documentation string since commit 2b72506) against Python's reading of a triple-quoted
  literal: tokenizer, escape decoder, universal newlines, the line re-join of a def's source.
* `Kernels/Dispatch.lean` – the selector classes, their `condition`s and the reader's phases as they
  stand in `serializer_6.py` now: every value finds an encoder, what an encoder writes is taken by the
  decoder made for it, every deferred instruction is executed, in the order the round trip depends on.
* `Kernels/SaveFiles.lean` – one call of `write_model` / `zip_model` by file NAME: the backup
  rotation, the in-place directory writer, the build-aside-and-move archive writer.  Whatever a
  history of earlier writes left at the path, the target afterwards holds exactly the entries of
  this write.
* `Kernels/Serial.lean`, `SerialRead.lean`, `SerialWF.lean` – `ModelWriter` and `ModelReader` at the level
  of logical statements, for model descriptions of any size (space tree, bases, formulas, flags,
  references, inputs): `read (write m) = .ok m` for every well-formed description under the seven
  hypotheses `Hk`, one per recorded finding, each shown to be needed (`read_write_round_trip_partial`).

A description is not the live model.  That the description of the model read back equals the description
of the model written (with the real files in between), that the values are equal, directory = zip, write
inert, the content of the pickles: no theorem; checked on the implementation (harness `props/c04.py`
with `serialworld.py`, and `c04hist.py` for histories of writes to one path).
-/
namespace MxModel.C04
open MxModel.PathCodec MxModel.DocQuote MxModel.Dispatch MxModel.Generated

/-! ## Relative addresses -/

/-- **Tuple form, no precondition at all**: for every target and every namespace id tuple
(names and ItemSpace argument tuples in any mixture, either of them possibly empty) the
reader rebuilds exactly the target from what the writer stored.  `rel_to_abs_tuple` can
raise (`IndexError` on `()`, `ValueError` when the first element is not a run of dots) but
never on the writer's output. -/
theorem rel_abs_roundtrip_tuple (t ns : List Elem) :
    relToAbsTuple (absToRelTuple t ns) ns = .ok t :=
  relToAbsTuple_absToRelTuple t ns

/-- the relative form determines the target: two different objects never get the same
stored address in one space -/
theorem abs_to_rel_tuple_injective (t t' ns : List Elem)
    (h : absToRelTuple t ns = absToRelTuple t' ns) : t = t' := by
  have a := rel_abs_roundtrip_tuple t ns
  rw [h, rel_abs_roundtrip_tuple t' ns] at a
  exact (Except.ok.inj a).symm

/-- the first name of `t` that is not shared with `ns` (if any) is not the empty string -/
def FreshNameNonEmpty (t ns : List Char) : Prop :=
  ∀ w, ((splitDot t).drop (sharedLen (splitDot t) (splitDot ns))).head? = some w → w ≠ []

instance (t ns : List Char) : Decidable (FreshNameNonEmpty t ns) := by
  unfold FreshNameNonEmpty
  cases h : ((splitDot t).drop (sharedLen (splitDot t) (splitDot ns))).head? with
  | none => exact isTrue (by simp)
  | some w =>
    by_cases hw : w = []
    · exact isFalse (fun f => f w rfl hw)
    · exact isTrue (by intro w' e; cases e; exact hw)

/-- **String form**: `rel_to_abs(abs_to_rel(t, ns), ns) == t` for every namespace string and
every target whose first not-shared name is non-empty.  (The reader counts the leading dots
of the stored text; an empty name right after them would be swallowed.) -/
theorem rel_abs_roundtrip_partial (t ns : List Char) (h : FreshNameNonEmpty t ns) :
    relToAbs (absToRel t ns) ns = t :=
  relToAbs_absToRel_of_fresh t ns h

/-- …in particular for every dotted name modelx can produce (all names non-empty) and every
namespace -/
theorem rel_abs_roundtrip (t ns : List Char) (h : ValidDotted t) :
    relToAbs (absToRel t ns) ns = t :=
  relToAbs_absToRel t ns h

/-- the precondition is needed: `rel_to_abs(abs_to_rel("a.", "a"), "a") == "a"` -/
theorem rel_abs_roundtrip_full_fails : ¬ ∀ t ns : List Char, relToAbs (absToRel t ns) ns = t := by
  intro h
  have := h "a.".toList "a".toList
  revert this
  decide

/-! ## Documentation strings -/

/-- **The docstring codec is faithful for EVERY string**: whatever the documentation string
is (quotes anywhere, backslashes, NUL, carriage returns, any line boundary, any other
character), the text `quote_docstring` produces, read as a file in text mode and then as a
Python literal, is exactly one triple-quoted string token whose value is the string. -/
theorem doc_quote_roundtrip (doc : List Char) : readLiteral (quoteDocstring doc) = some doc := by
  rw [readLiteral_eq_some]
  refine ⟨quoteBody 0 doc, ?_, dec_quoteBody doc 0⟩
  have h := lexLit_quoteDocstring doc []
  simpa [universalNl, nlAux] using h

/-- two different documentation strings are never written as the same text -/
theorem quote_docstring_injective (d d' : List Char) (h : quoteDocstring d = quoteDocstring d') :
    d = d' := by
  have a := doc_quote_roundtrip d
  rw [h, doc_quote_roundtrip d'] at a
  exact (Option.some.inj a).symm

/-- **The written literal is lexically one token, whatever follows it**: the tokenizer's
closing `"""` are the three quotes the writer put at the end (no quote of the documentation
string completes a run of three, and the closing quotes are not swallowed by a backslash or
joined by a trailing quote of the string), the token's body is what the writer put between
the quotes, and the text after the statement is left as it is. -/
theorem doc_quote_one_token (doc tail : List Char) :
    lexLit (quoteDocstring doc ++ tail) = some (quoteBody 0 doc, universalNl tail) :=
  lexLit_quoteDocstring doc tail

/-- …and it does not end earlier: on every proper prefix of the written body-and-closing-quotes
the tokenizer finds no end of the literal -/
theorem doc_quote_no_early_end (doc p s : List Char) (h : quoteBody 0 doc ++ qqq = p ++ s) (hs : s ≠ []) :
    scanTok 0 p = none := by
  cases hp : scanTok 0 p with
  | none => rfl
  | some tr =>
    obtain ⟨t, r⟩ := tr
    have h1 := scanTok_append 0 p t r s hp
    have h2 := scanTok_quoteBody doc 0 [] (by omega) (fun _ => rfl)
    rw [List.append_nil, h, h1] at h2
    simp only [Option.some.injEq, Prod.mk.injEq, List.append_eq_nil_iff] at h2
    exact absurd h2.2.2 hs

/-- **The written literal holds no character a source text does not keep**: no NUL, no
carriage return and none of the other characters at which `str.splitlines` splits a text –
only line feeds separate its lines. -/
theorem doc_quote_source_safe (doc : List Char) (x : Char) (h : x ∈ quoteDocstring doc) :
    x ∉ sourceUnsafe :=
  quoteDocstring_sourceSafe doc x h

/-- hence reading the file in text mode (universal newlines) does not alter it … -/
theorem doc_quote_newline_stable (doc : List Char) :
    universalNl (quoteDocstring doc) = quoteDocstring doc :=
  universalNl_noCr _ (quoteDocstring_noCr doc)

/-- … and neither does the line re-join `"\n".join(source.splitlines())` that `FunctionDefParser`
applies to the source of a def when a model is read (the `Formula` constructor cuts at `\r\n`, `\r`,
`\n` only since 067a1c5 – a coarser cut, for which the same holds): a docstring written by
`quote_docstring` (`set_doc`) inside a def whose text before it has no such character
either stays where it is, character for character. -/
theorem doc_quote_survives_line_rejoin (doc pre post : List Char)
    (hpre : ∀ x ∈ pre, x ∉ sourceUnsafe) (hpost : post ≠ []) :
    splitJoin false (pre ++ quoteDocstring doc ++ post)
      = pre ++ quoteDocstring doc ++ splitJoin false post := by
  rw [List.append_assoc, splitJoin_append_safe pre _ hpre (by simp [quoteDocstring, qqq]),
    splitJoin_append_safe _ _ (quoteDocstring_sourceSafe doc) hpost, List.append_assoc]

/-! ### Regression: the documentation strings that the un-escaped writer lost

(`'"""' + doc + '"""'` before 2b72506: the first three made the written model unreadable,
the last three came back changed; findings C04-doc-quote, C04-doc-backslash, C04-doc-cr) -/

theorem doc_ending_in_quote_readable :
    String.ofList (quoteDocstring "a\"".toList) = "\"\"\"a\\\"\"\"\"" ∧
    readLiteral (quoteDocstring "a\"".toList) = some "a\"".toList := by decide +kernel
theorem doc_with_triple_quote_readable :
    String.ofList (quoteDocstring "a\"\"\"b".toList) = "\"\"\"a\"\"\\\"b\"\"\"" ∧
    readLiteral (quoteDocstring "a\"\"\"b".toList) = some "a\"\"\"b".toList := by decide +kernel
theorem doc_ending_in_backslash_readable :
    String.ofList (quoteDocstring "a\\".toList) = "\"\"\"a\\\\\"\"\"" ∧
    readLiteral (quoteDocstring "a\\".toList) = some "a\\".toList := by decide +kernel
theorem doc_with_escape_unchanged :
    readLiteral (quoteDocstring "a\\nb".toList) = some "a\\nb".toList := by decide +kernel
theorem doc_with_escaped_quote_unchanged :
    readLiteral (quoteDocstring "a\\\"".toList) = some "a\\\"".toList := by decide +kernel
theorem doc_with_carriage_return_unchanged :
    String.ofList (quoteDocstring "a\r\nb".toList) = "\"\"\"a\\r\nb\"\"\"" ∧
    readLiteral (quoteDocstring "a\r\nb".toList) = some "a\r\nb".toList := by decide +kernel

/-- what the reader does with the text the OLD writer produced for these strings (the reader
did not change): unreadable, or another value -/
theorem unescaped_text_was_unreadable_or_changed :
    readLiteral "\"\"\"a\"\"\"\"".toList = none ∧ readLiteral "\"\"\"a\"\"\"b\"\"\"".toList = none ∧
    readLiteral "\"\"\"a\\\"\"\"".toList = none ∧
    readLiteral "\"\"\"a\\nb\"\"\"".toList = some "a\nb".toList ∧
    readLiteral "\"\"\"a\r\nb\"\"\"".toList = some "a\nb".toList := by decide +kernel

/-! ## Dispatch tables (regenerated from `serializer_6.py` on every run) -/

/-- the `condition` of every encoder and decoder class is, as source text, the one the dispatch
model (`Kernels/Dispatch.lean`) was written for -/
theorem conditions_as_modelled :
    encoderConditions = modelledEncoderConditions ∧ decoderConditions = modelledDecoderConditions :=
  ⟨rfl, rfl⟩

/-- every reference value finds an encoder: the last class of `EncoderSelector` accepts
everything (so `select` never returns `None`) -/
theorem every_value_has_an_encoder :
    ∃ e, encoderClasses.getLast? = some e ∧ encoderConditions.lookup e = some (alwaysCondition "(cls, ref, writer)") := by
  decide +kernel

/-- every right-hand side finds a decoder, whatever its tag -/
theorem decoder_selection_total (tag : String) : (selectDecoder tag).isSome = true := by
  rw [selectDecoder_eq]; rfl

/-- what an encoder writes is taken by the decoder made for it: for every encoder that tags its
output, the FIRST decoder accepting the tag has that tag as its `DECTYPE` (the catch-all does not
get in before it); an encoder that writes bare text is one whose `condition` admits values of the
literal types only, and bare text falls through to the unconditional decoder.  (An encoder for
which the translator finds no tag is an extraction problem, and would fail here too: its condition
is not the literal one.) -/
theorem decoder_matches_encoder :
    ∀ e ∈ encoderTags, ∃ d, selectDecoder e.2 = some d ∧
      (if e.2 = "" then encoderConditions.lookup e.1 = some literalCondition ∧
          decoderConditions.lookup d.1 = some (alwaysCondition "(cls, node)")
       else d.2 = e.2) := by
  intro e he
  simp only [encoderTags, List.mem_cons, List.not_mem_nil, or_false] at he
  -- the one bare-text encoder apart, tags are compared; its condition is the table's own literal
  rcases he with rfl | rfl | rfl | rfl | rfl
  · exact ⟨_, selectDecoder_eq _, by decide +kernel⟩
  · exact ⟨_, selectDecoder_eq _, by rw [if_pos rfl]; exact ⟨rfl, by decide +kernel⟩⟩
  · exact ⟨_, selectDecoder_eq _, by decide +kernel⟩
  · exact ⟨_, selectDecoder_eq _, by decide +kernel⟩
  · exact ⟨_, selectDecoder_eq _, by decide +kernel⟩

/-- a tag kept for files of older versions (`DECTYPE_COMPAT`) is not a tag any encoder writes or
any decoder has as its own: it never diverts what the current version writes -/
theorem compat_tags_do_not_compete :
    ∀ c ∈ decoderCompatTags, c.2 ∉ encoderTags.map (·.2) ∧ c.2 ∉ decoderTags.map (·.2) := by decide +kernel

/-- every type `LiteralEncoder` admits has a text form that `LiteralDecoder` reads back -/
theorem literal_types_have_a_text_form : ∀ t ∈ literalTypes, t ∈ textLiteralTypes := by decide +kernel

/-- the pickled values are read (`read_pickledata()`) before every phase that looks them up:
cells inputs, references (`restore()` of the Pickle/IOSpec/Interface decoders), ItemSpace inputs;
and parsing comes first -/
theorem pickledata_read_before_use :
    readerSteps.head? = some ("parse_dir", 0) ∧
    callBefore "read_pickledata" "load_pickledata" = true ∧
    callBefore "read_pickledata" "set_ref" = true ∧
    callBefore "read_pickledata" "__setattr__" = true ∧
    callBefore "read_pickledata" "_set_dynamic_inputs" = true := by decide +kernel

/-- no deferred instruction is left behind: every name under which a parser files an
instruction is executed at parse time or in one of the phases of `_read_model_inner` -/
theorem every_instruction_is_executed :
    ∀ m ∈ instructionMethods, m ∈ atParseMethods ∨ (phaseOf m).isSome := by decide +kernel

/-- the order the round trip depends on: cells exist before bases are added, before their
inputs are loaded and before references (which may point at cells, also inherited ones) are
set; ItemSpace inputs come after the references (setting a reference deletes ItemSpaces). -/
theorem phases_in_dependency_order :
    phaseBefore "new_cells" "add_bases" = true ∧ phaseBefore "add_bases" "load_pickledata" = true ∧
    phaseBefore "add_bases" "set_ref" = true ∧ phaseBefore "add_bases" "__setattr__" = true ∧
    phaseBefore "set_ref" "_set_dynamic_inputs" = true ∧
    phaseBefore "__setattr__" "_set_dynamic_inputs" = true ∧
    phaseBefore "load_pickledata" "_set_dynamic_inputs" = true := by decide +kernel

example : selectDecoder "Pickle" = some ("PickleDecoder", "Pickle") := by rw [selectDecoder_eq]; decide +kernel
example : selectDecoder "" = some ("LiteralDecoder", "") := by rw [selectDecoder_eq]; decide +kernel
example : selectDecoder "DataSpec" = some ("IOSpecDecoder", "IOSpec") := by rw [selectDecoder_eq]; decide +kernel
example : selectDecoder "NoSuchTag" = some ("LiteralDecoder", "") := by rw [selectDecoder_eq]; decide +kernel
example : callStep "read_pickledata" = some 3 ∧ methodStep "load_pickledata" = some 4 := by decide +kernel
example : phaseOf "_set_dynamic_inputs" = some 4 := by decide +kernel

/-! ## Non-vacuity -/

/-- two branches that diverge below the model and carry the same name again at the same depth
(`M.A.C.foo` seen from `M.B.C`): only the leading `M` is shared -/
example : absToRelTuple [.str "M".toList, .str "A".toList, .str "C".toList, .str "foo".toList]
      [.str "M".toList, .str "B".toList, .str "C".toList]
    = [.str "...".toList, .str "A".toList, .str "C".toList, .str "foo".toList] := by decide

example : relToAbsTuple [.str "...".toList, .str "A".toList, .str "C".toList, .str "foo".toList]
      [.str "M".toList, .str "B".toList, .str "C".toList]
    = .ok [.str "M".toList, .str "A".toList, .str "C".toList, .str "foo".toList] := by decide

example : String.ofList (absToRel "M.A.C".toList "M.B".toList) = "..A.C" := by decide
example : ValidDotted "M.A.C".toList := by decide
example : relToAbs (absToRel "M.A.C".toList "M.B".toList) "M.B".toList = "M.A.C".toList :=
  rel_abs_roundtrip _ _ (by decide)
/-- the reader accepts more than the writer produces: Python's negative slice -/
example : relToAbsTuple [.str ".....".toList, .str "x".toList]
      [.str "a".toList, .str "b".toList, .str "c".toList]
    = .ok [.str "a".toList, .str "b".toList, .str "x".toList] := by decide

/-- a documentation string with every kind of character the writer treats specially: quotes
at the start, a run of seven, a backslash before a quote, every key of the escape table, a
non-ASCII character, quotes at the end -/
def nastyDoc : List Char :=
  "\"\"x\"\"\"\"\"\"\"y\\\"z\\".toList ++
  [Char.ofNat 0, '\r', '\n', Char.ofNat 0x0b, Char.ofNat 0x0c, Char.ofNat 0x1c, Char.ofNat 0x1d,
   Char.ofNat 0x1e, Char.ofNat 0x85, Char.ofNat 0x2028, Char.ofNat 0x2029, Char.ofNat 0xe9,
   Char.ofNat 0x1F600] ++ "\\n\"\"".toList

example : String.ofList (quoteDocstring nastyDoc) =
    "\"\"\"\"\"x\"\"\\\"\"\"\\\"\"y\\\\\"z\\\\\\x00\\r\n\\x0b\\x0c\\x1c\\x1d\\x1e\\x85\\u2028\\u2029é😀\\\\n\"\\\"\"\"\"" := rfl
example : readLiteral (quoteDocstring nastyDoc) = some nastyDoc := doc_quote_roundtrip _
example : readLiteral (quoteDocstring nastyDoc) = some nastyDoc := by decide +kernel
example : quoteDocstring "a".toList ≠ quoteDocstring "b".toList :=
  fun h => absurd (quote_docstring_injective _ _ h) (by decide +kernel)
example : lexLit (quoteDocstring nastyDoc ++ "\nx = 1\r\n".toList)
    = some (quoteBody 0 nastyDoc, "\nx = 1\n".toList) := doc_quote_one_token _ _
/-- the hypotheses of `doc_quote_no_early_end` are satisfiable, and a text that is not the
writer's does end early -/
example : scanTok 0 "a\\\"\"\"".toList = none :=
  doc_quote_no_early_end "a\"".toList "a\\\"\"\"".toList "\"".toList (by decide +kernel) (by decide +kernel)
example : scanTok 0 "a\"\"\"\"".toList = some ("a\"\"\"".toList, "\"".toList) := by decide +kernel
example : Char.ofNat 0x2028 ∈ nastyDoc ∧ Char.ofNat 0x2028 ∈ sourceUnsafe ∧
    Char.ofNat 0x2028 ∉ quoteDocstring nastyDoc := by decide +kernel
example : universalNl (quoteDocstring nastyDoc) = quoteDocstring nastyDoc := doc_quote_newline_stable _
/-- text-mode reading does alter a text that holds a carriage return as it is -/
example : universalNl "a\r\nb\rc".toList = "a\nb\nc".toList := by decide +kernel
example : splitJoin false ("def f(x):\n    ".toList ++ quoteDocstring nastyDoc ++ "\n    return x\n".toList)
    = "def f(x):\n    ".toList ++ quoteDocstring nastyDoc ++ "\n    return x".toList := by
  rw [doc_quote_survives_line_rejoin _ _ _ (by decide +kernel) (by decide +kernel)]; decide +kernel
/-- the line re-join does alter a text that holds such a character as it is -/
example : splitJoin false "a\x0cb\r\nc\n".toList = "a\nb\nc".toList := by decide +kernel
/-- the reader model beyond the writer's output: octal, `\x`, `\u`, `\U`, unknown escapes,
line continuation; a truncated `\x` is an error -/
example : readLiteral "\"\"\"\\101\\x41\\u0041\\U00000041\\d\\\n\\0\"\"\"".toList
    = some ("AAAA\\d".toList ++ [Char.ofNat 0]) := by decide +kernel
example : readLiteral "\"\"\"\\x4\"\"\"".toList = none := by decide +kernel

/-! ## The save step: the target after a write = exactly the entries of this write

`read_model` trusts files by existence (`_data/<cells>`, `_data/_dynamic_inputs`, `_data/data.pickle`,
`_data/iospecs.pickle`); the directory writer writes below the final path and removes nothing.  That a
model written over an earlier, larger version of itself is read back as the model it is therefore
rests on `_increment_backups` having emptied the path first - for EVERY prior content of the path and
its backups, both formats, `backup` on or off. -/

section SaveStep
open MxModel.SaveFiles

/-- **The target holds exactly this write.**  For every prior state of the path and its backup slots
(directories or archives with any entries, from any earlier writes), every `max_backups`, both
formats: the save succeeds and the path then holds the entries this write produced, each with this
write's content - no entry of an earlier write, none missing, none twice. -/
theorem save_target_exact (fs : FS) (maxB : Nat) (k : Kind) (g : Nat) (names : List String)
    (h : names.Nodup) :
    ∃ fs', save maxB k g names fs = some fs' ∧ fs' 0 = .node k (names.map (fun n => (n, g))) := by
  refine ⟨_, save_eq fs maxB k g names, ?_⟩
  rw [FS.set_same]
  cases k with
  | dir => rw [writeAll_fresh g names [] h (by intro _ _ x hx; cases hx), List.nil_append]
  | zip => rfl

/-- every other slot is what the rotation made of it (the writers touch the path only) -/
theorem save_other_slots (fs fs' : FS) (maxB : Nat) (k : Kind) (g : Nat) (names : List String)
    (h : save maxB k g names fs = some fs') (i : Nat) (hi : i ≠ 0) : fs' i = incr fs maxB 0 i := by
  rw [save_eq, Option.some.injEq] at h
  subst h
  exact FS.set_other _ _ hi

/-- `backup=True`: an unbroken run of existing slots `path, _BAK1 .. _BAKj` (`j < max_backups`) moves up
by one: what was at the path is at `_BAK1`, what was at `_BAKn` is at `_BAKn+1` -/
theorem backups_shift (fs fs' : FS) (maxB : Nat) (k : Kind) (g : Nat) (names : List String)
    (h : save maxB k g names fs = some fs') (j : Nat) (hj : j < maxB)
    (hex : ∀ i, i ≤ j → fs i ≠ .absent) : fs' (j + 1) = fs j := by
  rw [save_other_slots fs fs' maxB k g names h (j + 1) (by omega)]
  exact incr_shift fs maxB 0 j (Nat.zero_le _) (by omega) (fun i _ b => hex i b)

/-- `backup=False` (`max_backups = 0`): no backup slot changes -/
theorem no_backup_keeps_other_slots (fs fs' : FS) (k : Kind) (g : Nat) (names : List String)
    (h : save 0 k g names fs = some fs') (i : Nat) (hi : i ≠ 0) : fs' i = fs i := by
  rw [save_other_slots fs fs' 0 k g names h i hi]
  exact incr_untouched fs 0 0 i (fun _ h => by omega)

/-- nothing beyond `_BAK<max_backups>` is ever touched (or created) -/
theorem nothing_beyond_max_backups (fs fs' : FS) (maxB : Nat) (k : Kind) (g : Nat) (names : List String)
    (h : save maxB k g names fs = some fs') (i : Nat) (hi : maxB < i) : fs' i = fs i := by
  rw [save_other_slots fs fs' maxB k g names h i (by omega)]
  exact incr_untouched fs maxB 0 i (fun _ h => by omega)

/-- the rotation stops at the first missing slot: backups behind a gap stay where they are -/
theorem backups_behind_a_gap_stay (fs fs' : FS) (maxB : Nat) (k : Kind) (g : Nat) (names : List String)
    (h : save maxB k g names fs = some fs') (gap i : Nat) (hg : fs gap = .absent) (hi : gap < i) :
    fs' i = fs i := by
  rw [save_other_slots fs fs' maxB k g names h i (by omega)]
  exact incr_untouched fs maxB 0 i (fun _ _ => ⟨gap, Nat.zero_le _, hi, hg⟩)

/-- adequacy of modelling `Path.rename` as overwriting: when `_increment_backups` renames slot `nth`
to `nth + 1`, the deeper call has left `nth + 1` free and has not touched `nth` -/
theorem rename_target_free (fs : FS) (fuel nth : Nat) :
    incr fs fuel (nth + 1) (nth + 1) = .absent ∧ incr fs fuel (nth + 1) nth = fs nth :=
  ⟨incr_start_absent fs fuel (nth + 1), incr_untouched fs fuel (nth + 1) nth (fun h => by omega)⟩

/-- **Histories**: after every write of any history of writes to one path (any mixture of formats and
backup settings, names pairwise different within a write) the path holds exactly that write -/
theorem after_every_write_of_a_history (ws : List Write) (h : ∀ w ∈ ws, w.names.Nodup)
    (i : Nat) (hi : i < ws.length) :
    ∃ fs', (run ws)[i]? = some (some fs') ∧
      fs' 0 = .node ws[i].kind (ws[i].names.map (fun n => (n, i))) := by
  suffices H : ∀ (ws : List Write) (g : Nat) (fs : FS), (∀ w ∈ ws, w.names.Nodup) →
      ∀ (i : Nat) (hi : i < ws.length), ∃ fs', (runFrom g fs ws)[i]? = some (some fs') ∧
        fs' 0 = .node ws[i].kind (ws[i].names.map (fun n => (n, g + i))) by
    simpa [run] using H ws 0 FS.empty h i hi
  intro ws
  induction ws with
  | nil => intro g fs _ i hi; cases hi
  | cons w ws ih =>
    intro g fs hnd i hi
    obtain ⟨fs1, e1, e2⟩ := save_target_exact fs w.maxB w.kind g w.names (hnd w (List.mem_cons_self ..))
    cases i with
    | zero => exact ⟨fs1, by simp [runFrom, e1], by simpa using e2⟩
    | succ i =>
      obtain ⟨fs', a, b⟩ := ih (g + 1) fs1 (fun w' hw => hnd w' (List.mem_cons_of_mem _ hw)) i
        (by simpa using hi)
      refine ⟨fs', by simp [runFrom, e1, a], ?_⟩
      have : g + (i + 1) = g + 1 + i := by omega
      simpa [this] using b

/-- the directory writer alone does not have the property: an entry of the old tree that this write
does not produce survives a write in place (any old entry, any names) ... -/
theorem write_in_place_keeps_other_entries (fs fs' : FS) (g : Nat) (names : List String)
    (old : List Entry) (x : Entry) (hfs : fs 0 = .node .dir old) (hx : x ∈ old) (hn : x.1 ∉ names)
    (h : writeDir g names fs = some fs') : ∃ es, fs' 0 = .node .dir es ∧ x ∈ es := by
  simp [writeDir, hfs] at h
  subst h
  exact ⟨_, FS.set_same _ _ _, writeAll_keeps g x names old hx hn⟩

/-- ... so "the target holds exactly this write" is false of the writer without the removal that
`_increment_backups` performs: the stale `_data/foo` of a cells whose input was withdrawn is still
there, and the reader would load it -/
theorem write_in_place_full_fails :
    ¬ ∀ (fs : FS) (g : Nat) (names : List String), names.Nodup →
        ∃ fs', writeDir g names fs = some fs' ∧ fs' 0 = .node .dir (names.map (fun n => (n, g))) := by
  intro H
  obtain ⟨fs', e1, e2⟩ := H (FS.empty.set 0 (.node .dir [("S/__init__.py", 0), ("S/_data/foo", 0)])) 1
    ["S/__init__.py"] (by decide)
  obtain ⟨es, e3, e4⟩ := write_in_place_keeps_other_entries _ fs' 1 ["S/__init__.py"] _ ("S/_data/foo", 0)
    (FS.set_same _ _ _) (by decide) (by decide) e1
  rw [e2] at e3
  injection e3 with _ e5
  subst e5
  revert e4
  decide

/-- non-vacuity.  A directory holding an earlier, larger version (an input file of `foo`, the pickle
table, an input log); the model is written again after the input was withdrawn. -/
def olderLarger : FS :=
  (FS.empty.set 0 (.node .dir [("__init__.py", 0), ("S/__init__.py", 0), ("S/_data/foo", 0),
    ("_data/data.pickle", 0), ("_input_log.txt", 0)])).set 1 (.node .zip [("__init__.py", 7)])

example : (save 0 .dir 1 ["__init__.py", "S/__init__.py"] olderLarger).map (fun fs => (fs 0, fs 1, fs 2))
    = some (.node .dir [("__init__.py", 1), ("S/__init__.py", 1)], .node .zip [("__init__.py", 7)], .absent) := by
  decide +kernel
example : (save 3 .zip 1 ["__init__.py", "S/__init__.py"] olderLarger).map (fun fs => (fs 0, fs 1 = olderLarger 0, fs 2, fs 3))
    = some (.node .zip [("__init__.py", 1), ("S/__init__.py", 1)], True, .node .zip [("__init__.py", 7)], .absent) := by
  simp [save, writer, writeZip, incr, olderLarger, FS.set, FS.empty]
/-- the writer alone, on the same state: the three stale entries are still there -/
example : (writeDir 1 ["__init__.py", "S/__init__.py"] olderLarger).map (fun fs => fs 0)
    = some (.node .dir [("__init__.py", 1), ("S/__init__.py", 1), ("S/_data/foo", 0),
        ("_data/data.pickle", 0), ("_input_log.txt", 0)]) := by
  decide +kernel
/-- a history: directory, archive over it with a backup, directory over that without -/
example : ((run [⟨.dir, 3, ["a", "b"]⟩, ⟨.zip, 3, ["a"]⟩, ⟨.dir, 0, ["a", "c"]⟩]).map
      (fun o => o.map (fun fs => (fs 0, fs 1))))
    = [some (.node .dir [("a", 0), ("b", 0)], .absent),
       some (.node .zip [("a", 1)], .node .dir [("a", 0), ("b", 0)]),
       some (.node .dir [("a", 2), ("c", 2)], .node .dir [("a", 0), ("b", 0)])] := by
  decide +kernel

end SaveStep

/-! ## The writer and the reader: `read (write m) = m`

`Kernels/Serial.lean` is `ModelWriter` at the level of statements: a model description `MDesc` (name,
documentation, `allow_none`, references of the model; per space: documentation, `allow_none`, direct bases,
parameter formula, defined cells with formula text / flags / documentation / input values, defined references
with value kind and mode, inputs inside ItemSpaces, child spaces) is written to one `__init__.py` per space -
the list of logical statements `SpaceEncoder` / `CellsEncoder` / `RefViewEncoder` emit - plus the `_data`
files by name and pickle ids.  `Kernels/SerialRead.lean` is `ModelReader`: `ParserSelector` / `DecoderSelector`
in the order of `Generated.parserClasses` / `decoderClasses`, the look-ahead of the cells parsers, the
deferred instructions executed in the phases of `Generated.readerPhases`, with the checks of the real
`add_bases` / `set_ref` that can fail.  A reordering of the selectors or of the phases in `serializer_6.py`
changes the regenerated tables and these theorems are re-checked against it.

`WellFormed` is what every model built through the API satisfies (unique names per container, valid names,
bases and targets of object-valued references exist, a lambda text starts with `lambda`).  `Hk` excludes the
recorded findings of C04, one named hypothesis each (`Kernels/SerialWF.lean`); below, every one of them is
shown to be needed by a kernel-checked witness. -/

section SerialRoundTrip
open MxModel.Serial

/-- **Write/read round trip, every model description of any size and depth.**  Reading what the writer
wrote succeeds and gives back the description: same space tree, direct bases, parameter formulas, cells
(formula text, `allow_none`, cached flag, documentation), references (value, mode, object-valued references
pointing at the same paths), documentation strings, input values including those inside ItemSpaces.
`_partial`: the hypotheses `Hk` are the known findings C04-refmode-noninterface, -derived-input,
-def-text-outside-node, -doc-section-marker, -ref-override-order, -relref-override-order and -bases-order. -/
theorem read_write_round_trip_partial (m : MDesc) (hwf : WellFormed m) (hk : Hk m) :
    Serial.read (Serial.write m) = .ok m :=
  read_write m hwf hk

/-- the `log_input` option adds a file the reader never opens -/
theorem read_write_round_trip_log_input_partial (m : MDesc) (hwf : WellFormed m) (hk : Hk m) :
    Serial.read (writeWith true m) = .ok m := by
  have h := read_write m hwf hk
  unfold Serial.read parseModel at h ⊢
  simpa [Serial.write, writeWith, Dir.init, Dir.data, Dir.subs, Dir.depth] using h

/-- two descriptions that are written to the same files are the same description -/
theorem write_injective_partial (m m' : MDesc) (hwf : WellFormed m) (hk : Hk m) (hwf' : WellFormed m')
    (hk' : Hk m') (h : Serial.write m = Serial.write m') : m = m' := by
  have a := read_write m hwf hk
  rw [h, read_write m' hwf' hk'] at a
  exact (Except.ok.inj a).symm

/-- a written model that is read and written again gives the same files -/
theorem write_read_write_partial (m m' : MDesc) (hwf : WellFormed m) (hk : Hk m)
    (h : Serial.read (Serial.write m) = .ok m') : Serial.write m' = Serial.write m := by
  rw [read_write m hwf hk] at h
  rw [Except.ok.inj h]

/-- **which files exist**: exactly one `__init__.py` for the model and one per space, at the path of the
space, in tree order; below `_data/`: the model's pickle tables, and per space one file per cells that holds
input values and `_dynamic_inputs` if an ItemSpace holds one - nothing else (the entry names
`Kernels/SaveFiles.lean` speaks about). -/
theorem files_of_write (logInput : Bool) (m : MDesc) :
    (writeWith logInput m).initPaths [] = [] :: spacesPaths [] m.spaces ∧
    (writeWith logInput m).dataPaths [] =
      (modelData m).map (fun d => (([] : Serial.Path), d.1)) ++
        (infosOfL [] m.spaces).flatMap (fun e => (dataNames e.2).map (fun n => (own e, n))) ∧
    (writeWith logInput m).other = fSystem :: (if logInput then [fInputLog] else []) := by
  refine ⟨?_, ?_, rfl⟩
  · simp [writeWith, Dir.initPaths, initPathsL_writeSpaces]
  · simp [writeWith, Dir.dataPaths, dataPathsL_writeSpaces]

/-- `data.pickle` exists exactly when some value is pickled, and then lists exactly the ids in use -/
theorem pickle_table_of_write (m : MDesc) :
    pickleTable (Serial.write m).data = pickleIds m := pickleTable_modelData m

/-! ### a concrete model: two spaces, a base, lambda and def cells, object-valued references in two modes, a
pickled input value, an input inside an ItemSpace, a child space -/

def exFoo : CellsD := ⟨"foo".toList, .lambda "lambda x: x + 1".toList, some true, false, some "doc of foo".toList,
  [("1".toList, "2".toList)]⟩
def exBar : CellsD := ⟨"bar".toList, .defn "def bar(x):\n    return 2 * x".toList "def bar(x):\n    return 2 * x".toList,
  none, true, none, []⟩
def exA : SpaceD := .mk ⟨"A".toList, some "space A".toList, some false, none, [], [exFoo, exBar],
  [⟨"k".toList, .literal "3".toList, .auto⟩, ⟨"p".toList, .pickled "7".toList, .auto⟩], [], []⟩ []
def exC : SpaceD := .mk ⟨"C".toList, none, none, none, [], [],
  [⟨"u".toList, .interface ["B".toList], .relative⟩], [], []⟩ []
def exB : SpaceD := .mk ⟨"B".toList, none, none, some (.lambda "lambda i: None".toList), [["A".toList]], [],
  [⟨"t".toList, .interface ["A".toList, "foo".toList], .absolute⟩],
  [⟨[.key "9".toList, .str "foo".toList], "1".toList, "2".toList⟩], []⟩ [exC]
def exModel : MDesc := ⟨"M".toList, some "the model".toList, false, [("gk".toList, .literal "5".toList)], [exA, exB]⟩

private theorem exModel_wf : WellFormed exModel := by decide +kernel
private theorem exModel_hk : Hk exModel := by decide +kernel

example : WellFormed exModel := exModel_wf
example : Hk exModel := exModel_hk
example : Serial.read (Serial.write exModel) = .ok exModel :=
  read_write_round_trip_partial exModel exModel_wf exModel_hk
/-- the same by evaluation of writer and reader -/
example : Serial.read (Serial.write exModel) = .ok exModel := by decide +kernel
example : Serial.read (writeWith true exModel) = .ok exModel :=
  read_write_round_trip_log_input_partial exModel exModel_wf exModel_hk
example : ((Serial.write exModel).initPaths []).length = 4 := by decide +kernel
example : (Serial.write exModel).initPaths [] = [[], ["A".toList], ["B".toList], ["B".toList, "C".toList]] :=
  (files_of_write false exModel).1
example : (Serial.write exModel).dataPaths [] =
    [([], "data.pickle".toList), (["A".toList], "foo".toList), (["B".toList], "_dynamic_inputs".toList)] := by
  decide +kernel
example : pickleTable (Serial.write exModel).data = ["7", "1", "2", "1", "2", "9"].map String.toList := by
  decide +kernel
/-- the hypotheses of `write_injective_partial` hold for two different descriptions, and their files differ -/
example : Serial.write exModel ≠ Serial.write { exModel with allowNone := true } := fun h => by
  have := write_injective_partial exModel { exModel with allowNone := true } exModel_wf exModel_hk
    exModel_wf ⟨exModel_hk.refmode, exModel_hk.derivedInput, exModel_hk.defText, by decide +kernel,
      exModel_hk.basesOrder, exModel_hk.refOverride, exModel_hk.relRefOverride⟩ h
  revert this; decide +kernel
example : Serial.write exModel = Serial.write exModel :=
  write_read_write_partial exModel exModel exModel_wf exModel_hk
    (read_write_round_trip_partial exModel exModel_wf exModel_hk)
/-- how many statements the model writes to `A/__init__.py` and `B/__init__.py` -/
example : (Serial.write exModel).subs.map (fun d => d.init.map List.length) = [some 15, some 7] := by
  decide +kernel

/-! ### every hypothesis of `Hk` is needed (the recorded findings, in the model) -/

def exSpace (name : String) (bases : List Serial.Path) (refs : List RefD) (kids : List SpaceD := []) : SpaceD :=
  .mk ⟨name.toList, none, none, none, bases, [], refs, [], []⟩ kids

def RoundTripFails (m : MDesc) : Prop := WellFormed m ∧ Serial.read (Serial.write m) ≠ .ok m

/-- C04-refmode-noninterface: `set_ref("k", 3, "absolute")` comes back `auto` -/
def exRefMode : MDesc := ⟨"M".toList, none, false, [], [exSpace "A" [] [⟨"k".toList, .literal "3".toList, .absolute⟩]]⟩
private theorem exRefMode_read : Serial.read (Serial.write exRefMode) =
    .ok ⟨"M".toList, none, false, [], [exSpace "A" [] [⟨"k".toList, .literal "3".toList, .auto⟩]]⟩ :=
  (read_write_normalise exRefMode (by decide +kernel) (by decide +kernel) (by decide +kernel)
    (by decide +kernel) (by decide +kernel)).trans
    (by decide +kernel)
theorem refmode_noninterface_full_statement_fails :
    ¬ ∀ m, WellFormed m → NoDerivedInputs m → DefTextIsNode m → NoMarkerInText m → NoBasesOrderConflict m →
      NoRefOverrideOrder m → NoRelRefOverrideOrder m → Serial.read (Serial.write m) = .ok m := fun h =>
  absurd (h exRefMode (by decide +kernel) (by decide +kernel) (by decide +kernel) (by decide +kernel)
    (by decide +kernel) (by decide +kernel) (by decide +kernel)) (by rw [exRefMode_read]; decide +kernel)
example : ¬ RefModesWritten exRefMode := by decide +kernel
example : Serial.read (Serial.write exRefMode) =
    .ok ⟨"M".toList, none, false, [], [exSpace "A" [] [⟨"k".toList, .literal "3".toList, .auto⟩]]⟩ := exRefMode_read

/-- C04-derived-input: an input value of an inherited cells is not written -/
def exDerivedInput : MDesc := ⟨"M".toList, none, false, [],
  [.mk ⟨"A".toList, none, none, none, [], [⟨"foo".toList, .lambda "lambda x: x".toList, none, true, none, []⟩], [], [], []⟩ [],
   .mk ⟨"B".toList, none, none, none, [["A".toList]], [], [], [], [("foo".toList, [("1".toList, "2".toList)])]⟩ []]⟩
theorem derived_input_full_statement_fails :
    ¬ ∀ m, WellFormed m → RefModesWritten m → DefTextIsNode m → NoMarkerInText m → NoBasesOrderConflict m →
      NoRefOverrideOrder m → NoRelRefOverrideOrder m → Serial.read (Serial.write m) = .ok m := fun h =>
  absurd (h exDerivedInput (by decide +kernel) (by decide +kernel) (by decide +kernel) (by decide +kernel)
    (by decide +kernel) (by decide +kernel) (by decide +kernel)) (by
  rw [read_write_normalise exDerivedInput (by decide +kernel) (by decide +kernel) (by decide +kernel)
    (by decide +kernel) (by decide +kernel)]
  decide +kernel)
example : ¬ NoDerivedInputs exDerivedInput := by decide +kernel

/-- C04-def-text-outside-node: a comment line after the last statement of a `def` is dropped -/
def exDefText : MDesc := ⟨"M".toList, none, false, [],
  [.mk ⟨"A".toList, none, none, none, [],
    [⟨"dd".toList, .defn "def dd(x):\n    return x\n# c\n".toList "def dd(x):\n    return x\n".toList, none, true, none, []⟩],
    [], [], []⟩ []]⟩
theorem def_text_outside_node_full_statement_fails :
    ¬ ∀ m, WellFormed m → RefModesWritten m → NoDerivedInputs m → NoMarkerInText m → NoBasesOrderConflict m →
      NoRefOverrideOrder m → NoRelRefOverrideOrder m → Serial.read (Serial.write m) = .ok m := fun h =>
  absurd (h exDefText (by decide +kernel) (by decide +kernel) (by decide +kernel) (by decide +kernel)
    (by decide +kernel) (by decide +kernel) (by decide +kernel)) (by
  rw [read_write_normalise exDefText (by decide +kernel) (by decide +kernel) (by decide +kernel)
    (by decide +kernel) (by decide +kernel)]
  decide +kernel)
example : ¬ DefTextIsNode exDefText := by decide +kernel

/-- C04-doc-section-marker: the divider line followed by `# Cells` inside a space's documentation moves the
space's `_allow_none` into the cells section, where it is ignored -/
def exMarker : MDesc := ⟨"M".toList, none, false, [],
  [.mk ⟨"A".toList, some ("first\n".toList ++ dividerLine ++ "\n# Cells\nlast".toList), some true, none, [], [], [], [], []⟩ []]⟩
private theorem exMarker_read :
    (Serial.read (Serial.write exMarker)).map (fun r => r.spaces.map (fun s => s.info.allowNone)) = .ok [none] := by
  decide +kernel
theorem doc_section_marker_full_statement_fails :
    ¬ ∀ m, WellFormed m → RefModesWritten m → NoDerivedInputs m → DefTextIsNode m → NoBasesOrderConflict m →
      NoRefOverrideOrder m → NoRelRefOverrideOrder m → Serial.read (Serial.write m) = .ok m := fun h =>
  absurd exMarker_read (by
    rw [h exMarker (by decide +kernel) (by decide +kernel) (by decide +kernel) (by decide +kernel)
      (by decide +kernel) (by decide +kernel) (by decide +kernel)]
    decide +kernel)
example : ¬ NoMarkerInText exMarker := by decide +kernel
example : (Serial.read (Serial.write exMarker)).map (fun r => r.spaces.map (fun s => s.info.allowNone)) = .ok [none] :=
  exMarker_read

/-- C04-bases-order: `S0; S1(S0); S2(S1, S4); S3(S2, S4, S0); S4(S0)` has a C3
linearisation for every space, but not while `S4` is still without its base - and the reader adds the bases in
tree order -/
def exBasesOrder : MDesc := ⟨"M".toList, none, false, [],
  [exSpace "S0" [] [], exSpace "S1" [["S0".toList]] [], exSpace "S2" [["S1".toList], ["S4".toList]] [],
   exSpace "S3" [["S2".toList], ["S4".toList], ["S0".toList]] [], exSpace "S4" [["S0".toList]] []]⟩
private theorem exBasesOrder_read : Serial.read (Serial.write exBasesOrder) = .error .basesOrder := by
  rw [read_write_checks _ (by decide +kernel) (by decide +kernel)]; decide +kernel
theorem bases_order_full_statement_fails :
    ¬ ∀ m, WellFormed m → RefModesWritten m → NoDerivedInputs m → DefTextIsNode m → NoMarkerInText m →
      NoRefOverrideOrder m → NoRelRefOverrideOrder m → Serial.read (Serial.write m) = .ok m := fun h =>
  absurd (h exBasesOrder (by decide +kernel) (by decide +kernel) (by decide +kernel) (by decide +kernel)
    (by decide +kernel) (by decide +kernel) (by decide +kernel)) (by rw [exBasesOrder_read]; exact nofun)
example : ¬ NoBasesOrderConflict exBasesOrder := by decide +kernel
example : Serial.read (Serial.write exBasesOrder) = .error .basesOrder := exBasesOrder_read
/-- the complete graph is fine: every space has a linearisation -/
example : allMro (ctxOf exBasesOrder) (baseDefs exBasesOrder) = true := by decide +kernel
/-- and with `S4` before `S3` in the tree the same model is read back -/
example : Hk ⟨"M".toList, none, false, [],
  [exSpace "S0" [] [], exSpace "S1" [["S0".toList]] [], exSpace "S2" [["S1".toList], ["S4".toList]] [],
   exSpace "S4" [["S0".toList]] [], exSpace "S3" [["S2".toList], ["S4".toList], ["S0".toList]] []]⟩ := by
  decide +kernel

/-- C04-ref-override-order: `A(B)`, both define `k`, `A` first in the tree: `B.k` is created while the sub
space `A` already has the name -/
def exRefOverride : MDesc := ⟨"M".toList, none, false, [],
  [exSpace "A" [["B".toList]] [⟨"k".toList, .literal "1".toList, .auto⟩], exSpace "B" [] [⟨"k".toList, .literal "2".toList, .auto⟩]]⟩
private theorem exRefOverride_read : Serial.read (Serial.write exRefOverride) = .error .refConflict := by
  rw [read_write_checks _ (by decide +kernel) (by decide +kernel)]; decide +kernel
theorem ref_override_order_full_statement_fails :
    ¬ ∀ m, WellFormed m → RefModesWritten m → NoDerivedInputs m → DefTextIsNode m → NoMarkerInText m →
      NoBasesOrderConflict m → NoRelRefOverrideOrder m → Serial.read (Serial.write m) = .ok m := fun h =>
  absurd (h exRefOverride (by decide +kernel) (by decide +kernel) (by decide +kernel) (by decide +kernel)
    (by decide +kernel) (by decide +kernel) (by decide +kernel)) (by rw [exRefOverride_read]; exact nofun)
example : ¬ NoRefOverrideOrder exRefOverride := by decide +kernel
example : Serial.read (Serial.write exRefOverride) = .error .refConflict := exRefOverride_read
/-- the base first: fine -/
example : Hk ⟨"M".toList, none, false, [],
  [exSpace "B" [] [⟨"k".toList, .literal "2".toList, .auto⟩], exSpace "A" [["B".toList]] [⟨"k".toList, .literal "1".toList, .auto⟩]]⟩ := by
  decide +kernel

/-- C04-relref-override-order: `A.k` is a `relative` reference to `Z` (outside `A`), `B(A)` overrides `k`,
`A` first in the tree: `A.k` is created while `B` has no definition of its own yet -/
def exRelRef : MDesc := ⟨"M".toList, none, false, [],
  [exSpace "A" [] [⟨"k".toList, .interface ["Z".toList], .relative⟩],
   exSpace "B" [["A".toList]] [⟨"k".toList, .literal "2".toList, .auto⟩], exSpace "Z" [] []]⟩
private theorem exRelRef_read : Serial.read (Serial.write exRelRef) = .error .relRefConflict := by
  rw [read_write_checks _ (by decide +kernel) (by decide +kernel)]; decide +kernel
theorem relref_override_order_full_statement_fails :
    ¬ ∀ m, WellFormed m → RefModesWritten m → NoDerivedInputs m → DefTextIsNode m → NoMarkerInText m →
      NoBasesOrderConflict m → NoRefOverrideOrder m → Serial.read (Serial.write m) = .ok m := fun h =>
  absurd (h exRelRef (by decide +kernel) (by decide +kernel) (by decide +kernel) (by decide +kernel)
    (by decide +kernel) (by decide +kernel) (by decide +kernel)) (by rw [exRelRef_read]; exact nofun)
example : ¬ NoRelRefOverrideOrder exRelRef := by decide +kernel
example : Serial.read (Serial.write exRelRef) = .error .relRefConflict := exRelRef_read

/-- a closed form that implies `NoRefOverrideOrder`, whatever the order of the spaces in the tree: along the
lineage of every space (the space and its bases) every reference name has at most one definer -/
theorem no_ref_twice_in_lineage_suffices (m : MDesc) (hkeys : (refKeys m).Nodup)
    (h : noRefTwiceInLineage m = true) : NoRefOverrideOrder m :=
  refsPass_of_noRefTwice m hkeys h [] (refDefs m) rfl
example : (refKeys exModel).Nodup ∧ noRefTwiceInLineage exModel = true := by decide +kernel
example : NoRefOverrideOrder exModel := no_ref_twice_in_lineage_suffices exModel (by decide +kernel) (by decide +kernel)
/-- the witness of the finding has two definers of `k` in the lineage of `A` -/
example : noRefTwiceInLineage exRefOverride = false := by decide +kernel

/-- the full statement (no hypothesis beyond well-formedness) is false -/
theorem read_write_round_trip_full_statement_fails :
    ¬ ∀ m, WellFormed m → Serial.read (Serial.write m) = .ok m := fun h =>
  absurd (h exBasesOrder (by decide +kernel)) (by rw [exBasesOrder_read]; exact nofun)

/-! ### the order of the source matters: what the theorems above rest on in the regenerated tables -/

/-- the selectors as the proofs use them (a reordering in `serializer_6.py` fails here first) -/
theorem selector_orders_as_modelled :
    parserOrder = [.docstring, .importFrom, .rename, .lambdaAssign, .attrAssign, .refAssign, .spaceFuncDef,
      .cellsFuncDef] ∧
    decoderOrder = [.interface, .iospec, .module, .pickle, .literal] ∧ phaseChecks = true ∧
    (Op.dynInput [] [] []).phase = some 4 ∧ (Op.setRef [] (.literal []) []).phase = some 3 ∧
    (Op.addBases []).phase = some 1 :=
  ⟨parserOrder_eq, decoderOrder_eq, phaseChecks_eq, phase_dynInput _ _ _, phase_setRef _ _ _, phase_addBases _⟩

end SerialRoundTrip

end MxModel.C04
