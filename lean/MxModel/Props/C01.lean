import MxModel.Proofs.ExecSoundTop
import MxModel.Proofs.ExecTaint
import MxModel.Proofs.ExecGhostOps
import MxModel.Proofs.ExecLog
import MxModel.Exec.Expr
import MxModel.Proofs.ExprSpell
import MxModel.Proofs.ExprBindItem
/-!
# C01 – memoisation is transparent

The mechanism (`Exec/Mech.lean`: `eval_node`, `_eval_formula`, call stack, cache) against the
specification `Den` (`Exec/Prog.lean`: uncached evaluation of the formulas as pure
functions).  All theorems quantify over every environment `env` – every formula behaviour,
including formulas that catch their callees' failures – over every state reachable with
held values (`Good`), over every element and every depth.

`LimitNotCaughtInThisCall env n s` is the hypothesis of the `_partial` theorems: the recursion limit
is not hit during THIS evaluation (not even inside a `try`) – formally, the evaluation started from
`s` with the ghost flag `hit` lowered ends with the flag down.  It says nothing about earlier
evaluations: the flag is a ghost (`limit_flag_is_ghost`, `limit_flag_is_ghost_history`: no function
of the mechanism reads it; results and states are the same whatever it is), so a depth error in an
earlier call does not take later calls out of the theorems' scope.  Without the hypothesis the
statement is false of the model and of modelx for formulas that CATCH the depth error
(`full_statement_fails`, known finding C01-caught-deep); for formulas that let it propagate
(`DeepPropagatesEnv`) or that handle no failure at all (`NoCatchEnv`) no hypothesis about the limit
is needed (`eval_value_is_denotation_deep_propagates_partial`, `…_nocatch_partial`).
-/
namespace MxModel.C01
open MxModel.Exec

variable (env : Env) (inp : Node → Option Val)

/-- **The limit flag is a ghost**: a top-level call from a state in which the flag is up (an
earlier evaluation hit the limit) returns the same result and ends in the same state, flag up, as
from the state with the flag as it was. -/
theorem limit_flag_is_ghost (n : Node) (s : St) (b : Bool) :
    evalTop env n (s.orHit b) = ((evalTop env n s).1, (evalTop env n s).2.orHit b) :=
  evalTop_orHit env n s b

/-- …and so is every operation of the edit language (`C02.Op`: evaluations, value edits, reference
edits, formula / flag edits, cells deleted and created, limit changes, administrative calls): a
whole history run with the flag up gives the same definitions and the same state, flag up. -/
theorem limit_flag_is_ghost_history (ops : List C02.Op) (env : Env) (s : St) (b : Bool) :
    C02.run (env, s.orHit b) ops = ((C02.run (env, s) ops).1, (C02.run (env, s) ops).2.orHit b) :=
  C02.run_orHit ops env s b

/-- a sufficient condition that speaks of the flag in `s` itself: down before and after the call -/
theorem limit_not_caught_of_flag (n : Node) (s : St) (h0 : s.hit = false)
    (hend : (evalTop env n s).2.hit = false) : LimitNotCaughtInThisCall env n s :=
  LimitNotCaughtInThisCall.of_flag h0 hend

/-- **Values equal uncached evaluation (partial: `LimitNotCaughtInThisCall`).**  From any state in
which every held value is the spec's, whatever was computed before and in whatever order – and
whatever happened to the limit in earlier evaluations –, a top-level call that does not hit the
limit returns exactly the spec's result – value, or `FormulaError` carrying the spec's error – and
every value held afterwards is again the spec's. -/
theorem eval_value_is_denotation_partial (n : Node) (s : St)
    (hg : Good env inp s) (hlim : LimitNotCaughtInThisCall env n s) :
    (∀ v, (evalTop env n s).1 = .ok v → Den env inp n (.ok v)) ∧
    (∀ e tb, (evalTop env n s).1 = .formulaError e tb → Den env inp n (.err e)) ∧
    Good env inp (evalTop env n s).2 :=
  evalTop_sound env inp n s hg hlim

/-- **Conversely**: if pure evaluation of `n` stays within the configured limit, the call
returns exactly that result and does not hit the limit – whatever is cached, whatever earlier calls
did. -/
theorem eval_returns_denotation (n : Node) (s : St) (r : Res)
    (hg : Good env inp s)
    (hd : denoteN env inp (env.maxdepth + 1) n = (r, false)) :
    LimitNotCaughtInThisCall env n s ∧
    (∀ v, r = .ok v → (evalTop env n s).1 = .ok v) ∧
    (∀ e, r = .err e → ∃ tb, (evalTop env n s).1 = .formulaError e tb) :=
  evalTop_complete env inp n s r hg hd

/-- **The answer does not depend on what was computed before**: two states (two histories of
earlier evaluations) that both hold only correct values give the same result. -/
theorem order_independent (n : Node) (s s' : St)
    (hg : Good env inp s) (hg' : Good env inp s')
    (he : LimitNotCaughtInThisCall env n s) (he' : LimitNotCaughtInThisCall env n s')
    (v v' : Val) (hv : (evalTop env n s).1 = .ok v) (hv' : (evalTop env n s').1 = .ok v') : v = v' := by
  have a := (eval_value_is_denotation_partial env inp n s hg he).1 v hv
  have b := (eval_value_is_denotation_partial env inp n s' hg' he').1 v' hv'
  have := Den_det env inp n _ _ a b
  cases this; rfl

/-- **No hypothesis about the limit for formulas that let `DeepReferenceError` propagate**
(partial: `DeepPropagatesEnv` – formulas may handle any other failure of their callees, but a depth
error received from a callee ends the formula with that depth error; the complement is exactly the
known finding C01-caught-deep).  Whatever the limit is and wherever it is hit: every value a
top-level call returns is the spec's, an error it carries is the depth error or the spec's, and every
value held afterwards is the spec's – an uncaught depth error rolls the whole chain back and leaves
the values of the sub-evaluations that completed. -/
theorem eval_value_is_denotation_deep_propagates_partial (hdp : DeepPropagatesEnv env) (n : Node) (s : St)
    (hg : Good env inp s) :
    (∀ v, (evalTop env n s).1 = .ok v → Den env inp n (.ok v)) ∧
    (∀ e tb, (evalTop env n s).1 = .formulaError e tb → e = .deep ∨ Den env inp n (.err e)) ∧
    Good env inp (evalTop env n s).2 :=
  have h := evalTop_taint env inp (fun e => e = .deep) rfl hdp n s hg
  ⟨h.2.1, h.2.2, h.1⟩

/-- **…and for formulas that handle no failure** (partial: `NoCatchEnv`, the regime of C02): every
value returned is the spec's and the state stays correct after ANY call – returned, failed with any
error at any depth, or stopped by the limit anywhere. -/
theorem eval_value_is_denotation_nocatch_partial (hnc : NoCatchEnv env) (n : Node) (s : St)
    (hg : Good env inp s) :
    (∀ v, (evalTop env n s).1 = .ok v → Den env inp n (.ok v)) ∧ Good env inp (evalTop env n s).2 :=
  have h := evalTop_taint env inp (fun _ => True) trivial (taintClosedEnv_of_noCatch env hnc) n s hg
  ⟨h.2.1, h.1⟩

/-- **After any history**: in every state reachable by the thirteen-operation edit language of C02
(evaluations – returned, failed, stopped by the limit –, value / reference / formula / flag edits,
cells deleted and created, limit changes; regime `WF`: terminating, `NoCatch`, statically scoped),
a top-level call returns the spec's value under the CURRENT definitions and inputs – with no
hypothesis about the limit, in this call or any earlier one – and, when this call does not hit the
limit, a `FormulaError` carrying the spec's error. -/
theorem eval_after_any_history_partial (lt : Node → Node → Prop) (ho : StrictOrder lt) (env0 : Env)
    (hw0 : C02.WF env0 lt) (ops : List C02.Op) (hadm : C02.Admissible lt (env0, {}) ops) (n : Node) :
    (∀ v, (evalTop (C02.run (env0, {}) ops).1 n (C02.run (env0, {}) ops).2).1 = .ok v →
      Den (C02.run (env0, {}) ops).1 (inpOf (C02.run (env0, {}) ops).2) n (.ok v)) ∧
    (LimitNotCaughtInThisCall (C02.run (env0, {}) ops).1 n (C02.run (env0, {}) ops).2 →
      ∀ e tb, (evalTop (C02.run (env0, {}) ops).1 n (C02.run (env0, {}) ops).2).1 = .formulaError e tb →
      Den (C02.run (env0, {}) ops).1 (inpOf (C02.run (env0, {}) ops).2) n (.err e)) := by
  obtain ⟨hci, hw⟩ := C02.run_ci lt ho ops (env0, {}) hw0 (CI.empty env0 lt) hadm
  exact ⟨(eval_value_is_denotation_nocatch_partial _ _ hw.noCatch n _ hci.good).1,
    fun hlim => (eval_value_is_denotation_partial _ _ n _ hci.good hlim).2.1⟩

/-- **While an element holds a value its formula is never run again**: a top-level call for a
held element of a cached cells returns the held value and changes nothing – in particular
the execution log. -/
theorem held_never_reexecuted_top (n : Node) (s : St) (v : Val)
    (hc : env.cached n.1 = true) (hl : lookup s.data n = some v) :
    evalTop env n s = (.ok v, s) := by
  unfold evalTop; simp [hc, hl]

/-- …and the same for a call made from inside a formula: the evaluator for misses is not
invoked, the log is unchanged, the held value is returned.  (`ha`: the cells exists – a cells
that was deleted holds nothing, `C13.reachable_dead_cells_have_nothing`, and its name is not
bound.) -/
theorem held_never_reexecuted (ef : Node → St → Res × St) (n : Node) (s : St) (v : Val)
    (ha : env.alive n.1 = true)
    (hc : env.cached n.1 = true) (hl : lookup s.data n = some v) :
    (evalNode env ef n s).1 = .ok v ∧ (evalNode env ef n s).2.log = s.log ∧
    (evalNode env ef n s).2.data = s.data := by
  have he : evalNode env ef n s = (.ok v, s.hitEdge n) := by
    unfold evalNode; rw [if_pos ha, if_pos hc, hl]
  rw [he]
  exact ⟨rfl, (graphOnly_hitEdge s n).log, (sameCache_hitEdge s n).data⟩

/-! ### calls that bind to the same arguments denote the same element

A request `c(pos…, k=v…)` – from outside (`evalSpelled`, the driver's `eval`; `c[args]` and `c.value` are the
spellings without keywords) or from a formula (`Expr.callK`) – is bound against the signature of `c`
(`a` positional-or-keyword parameters, the last `dflt.length` of them with the defaults `dflt`) by
`bindKey`, the model of `node._bind_args`.  `Binds` / `canonKey` (`Proofs/ExprBindSpec.lean`) are
Python's rule: what is accepted, and the fully positional key with keyword values and trailing defaults
filled in.  All theorems hold for every signature, every spelling, every environment, every state. -/

/-- **`bindKey` is Python's rule**: a spelling binds iff there is no surplus positional argument, no
repeated keyword, every keyword names a parameter that has no positional argument, and every parameter
without a default is supplied; the bound key is the fully positional one (`canonKey`: positional
arguments, then keyword values, then the defaults of the LAST parameters). -/
theorem bind_is_pythons_rule (a : Nat) (dflt pos : List Val) (kw : List (Nat × Val)) (key : Key) :
    bindKey a dflt pos kw = some key ↔ Binds a dflt pos kw ∧ key = canonKey a dflt pos kw :=
  bindKey_iff a dflt pos kw key

/-- keyword arguments in any order, and the fully positional spelling of the bound key, denote the same
element; a bound key has one value per parameter -/
theorem bind_keyword_order_and_canonical (a : Nat) (dflt pos : List Val) (kw kw' : List (Nat × Val))
    (hp : kw.Perm kw') :
    bindKey a dflt pos kw = bindKey a dflt pos kw' ∧
    ∀ key, bindKey a dflt pos kw = some key → bindKey a dflt key [] = some key ∧ key.length = a :=
  ⟨bindKey_perm a dflt pos hp, fun key h => ⟨bindKey_canonical a dflt pos kw key h, bindKey_length a dflt pos kw key h⟩⟩

/-- **The exec layer's binder and the C07 kernel's binder are the same function**: under any injective naming of the parameters (`nm`; the driver and the harness use `a<i>`) and the
embedding of the C07 kernel's integer values, `bindKey` computes what `ItemSpace.bindArgs` computes – for
which `C07.bind_iff` / `bind_canonical` say that it is Python's rule – for every signature (`sigOf`: `a`
parameters, the last ones with the defaults `dflt`) and every spelling. -/
theorem bind_agrees_with_itemspace_binding (nm : Nat → String) (hinj : ∀ i j, nm i = nm j → i = j) (a : Nat)
    (dflt pos : List Int) (kw : List (Nat × Int)) :
    bindKey a (dflt.map .int) (pos.map .int) (kwVals kw) =
      (ItemSpace.bindArgs (sigOf nm a dflt) pos (kwNamed nm kw)).map (·.map Val.int) :=
  bindKey_eq_bindArgs hinj a dflt pos kw

example : bindKey 3 [.int 100, .int 10] [] [(2, .int 5), (0, .int 3)] =
    (ItemSpace.bindArgs (sigOf nmA 3 [100, 10]) [] [("aa", 5), ("", 3)]).map (·.map Val.int) :=
  bind_agrees_with_itemspace_binding nmA nmA_inj 3 [100, 10] [] [(2, 5), (0, 3)]

/-- **Equal spellings, same element (top level).**  Two spellings – positional, keyword in any order,
mixed, relying on defaults – that bind to the same key are, in the mechanism, the same request: what
either of them does is `evalTop` of the one node `(c, key)` – same result, same resulting state (cache,
graphs, log). -/
theorem equal_spellings_same_element (c : CellId) (a : Nat) (dflt pos pos' : List Val)
    (kw kw' : List (Nat × Val)) (key : Key)
    (h : bindKey a dflt pos kw = some key) (h' : bindKey a dflt pos' kw' = some key) (s : St) :
    evalSpelled env c a dflt pos kw s = (.res (evalTop env (c, key) s).1, (evalTop env (c, key) s).2) ∧
    evalSpelled env c a dflt pos' kw' s = evalSpelled env c a dflt pos kw s := by
  rw [evalSpelled_of_bind h, evalSpelled_of_bind h']
  exact ⟨rfl, rfl⟩

/-- … stated with Python's rule: every accepted spelling evaluates the element `canonKey` -/
theorem spelling_denotes_canonical_element (c : CellId) (a : Nat) (dflt pos : List Val)
    (kw : List (Nat × Val)) (hb : Binds a dflt pos kw) (s : St) :
    evalSpelled env c a dflt pos kw s =
      (.res (evalTop env (c, canonKey a dflt pos kw) s).1, (evalTop env (c, canonKey a dflt pos kw) s).2) :=
  evalSpelled_of_bind (bindKey_of_binds hb) s

/-- **One cache entry, computed once for both.**  For a cached cells: after a request under one spelling
has returned `v`, the element is held under the bound key – under exactly one cache entry when it was not
held before – and a request under ANY other spelling of the same key returns `v` and leaves the whole
state as it is: no formula runs (the execution log is unchanged), no second entry is made. -/
theorem equal_spellings_computed_once (c : CellId) (a : Nat) (dflt pos pos' : List Val)
    (kw kw' : List (Nat × Val)) (key : Key) (hc : env.cached c = true)
    (h : bindKey a dflt pos kw = some key) (h' : bindKey a dflt pos' kw' = some key) (s : St) (v : Val)
    (hv : (evalSpelled env c a dflt pos kw s).1 = .res (.ok v)) :
    lookup (evalSpelled env c a dflt pos kw s).2.data (c, key) = some v ∧
    (lookup s.data (c, key) = none →
      (evalSpelled env c a dflt pos kw s).2.data.filter (fun e => e.1 == (c, key)) = [((c, key), v)]) ∧
    evalSpelled env c a dflt pos' kw' (evalSpelled env c a dflt pos kw s).2 =
      (.res (.ok v), (evalSpelled env c a dflt pos kw s).2) := by
  rw [evalSpelled_of_bind h] at hv ⊢
  simp only [SpelledRes.res.injEq] at hv
  have hheld := evalTop_ok_held env (c, key) s v hc hv
  refine ⟨hheld, fun hl => evalTop_ok_one_entry env (c, key) s v hc hl hv, ?_⟩
  rw [evalSpelled_of_bind h', held_never_reexecuted_top env (c, key) _ v hc hheld]

/-- **Spellings that do not bind are refused before anything is evaluated**: `TypeError`, the state is
untouched. -/
theorem unbound_spelling_refused (c : CellId) (a : Nat) (dflt pos : List Val) (kw : List (Nat × Val))
    (hb : ¬ Binds a dflt pos kw) (s : St) :
    evalSpelled env c a dflt pos kw s = (.typeError, s) :=
  evalSpelled_of_none ((bindKey_eq_none_iff a dflt pos kw).mpr hb) s

/-- **Calls from formulas.**  Whatever the argument expressions are: once they are evaluated (in source
order, as Python does), a spelled call `c(e…, k=e…)` IS the plain positional call of the bound key, or –
when the values do not bind – a `TypeError` raised in the caller with no call made. -/
theorem spelled_call_is_positional_call_of_bound_key (ar : CellId → Option Nat) (params : List Val) (c : CellId)
    (a : Nat) (args : List Expr) (npos : Nat) (kws : List Nat) (dflt : List Val) (hc : ar c = some a)
    (k : Val → Prog) (hh : Bool → Err → Prog) :
    compile ar params (.callK c args npos kws dflt) k hh =
      compileArgs ar params args (fun vs =>
        match bindKey a dflt (vs.take npos) (kws.zip (vs.drop npos)) with
        | some key => compile ar params (.call c (key.map valExpr)) k hh
        | none => hh true (.user kType)) hh :=
  compile_callK ar params c a args npos kws dflt hc k hh

/-- **Equal spellings, same element (inside formulas).**  Two spelled calls whose arguments are
effect-free expressions (literals, parameters: `ArgVals`) and bind to the same key compile to the SAME
behaviour – the call of the node `(c, key)` – so a formula does exactly the same whichever spelling it
uses: same callee node, same cache entry, same edge, same result (`retK`: a value goes on, a failure of
the callee goes to the handler). -/
theorem equal_spellings_same_element_in_formulas (ar : CellId → Option Nat) (params : List Val) (c : CellId)
    (a : Nat) (dflt : List Val) (args args' : List Expr) (vs vs' : List Val) (npos npos' : Nat)
    (kws kws' : List Nat) (key : Key) (hc : ar c = some a)
    (hv : ArgVals params args vs) (hv' : ArgVals params args' vs')
    (hb : bindKey a dflt (vs.take npos) (kws.zip (vs.drop npos)) = some key)
    (hb' : bindKey a dflt (vs'.take npos') (kws'.zip (vs'.drop npos')) = some key)
    (k : Val → Prog) (hh : Bool → Err → Prog) :
    compile ar params (.callK c args npos kws dflt) k hh = .call (c, key) (retK k hh) ∧
    compile ar params (.callK c args' npos' kws' dflt) k hh = compile ar params (.callK c args npos kws dflt) k hh := by
  rw [compile_callK_pure ar params c a args vs npos kws dflt key hc hv hb,
    compile_callK_pure ar params c a args' vs' npos' kws' dflt key hc hv' hb']
  exact ⟨rfl, rfl⟩

/-- … and a spelling that does not bind raises `TypeError` in the calling formula; the callee is not
called -/
theorem unbound_spelling_in_formula_raises (ar : CellId → Option Nat) (params : List Val) (c : CellId)
    (a : Nat) (dflt : List Val) (args : List Expr) (vs : List Val) (npos : Nat) (kws : List Nat)
    (hc : ar c = some a) (hv : ArgVals params args vs)
    (hb : ¬ Binds a dflt (vs.take npos) (kws.zip (vs.drop npos)))
    (k : Val → Prog) (hh : Bool → Err → Prog) :
    compile ar params (.callK c args npos kws dflt) k hh = hh true (.user kType) :=
  compile_callK_unbound ar params c a args vs npos kws dflt hc hv ((bindKey_eq_none_iff _ _ _ _).mpr hb) k hh

/-! Non-vacuity, with numbers.  `rate(t, base=100, step=10) = t * base + step` (cells 0); three callers
spell the same element `rate(3, 200, 10)`: `c1 = rate(3, 200)`, `c2 = rate(3, step=10, base=200)`,
`c3 = rate(base=200, t=3)`; `c4 = rate(3, nosuch=1)` does not bind.  Evaluating `c1`, `c2`, `c3` one after
the other gives 610 three times; `rate`'s formula runs ONCE (one log entry, one cache entry of cells 0);
`c4` fails with `TypeError` and `rate` is not called. -/
def rDflt : List Val := [.int 100, .int 10]
def rCells : CellId → Option Expr
  | 0 => some (.add (.mul (.param 0) (.param 1)) (.param 2))
  | 1 => some (.callK 0 [.lit 3, .lit 200] 2 [] rDflt)
  | 2 => some (.callK 0 [.lit 3, .lit 10, .lit 200] 1 [2, 1] rDflt)
  | 3 => some (.callK 0 [.lit 200, .lit 3] 0 [1, 0] rDflt)
  | 4 => some (.callK 0 [.lit 3, .lit 1] 1 [7] rDflt)
  | _ => none
def rAr : CellId → Option Nat
  | 0 => some 3
  | c => (rCells c).map (fun _ => 0)

def rEnv : Env where
  formula := fun n => match rCells n.1 with
    | some e => formulaOf rAr e n.2
    | none => .raise (.user kName)
  cached := fun _ => true
  allowNone := fun _ => false
  refs := fun _ => .none
  maxdepth := 10

def rS1 : St := (evalTop rEnv (1, []) {}).2
def rS2 : St := (evalTop rEnv (2, []) rS1).2
def rS3 : St := (evalTop rEnv (3, []) rS2).2

example : (evalTop rEnv (1, []) {}).1 = .ok (.int 610) ∧ (evalTop rEnv (2, []) rS1).1 = .ok (.int 610) ∧
    (evalTop rEnv (3, []) rS2).1 = .ok (.int 610) ∧
    rS3.log = [(3, []), (2, []), (0, [.int 3, .int 200, .int 10]), (1, [])] ∧
    rS3.data.filter (fun e => e.1.1 == 0) = [((0, [.int 3, .int 200, .int 10]), .int 610)] ∧
    (evalTop rEnv (4, []) rS3).1 = .formulaError (.user kType) [(4, [])] ∧
    (evalTop rEnv (4, []) rS3).2.log = (4, []) :: rS3.log := by decide +kernel

-- the same element requested from outside under four spellings (the third relies on one default, the
-- fourth is the subscript / fully positional form); a spelling that does not bind
example : (evalSpelled rEnv 0 3 rDflt [.int 3, .int 200] [] {}).1 = .res (.ok (.int 610)) ∧
    evalSpelled rEnv 0 3 rDflt [.int 3] [(2, .int 10), (1, .int 200)] {} = evalSpelled rEnv 0 3 rDflt [.int 3, .int 200] [] {} ∧
    evalSpelled rEnv 0 3 rDflt [] [(1, .int 200), (0, .int 3)] {} = evalSpelled rEnv 0 3 rDflt [.int 3, .int 200] [] {} ∧
    evalSpelled rEnv 0 3 rDflt [.int 3, .int 200, .int 10] [] {} = evalSpelled rEnv 0 3 rDflt [.int 3, .int 200] [] {} ∧
    (evalSpelled rEnv 0 3 rDflt [.int 3, .int 200] [] {}).2.log = [(0, [.int 3, .int 200, .int 10])] ∧
    evalSpelled rEnv 0 3 rDflt [.int 3] [(0, .int 4)] {} = (.typeError, {}) := by
  refine ⟨by decide +kernel, ?_, ?_, ?_, by decide +kernel, evalSpelled_of_none (by decide +kernel) {}⟩
  · exact (equal_spellings_same_element rEnv 0 3 rDflt _ _ _ _ [.int 3, .int 200, .int 10] (by decide +kernel) (by decide +kernel) {}).2
  · exact (equal_spellings_same_element rEnv 0 3 rDflt _ _ _ _ [.int 3, .int 200, .int 10] (by decide +kernel) (by decide +kernel) {}).2
  · exact (equal_spellings_same_element rEnv 0 3 rDflt _ _ _ _ [.int 3, .int 200, .int 10] (by decide +kernel) (by decide +kernel) {}).2

-- instance of `equal_spellings_computed_once`: the second spelling is served from the one entry
example : evalSpelled rEnv 0 3 rDflt [] [(1, .int 200), (0, .int 3)] (evalSpelled rEnv 0 3 rDflt [.int 3, .int 200] [] {}).2 =
    (.res (.ok (.int 610)), (evalSpelled rEnv 0 3 rDflt [.int 3, .int 200] [] {}).2) :=
  (equal_spellings_computed_once rEnv 0 3 rDflt _ _ _ _ [.int 3, .int 200, .int 10] rfl (by decide +kernel) (by decide +kernel) {}
    (.int 610) (by decide +kernel)).2.2

-- instance of the formula-level theorem: `c2`'s and `c3`'s calls are the same behaviour as `c1`'s
example (k : Val → Prog) (hh : Bool → Err → Prog) :
    compile rAr [] (.callK 0 [.lit 200, .lit 3] 0 [1, 0] rDflt) k hh =
      compile rAr [] (.callK 0 [.lit 3, .lit 200] 2 [] rDflt) k hh :=
  (equal_spellings_same_element_in_formulas rAr [] 0 3 rDflt _ _ [.int 3, .int 200] [.int 200, .int 3] 2 0 [] [1, 0]
    [.int 3, .int 200, .int 10] rfl (by exact ⟨rfl, rfl, trivial⟩) (by exact ⟨rfl, rfl, trivial⟩) (by decide +kernel) (by decide +kernel) k hh).2

/-! ### computed once: the execution log

`St.log` (ghost) gets an entry for every formula execution (`CallStack.append`).  Regime: the graph
invariant `GI` of C08 (terminating programs, `Ranked`), idle executor – every reachable state. -/

/-- **While an element holds a value its formula is never run**: the executions `new` that a
top-level call makes – at any depth, hits and misses, failed or not – contain no element of a cached
cells that held a value when the call started. -/
theorem held_elements_never_executed (lt : Node → Node → Prop) (ho : StrictOrder lt) (hr : Ranked env lt)
    (s : St) (g : GI env lt s) (hst : s.stack = []) (hidx : s.idx = []) (n : Node) :
    ∃ new, (evalTop env n s).2.log = new ++ s.log ∧
      ∀ m ∈ new, env.cached m.1 = true → lookup s.data m = none := by
  obtain ⟨new, rb, h1, h2, _⟩ := evalTop_log ho hr g hst hidx n
  exact ⟨new, h1, h2⟩

/-- **Every execution either fails or is THE execution that stores the element's value**: for an
element `m` of a cached cells, the number of its executions during one top-level call equals the
number of its frames that were rolled back (`rb`: `_eval_formula`'s roll-back list, before
`_start_exec` clears it) plus one if `m` acquired its value in this call.  (A failed element holds
nothing; a handler or a `finally` block that calls it again executes it again.) -/
theorem every_execution_fails_or_stores (lt : Node → Node → Prop) (ho : StrictOrder lt) (hr : Ranked env lt)
    (s : St) (g : GI env lt s) (hst : s.stack = []) (hidx : s.idx = []) (n : Node) :
    ∃ (new : List Node) (rb : List (Node × Nat)), (evalTop env n s).2.log = new ++ s.log ∧
      ((if env.cached n.1 = true then lookup s.data n else none) = none →
        (runN env (env.maxdepth + 1) n s).2.rolledback = s.rolledback ++ rb) ∧
      ∀ m, env.cached m.1 = true →
        new.count m = (rb.map (·.1)).count m + newly s (evalTop env n s).2 m := by
  obtain ⟨new, rb, h1, _, h3, h4, _⟩ := evalTop_log ho hr g hst hidx n
  exact ⟨new, rb, h1, h4, h3⟩

/-- **Computed once**: when formulas handle no failure (`NoCatchEnv`) and the call returns, no element
of a cached cells is executed twice, and the executed ones are exactly those that acquired their
value in this call. -/
theorem computed_once_nocatch (lt : Node → Node → Prop) (ho : StrictOrder lt) (hr : Ranked env lt)
    (hnc : NoCatchEnv env) (s : St) (g : GI env lt s) (hst : s.stack = []) (hidx : s.idx = []) (n : Node)
    (v : Val) (hv : (evalTop env n s).1 = .ok v) :
    ∃ new, (evalTop env n s).2.log = new ++ s.log ∧
      ∀ m, env.cached m.1 = true → new.count m ≤ 1 ∧
        (m ∈ new ↔ lookup s.data m = none ∧ (lookup (evalTop env n s).2.data m).isSome = true) := by
  obtain ⟨new, rb, h1, _, h3, _, h5⟩ := evalTop_log ho hr g hst hidx n
  have hrb : rb = [] := h5 hnc v hv
  subst hrb
  refine ⟨new, h1, fun m hc => ?_⟩
  have := h3 m hc
  simp only [List.map_nil, List.count_nil, Nat.zero_add] at this
  unfold newly at this
  constructor
  · rw [this]; split <;> omega
  · rw [← List.count_pos_iff, this]
    split
    · rename_i h; simp [h]
    · rename_i h; simp [h]

/-- **…across a history**: in every state reachable by the thirteen-operation language of C02, an
evaluation executes only elements that hold no value at that moment – an element that was computed
is executed again only after an edit or a clear discarded its value. -/
theorem executed_again_only_after_cleared (lt : Node → Node → Prop) (ho : StrictOrder lt) (env0 : Env)
    (hw0 : C02.WF env0 lt) (ops : List C02.Op) (hadm : C02.Admissible lt (env0, {}) ops) (n : Node) :
    ∃ new, (evalTop (C02.run (env0, {}) ops).1 n (C02.run (env0, {}) ops).2).2.log =
        new ++ (C02.run (env0, {}) ops).2.log ∧
      ∀ m ∈ new, (C02.run (env0, {}) ops).1.cached m.1 = true → lookup (C02.run (env0, {}) ops).2.data m = none := by
  obtain ⟨hci, hw⟩ := C02.run_ci lt ho ops (env0, {}) hw0 (CI.empty env0 lt) hadm
  exact held_elements_never_executed _ lt ho hw.ranked _ hci.gi hci.quiet.stack hci.quiet.idx n

/-! Non-vacuity.  `c0 = c1() + c1()`, `c1 = 2`: `c1` is executed once, the second call is a hit.
`c2 = try: c3() except: (try: c3() except: 0)`, `c3 = raise`: `c3` is executed twice – both frames are
rolled back, it never holds a value – which is why "executed at most once" needs `NoCatch`. -/
def oCells : CellId → Option Expr
  | 0 => some (.add (.call 1 []) (.call 1 []))
  | 1 => some (.lit 2)
  | 2 => some (.try_ (.call 3 []) .all (.try_ (.call 3 []) .all (.lit 0)))
  | 3 => some (.raise kValue)
  | _ => none

def oEnv : Env where
  formula := fun n => match oCells n.1 with
    | some e => formulaOf (fun c => (oCells c).map (fun _ => 0)) e n.2
    | none => .raise (.user kName)
  cached := fun _ => true
  allowNone := fun _ => false
  refs := fun _ => .none
  maxdepth := 10

example : (evalTop oEnv (0, []) {}).1 = .ok (.int 4) ∧ (evalTop oEnv (0, []) {}).2.log = [(1, []), (0, [])] ∧
    (evalTop oEnv (2, []) {}).1 = .ok (.int 0) ∧
    (evalTop oEnv (2, []) {}).2.log = [(3, []), (3, []), (2, [])] ∧
    ((runN oEnv 11 (2, []) {}).2.rolledback.map (·.1)) = [(3, []), (3, [])] := by decide +kernel

/-! ### the full statement is false: a formula that catches the depth-limit error

`c0 = try: c1() except Exception: -1`, `c1 = c2()`, `c2 = 5` under a limit that admits two
frames: the mechanism returns and stores `-1`, pure evaluation gives `5`. -/
def wCells : CellId → Option Expr
  | 0 => some (.try_ (.call 1 []) .all (.lit (-1)))
  | 1 => some (.call 2 [])
  | 2 => some (.lit 5)
  | _ => none

def wEnv : Env where
  formula := fun n => match wCells n.1 with
    | some e => formulaOf (fun c => (wCells c).map (fun _ => 0)) e n.2
    | none => .raise (.user kName)
  cached := fun _ => true
  allowNone := fun _ => false
  refs := fun _ => .none
  maxdepth := 1

theorem full_statement_fails :
    ¬ (∀ (env : Env) (inp : Node → Option Val) (n : Node) (s : St) (v : Val),
        Good env inp s → s.hit = false → (evalTop env n s).1 = .ok v → Den env inp n (.ok v)) := by
  intro h
  have hgood : Good wEnv (fun _ => none) {} := ⟨by intro n v _ hl; simp at hl, by intro n v _ hi; cases hi⟩
  have hrun : (evalTop wEnv (0, []) {}).1 = .ok (.int (-1)) := by decide +kernel
  have := h wEnv (fun _ => none) (0, []) {} (.int (-1)) hgood rfl hrun
  have hspec : Den wEnv (fun _ => none) (0, []) (.ok (.int 5)) := ⟨3, by decide +kernel⟩
  have := Den_det wEnv (fun _ => none) (0, []) _ _ this hspec
  cases this

/-! Non-vacuity: the hypotheses of the partial theorem are met by a non-trivial reachable
state (the same program under a sufficient limit), where the value is the spec's. -/
example : (evalTop { wEnv with maxdepth := 5 } (0, []) {}).1 = .ok (.int 5) ∧
    LimitNotCaughtInThisCall { wEnv with maxdepth := 5 } (0, []) {} := by
  unfold LimitNotCaughtInThisCall; decide +kernel

/-! …and by a state reached AFTER an evaluation that hit the limit (flag up for good): `c1()` under
a limit of one frame fails with the depth error; the next call `c2()` does not hit the limit, the
theorem applies to it although `hit = true` in its start state. -/
def wEnv0 : Env := { wEnv with maxdepth := 0 }

example : (evalTop wEnv0 (1, []) {}).1 = .formulaError .deep [(1, [])] ∧
    (evalTop wEnv0 (1, []) {}).2.hit = true ∧
    LimitNotCaughtInThisCall wEnv0 (2, []) (evalTop wEnv0 (1, []) {}).2 ∧
    (evalTop wEnv0 (2, []) (evalTop wEnv0 (1, []) {}).2).1 = .ok (.int 5) := by
  unfold LimitNotCaughtInThisCall; decide +kernel

/-! Non-vacuity for `DeepPropagatesEnv`: `chain(k) = chain(k-1) + 1` whose handler turns EVERY
failure of the callee except the depth error into `-1`.  Under a limit of three frames `chain(5)`
fails with the depth error, `chain(2)` then evaluates to 2 – both covered without any hypothesis
about the limit. -/
def pK : Res → Prog
  | .ok (.int i) => .ret (.int (i + 1))
  | .ok .none => .raise (.user 1)
  | .err .deep => .reraise .deep
  | .err _ => .ret (.int (-1))

def pEnv : Env where
  formula := fun n => match n.2 with
    | [.int k] => if 0 < k then .call (0, [.int (k - 1)]) pK else .ret (.int 0)
    | _ => .raise (.user 0)
  cached := fun _ => true
  allowNone := fun _ => false
  refs := fun _ => none
  maxdepth := 3

theorem pEnv_deepPropagates : DeepPropagatesEnv pEnv := by
  intro n
  show TaintClosed _ (match n.2 with
    | [.int k] => if 0 < k then Prog.call (0, [.int (k - 1)]) pK else .ret (.int 0)
    | _ => .raise (.user 0))
  split
  · split
    · refine ⟨?_, ?_⟩
      · intro e he; subst he; exact rfl
      · intro r
        match r with
        | .ok (.int i) => trivial
        | .ok .none => trivial
        | .err .deep => trivial
        | .err (.user _) => trivial
        | .err .noneRet => trivial
    · trivial
  · trivial

example : (evalTop pEnv (0, [.int 5]) {}).1 =
      .formulaError .deep [(0, [.int 5]), (0, [.int 4]), (0, [.int 3]), (0, [.int 2])] ∧
    (evalTop pEnv (0, [.int 2]) (evalTop pEnv (0, [.int 5]) {}).2).1 = .ok (.int 2) := by decide +kernel

example : Good pEnv (fun _ => none) (evalTop pEnv (0, [.int 5]) {}).2 :=
  (eval_value_is_denotation_deep_propagates_partial pEnv _ pEnv_deepPropagates _ _
    ⟨by intro n v _ hl; simp at hl, by intro n v _ hi; cases hi⟩).2.2

end MxModel.C01
