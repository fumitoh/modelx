import MxModel.Proofs.CalcAnc
import MxModel.Proofs.CalcValues
/-!
# C16 – Memory-optimised runs: the plan made by `get_calcsteps`, its execution, the values it leaves

Property theorems only (lemmas: `Proofs/Calc{Steps,Exec,Anc,Valued,Values}.lean`; model: `Kernels/CalcSteps.lean`).
All theorems hold for every node list `ordered`, every successor function `succs`, every target
list and every step size `≥ 1`; the hypotheses `isTopo succs ordered` ("`ordered` is a topological
order of the sub graph": every successor of a member occurs later in the list) and
`ordered.Nodup` are named where they are needed – they are what `nx.topological_sort` of the traced
sub graph delivers, and the correspondence check tests them on every plan modelx returns.
-/
namespace MxModel.C16
open MxModel.CalcSteps

/-- **(1)** The calc blocks are consecutive slices of `ordered` and partition it: their
concatenation is `ordered` itself (every element in exactly one calc step, order preserved),
block `k` is `ordered[k*size : (k+1)*size]`, no block is empty or longer than `size`. -/
theorem calc_blocks_partition (ordered : List Node) (succs : Node → List Node)
    (targets : List Node) (size : Nat) (hz : 1 ≤ size) :
    (calcBlocks (calcSteps ordered succs targets size)).flatten = ordered ∧
    ∀ (k : Nat) (b : List Node), (calcBlocks (calcSteps ordered succs targets size))[k]? = some b →
      b = (ordered.drop (k * size)).take size ∧ b ≠ [] ∧ b.length ≤ size :=
  ⟨blocks_flatten_all hz, fun k b hb => by
    obtain ⟨hc, rfl⟩ := (blocks_get hz).mp hb
    exact ⟨rfl, block_length hz hc⟩⟩

/-- (1, for distinct nodes) every element lies in exactly one calc block -/
theorem calc_exactly_once (ordered : List Node) (succs : Node → List Node)
    (targets : List Node) (size : Nat) (hz : 1 ≤ size) (hd : ordered.Nodup) (n : Node)
    (hn : n ∈ ordered) :
    ∃ (k : Nat) (b : List Node), (calcBlocks (calcSteps ordered succs targets size))[k]? = some b ∧ n ∈ b ∧
      ∀ (k' : Nat) (b' : List Node), (calcBlocks (calcSteps ordered succs targets size))[k']? = some b' → n ∈ b' →
        k' = k := by
  have hm : n ∈ (calcBlocks (calcSteps ordered succs targets size)).flatten := by
    rw [blocks_flatten_all hz]; exact hn
  obtain ⟨b, hb, hnb⟩ := List.mem_flatten.mp hm
  obtain ⟨k, hk⟩ := List.mem_iff_getElem?.mp hb
  obtain ⟨_, rfl⟩ := (blocks_get hz).mp hk
  refine ⟨k, _, hk, hnb, fun k' b' hk' hnb' => ?_⟩
  obtain ⟨_, rfl⟩ := (blocks_get hz).mp hk'
  exact block_unique hd hnb hnb'

/-- **(2)** Under a topological order of distinct nodes, every predecessor (a member `p` with
`n ∈ succs p`) of an element of calc block `k` is in the same or an earlier calc block. -/
theorem preds_in_same_or_earlier_block (ordered : List Node) (succs : Node → List Node)
    (targets : List Node) (size : Nat) (hz : 1 ≤ size)
    (ht : isTopo succs ordered = true) (hd : ordered.Nodup)
    (k : Nat) (b : List Node) (n p : Node)
    (hb : (calcBlocks (calcSteps ordered succs targets size))[k]? = some b) (hn : n ∈ b)
    (hp : p ∈ ordered) (hs : n ∈ succs p) :
    ∃ (k' : Nat) (b' : List Node), k' ≤ k ∧ (calcBlocks (calcSteps ordered succs targets size))[k']? = some b' ∧
      p ∈ b' := by
  obtain ⟨_, rfl⟩ := (blocks_get hz).mp hb
  exact blocks_get_of_mem_take hz (isTopo_pred_before ht hd ((k + 1) * size) hp (block_sub_accum hn) hs)

/-- **(3a)** Targets are never cleared (no hypothesis on the order). -/
theorem targets_never_cleared (ordered : List Node) (succs : Node → List Node)
    (targets : List Node) (size : Nat) (hz : 1 ≤ size) (n : Node) (hn : n ∈ targets) :
    n ∉ (clearLists (calcSteps ordered succs targets size)).flatten := by
  rw [clears_flatten hz]
  intro hm
  -- what is cleared is counted among the non-targets
  have hc := cleared_pasted_count ordered succs targets size (nSteps ordered succs targets size) n
  have := (List.mem_filter.mp (List.count_pos_iff.mp
    (Nat.lt_of_lt_of_le (List.count_pos_iff.mpr hm) (hc ▸ Nat.le_add_right _ _)))).2
  simp [hn] at this

/-- **(3b)** Under a topological order the cleared nodes are, as a multiset, exactly the
non-target elements: every non-target element is cleared exactly as often as it occurs. -/
theorem cleared_are_the_nontargets (ordered : List Node) (succs : Node → List Node)
    (targets : List Node) (size : Nat) (hz : 1 ≤ size) (ht : isTopo succs ordered = true) :
    ((clearLists (calcSteps ordered succs targets size)).flatten).Perm
      (ordered.filter (fun n => !decide (n ∈ targets))) := by
  rw [List.perm_iff_count]
  intro a
  have hc := cleared_pasted_count ordered succs targets size (nSteps ordered succs targets size) a
  rw [← finalPasted_eq hz, finalPasted_nil hz ht, List.take_of_length_le (nSteps_covers hz)] at hc
  rw [clears_flatten hz, ← hc]; rfl

/-- (3b, for distinct nodes) every non-target element is cleared exactly once -/
theorem cleared_exactly_once (ordered : List Node) (succs : Node → List Node)
    (targets : List Node) (size : Nat) (hz : 1 ≤ size) (ht : isTopo succs ordered = true)
    (hd : ordered.Nodup) (n : Node) (hn : n ∈ ordered) (hnt : n ∉ targets) :
    ((clearLists (calcSteps ordered succs targets size)).flatten).count n = 1 := by
  rw [(cleared_are_the_nontargets ordered succs targets size hz ht).count_eq]
  exact Nat.le_antisymm (List.nodup_iff_count.mp (hd.filter _) n)
    (List.count_pos_iff.mpr (List.mem_filter.mpr ⟨hn, by simpa using hnt⟩))

/-- **(3c)** A node is cleared only in or after the step whose calc block contains its last
successor: when it is in the clear list of step `k`, each of its successors is in a calc block
`≤ k` (no hypothesis on the order). -/
theorem cleared_after_last_successor (ordered : List Node) (succs : Node → List Node)
    (targets : List Node) (size : Nat) (hz : 1 ≤ size) (k : Nat) (c : List Node) (n s : Node)
    (hc : (clearLists (calcSteps ordered succs targets size))[k]? = some c) (hn : n ∈ c)
    (hs : s ∈ succs n) :
    ∃ (k' : Nat) (b' : List Node), k' ≤ k ∧ (calcBlocks (calcSteps ordered succs targets size))[k']? = some b' ∧
      s ∈ b' := by
  obtain ⟨_, rfl⟩ := (clears_get hz).mp hc
  exact blocks_get_of_mem_take hz (clear_succs_in_accum hn hs)

/-- **(3d)** The code's final `assert not pasted` holds under a topological order. -/
theorem final_pasted_empty (ordered : List Node) (succs : Node → List Node)
    (targets : List Node) (size : Nat) (hz : 1 ≤ size) (ht : isTopo succs ordered = true) :
    finalPasted ordered succs targets size = [] :=
  finalPasted_nil hz ht

/-- **plan_safe** Under a topological order of distinct nodes, when calc block `k` is computed,
every predecessor of each of its elements is in the same block, or was pasted in an earlier
step and has not been put into any clear list before step `k`. -/
theorem preds_pasted_until_needed (ordered : List Node) (succs : Node → List Node)
    (targets : List Node) (size : Nat) (hz : 1 ≤ size)
    (ht : isTopo succs ordered = true) (hd : ordered.Nodup)
    (k : Nat) (b : List Node) (n p : Node)
    (hb : (calcBlocks (calcSteps ordered succs targets size))[k]? = some b) (hn : n ∈ b)
    (hp : p ∈ ordered) (hs : n ∈ succs p) :
    p ∈ b ∨ ((∃ (j : Nat) (l : List Node), j < k ∧
        (pasteLists (calcSteps ordered succs targets size))[j]? = some l ∧ p ∈ l) ∧
      ∀ (i : Nat) (l : List Node), i < k →
        (clearLists (calcSteps ordered succs targets size))[i]? = some l → p ∉ l) := by
  obtain ⟨_, rfl⟩ := (blocks_get hz).mp hb
  refine (pred_pasted_until ht hd hn hp hs).imp_right fun ⟨⟨j, hj, hpj, hpl⟩, hcl⟩ => ⟨⟨j, _, hj,
    (pastes_get hz).mpr ⟨lt_of_mem_block hpj, rfl⟩, hpl⟩, fun i l hi hl hpl => ?_⟩
  obtain ⟨_, rfl⟩ := (clears_get hz).mp hl
  exact hcl i hi hpl

/-- **run_correct_from** Executing the plan on the abstract cache from ANY cache that holds user
inputs only, none of them a planned element (the cache `generate_actions` leaves, with whatever
input values the user assigned): for every program whose calls go to planned elements – recorded as
successor edges – or to those user inputs (calls through uncached cells are calls of the caller:
`preds` lists the cached elements a formula reaches), every topological order of distinct nodes,
every target list, step size `≥ 1` and call-depth bound `≥ 1`: at the end exactly the user inputs
and the targets are held, the targets value-pasted, the trace graph has no edge, and the formulas
that ran are exactly the planned elements, in the planned order – so each once: nothing is
recomputed because it was cleared too early, nothing outside the plan is computed, no user input is
touched. -/
theorem run_correct_from (ordered : List Node) (succs preds : Node → List Node) (targets : List Node)
    (size fuel : Nat) (c0 : Cache) (hz : 1 ≤ size) (ht : isTopo succs ordered = true) (hd : ordered.Nodup)
    (h0 : c0.WF) (h0i : ∀ x ∈ c0.held, x ∈ c0.inputs) (h0d : ∀ x ∈ c0.held, x ∉ ordered)
    (hp : ∀ n ∈ ordered, ∀ p ∈ preds n, (p ∈ ordered ∧ n ∈ succs p) ∨ p ∈ c0.held) :
    (∀ x, x ∈ (execute preds (fuel + 1) (calcSteps ordered succs targets size) c0).held ↔
        (x ∈ targets ∧ x ∈ ordered) ∨ x ∈ c0.held) ∧
    (∀ x, x ∈ (execute preds (fuel + 1) (calcSteps ordered succs targets size) c0).inputs ↔
        x ∈ (execute preds (fuel + 1) (calcSteps ordered succs targets size) c0).held) ∧
    (execute preds (fuel + 1) (calcSteps ordered succs targets size) c0).edges = [] ∧
    (execute preds (fuel + 1) (calcSteps ordered succs targets size) c0).log = c0.log ++ ordered := by
  have he0 := edges_nil_of_inputs_only h0 h0i
  obtain ⟨a, b, c, d⟩ := run_from_any (targets := targets) hz ht hd h0 h0d
    (by rw [he0]; exact fun e he => nomatch he) hp fuel rfl
  exact ⟨a, fun x => by rw [a x, b x]; exact or_congr_right ⟨h0.inputsHeld x, h0i x⟩,
    List.eq_nil_iff_forall_not_mem.mpr (fun e he => by rw [c e, he0] at he; cases he), d⟩

/-- **run_correct_from_any** The same from ANY well-formed cache – user inputs and calculated values
with their trace edges – as long as no value of the cache is a planned element and no trace edge of
it starts at one (what `generate_actions` leaves): everything the cache held is exactly as before,
inputs, values and edges; the targets are added, value-pasted; the planned elements ran once each. -/
theorem run_correct_from_any (ordered : List Node) (succs preds : Node → List Node) (targets : List Node)
    (size fuel : Nat) (c0 : Cache) (hz : 1 ≤ size) (ht : isTopo succs ordered = true) (hd : ordered.Nodup)
    (h0 : c0.WF) (h0d : ∀ x ∈ c0.held, x ∉ ordered) (h0e : ∀ e ∈ c0.edges, e.1 ∉ ordered)
    (hp : ∀ n ∈ ordered, ∀ p ∈ preds n, (p ∈ ordered ∧ n ∈ succs p) ∨ p ∈ c0.held) :
    (∀ x, x ∈ (execute preds (fuel + 1) (calcSteps ordered succs targets size) c0).held ↔
        (x ∈ targets ∧ x ∈ ordered) ∨ x ∈ c0.held) ∧
    (∀ x, x ∈ (execute preds (fuel + 1) (calcSteps ordered succs targets size) c0).inputs ↔
        (x ∈ targets ∧ x ∈ ordered) ∨ x ∈ c0.inputs) ∧
    (∀ e, e ∈ (execute preds (fuel + 1) (calcSteps ordered succs targets size) c0).edges ↔ e ∈ c0.edges) ∧
    (execute preds (fuel + 1) (calcSteps ordered succs targets size) c0).log = c0.log ++ ordered :=
  run_from_any hz ht hd h0 h0d h0e hp fuel rfl

/-- **run_correct** The same from the empty cache, for programs whose calls stay inside the plan. -/
theorem run_correct (ordered : List Node) (succs preds : Node → List Node) (targets : List Node)
    (size fuel : Nat) (hz : 1 ≤ size) (ht : isTopo succs ordered = true) (hd : ordered.Nodup)
    (hp : ∀ n ∈ ordered, ∀ p ∈ preds n, p ∈ ordered ∧ n ∈ succs p) :
    (∀ x, x ∈ (execute preds (fuel + 1) (calcSteps ordered succs targets size) {}).held ↔
        x ∈ targets ∧ x ∈ ordered) ∧
    (∀ x, x ∈ (execute preds (fuel + 1) (calcSteps ordered succs targets size) {}).inputs ↔
        x ∈ (execute preds (fuel + 1) (calcSteps ordered succs targets size) {}).held) ∧
    (execute preds (fuel + 1) (calcSteps ordered succs targets size) {}).edges = [] ∧
    (execute preds (fuel + 1) (calcSteps ordered succs targets size) {}).log = ordered := by
  obtain ⟨a, b, c, d⟩ := run_correct_from ordered succs preds targets size fuel {} hz ht hd
    ⟨by simp, by simp⟩ (by simp) (by simp) (fun n hn p hpn => Or.inl (hp n hn p hpn))
  exact ⟨fun x => by simpa using a x, b, c, by simpa using d⟩

/-- **generate_leaves_nothing** (full strength since the repair 77e9cc3: ANY well-formed cache, user
inputs and calculated values alike).  After `generate_actions` – tracing the targets, adding from
the trace graph the values held before that the targets were calculated from, clearing all of
them – the user inputs are exactly those it found; every value that is left was there before and
is not a planned element; and no target that is not a user input, and nothing such a target was
calculated from (`withAncs`: backwards along the trace edges) unless it is a user input, has a
value.  For every program, target list and call-depth bound `≥ 1`. -/
theorem generate_leaves_nothing (preds : Node → List Node) (fuel : Nat) (targets : List Node)
    (c : Cache) (h : c.WF) :
    (∀ x, x ∈ (generateLeaves preds (fuel + 1) targets c).inputs ↔ x ∈ c.inputs) ∧
    (∀ x ∈ (generateLeaves preds (fuel + 1) targets c).held,
      x ∈ c.held ∧ x ∉ planned preds (fuel + 1) targets c) ∧
    (∀ t ∈ targets, t ∉ c.inputs →
      ∀ p ∈ withAncs (traceTargets preds (fuel + 1) targets c).edges t, p ∉ c.inputs →
        p ∉ (generateLeaves preds (fuel + 1) targets c).held) := by
  obtain ⟨_, hin, hheld, _, _⟩ := generateLeaves_general preds (fuel + 1) targets c h
  refine ⟨hin, hheld, ?_⟩
  exact fun t ht hti p hp hpi hph => (hheld p hph).2 (planned_of_anc ht hti hp hpi)

/-- … in particular a cache that held user inputs only is left exactly as it was found: the same
held elements, the same input marks, no trace edge -/
theorem generate_restores_inputs_only_cache (preds : Node → List Node) (fuel : Nat) (targets : List Node)
    (c : Cache) (h : c.WF) (hc : ∀ x ∈ c.held, x ∈ c.inputs) :
    (∀ x, x ∈ (generateLeaves preds fuel targets c).held ↔ x ∈ c.held) ∧
    (∀ x, x ∈ (generateLeaves preds fuel targets c).inputs ↔ x ∈ c.inputs) ∧
    (generateLeaves preds fuel targets c).edges = [] :=
  generateLeaves_spec preds fuel targets c h hc

/-- **generate_plan_execute_correct** (full strength since the repair 77e9cc3: ANY well-formed
cache).  `generate_actions` composed with `execute_actions`: trace the targets, add what the model
held before that the targets were calculated from, plan ANY duplicate-free topological order (with
respect to the recorded trace edges) of exactly these elements for the targets that are not user
inputs, clear them, execute.  Well-formedness of the starting point: trace edges start at elements
that have a value (`hct`); when tracing ends every calculated value has its callees held and the
calls recorded (`hcomp`: the cache was complete, and tracing ran to completion – the depth bound was
not hit).  (That the planned elements are then closed under callees – the backward search over the
trace graph is complete, every traced element reaches a target – is proved: `planned_closed`.)  Then
the targets are held and value-pasted; whatever else is held was held before
`generate_actions` and is none of the planned elements – nothing a target was calculated from is
left behind; the user inputs are those of the start plus the targets; the trace edges are those
`generate_actions` left (none touches a planned element); and the execution ran exactly the
planned elements, each once, in the planned order.  `nx.topological_sort` is not modelled: the
theorem holds for every order with the stated properties (`hset`, `hd`, `ht`), which the
correspondence run tests on every plan modelx returns. -/
theorem generate_plan_execute_correct (preds : Node → List Node) (fuel fuel' : Nat)
    (targets ordered : List Node) (size : Nat) (c : Cache) (hz : 1 ≤ size) (h : c.WF)
    (hct : ∀ e ∈ c.edges, e.1 ∈ c.held)
    (hcomp : ∀ n ∈ (traceTargets preds (fuel + 1) targets c).held, n ∉ c.inputs → ∀ p ∈ preds n,
      p ∈ (traceTargets preds (fuel + 1) targets c).held ∧
      (p, n) ∈ (traceTargets preds (fuel + 1) targets c).edges)
    (hset : ∀ x, x ∈ ordered ↔ x ∈ planned preds (fuel + 1) targets c) (hd : ordered.Nodup)
    (ht : isTopo (succsOf (traceTargets preds (fuel + 1) targets c).edges) ordered = true) :
    (∀ x, x ∈ (execute preds (fuel' + 1)
        (calcSteps ordered (succsOf (traceTargets preds (fuel + 1) targets c).edges)
          (targets.filter (fun t => !decide (t ∈ c.inputs))) size)
        (generateLeaves preds (fuel + 1) targets c)).held ↔
      x ∈ targets ∨ x ∈ (generateLeaves preds (fuel + 1) targets c).held) ∧
    (∀ x ∈ (generateLeaves preds (fuel + 1) targets c).held,
      x ∈ c.held ∧ x ∉ planned preds (fuel + 1) targets c) ∧
    (∀ x, x ∈ (execute preds (fuel' + 1)
        (calcSteps ordered (succsOf (traceTargets preds (fuel + 1) targets c).edges)
          (targets.filter (fun t => !decide (t ∈ c.inputs))) size)
        (generateLeaves preds (fuel + 1) targets c)).inputs ↔ x ∈ targets ∨ x ∈ c.inputs) ∧
    (∀ e, e ∈ (execute preds (fuel' + 1)
        (calcSteps ordered (succsOf (traceTargets preds (fuel + 1) targets c).edges)
          (targets.filter (fun t => !decide (t ∈ c.inputs))) size)
        (generateLeaves preds (fuel + 1) targets c)).edges ↔
      e ∈ (generateLeaves preds (fuel + 1) targets c).edges) ∧
    (execute preds (fuel' + 1)
        (calcSteps ordered (succsOf (traceTargets preds (fuel + 1) targets c).edges)
          (targets.filter (fun t => !decide (t ∈ c.inputs))) size)
        (generateLeaves preds (fuel + 1) targets c)).log =
      (generateLeaves preds (fuel + 1) targets c).log ++ ordered :=
  generate_then_execute_full preds fuel fuel' targets ordered size c hz h hct hcomp hset hd ht

/-- **generate_plan_execute_inputs_only** the same from a cache that holds user inputs only: no
hypothesis about the graph is needed, only that tracing ran to completion (`hdone`); at the end
exactly the user inputs and the targets are held, all marked as inputs, no trace edge is left. -/
theorem generate_plan_execute_inputs_only (preds : Node → List Node) (fuel fuel' : Nat)
    (targets ordered : List Node) (size : Nat) (c : Cache) (hz : 1 ≤ size) (h : c.WF)
    (hc : ∀ x ∈ c.held, x ∈ c.inputs)
    (hdone : ∀ n ∈ calculated preds (fuel + 1) targets c, ∀ p ∈ preds n,
      p ∈ (traceTargets preds (fuel + 1) targets c).held)
    (hset : ∀ x, x ∈ ordered ↔ x ∈ planned preds (fuel + 1) targets c) (hd : ordered.Nodup)
    (ht : isTopo (succsOf (traceTargets preds (fuel + 1) targets c).edges) ordered = true) :
    (∀ x, x ∈ (execute preds (fuel' + 1)
        (calcSteps ordered (succsOf (traceTargets preds (fuel + 1) targets c).edges)
          (targets.filter (fun t => !decide (t ∈ c.inputs))) size)
        (generateLeaves preds (fuel + 1) targets c)).held ↔ x ∈ targets ∨ x ∈ c.held) ∧
    (∀ x, x ∈ (execute preds (fuel' + 1)
        (calcSteps ordered (succsOf (traceTargets preds (fuel + 1) targets c).edges)
          (targets.filter (fun t => !decide (t ∈ c.inputs))) size)
        (generateLeaves preds (fuel + 1) targets c)).inputs ↔
      x ∈ (execute preds (fuel' + 1)
        (calcSteps ordered (succsOf (traceTargets preds (fuel + 1) targets c).edges)
          (targets.filter (fun t => !decide (t ∈ c.inputs))) size)
        (generateLeaves preds (fuel + 1) targets c)).held) ∧
    (execute preds (fuel' + 1)
        (calcSteps ordered (succsOf (traceTargets preds (fuel + 1) targets c).edges)
          (targets.filter (fun t => !decide (t ∈ c.inputs))) size)
        (generateLeaves preds (fuel + 1) targets c)).edges = [] ∧
    (execute preds (fuel' + 1)
        (calcSteps ordered (succsOf (traceTargets preds (fuel + 1) targets c).edges)
          (targets.filter (fun t => !decide (t ∈ c.inputs))) size)
        (generateLeaves preds (fuel + 1) targets c)).log =
      (generateLeaves preds (fuel + 1) targets c).log ++ ordered :=
  generate_then_execute preds fuel fuel' targets ordered size c hz h hc hdone hset hd ht

/-! ## Non-vacuity: the model of modelx's own test (`tests/core/model/test_actions.py`)

`0 = Cells1()`, `1,2,3 = Cells2(0..2)`, `4 = Cells3(2)`; target `Cells3(2)`, step size 2.
The plan computed by the model is the literal the test expects. -/
def demoSuccs : Node → List Node
  | 0 => [1, 4]
  | 1 => [2]
  | 2 => [3]
  | 3 => [4]
  | _ => []

def demoOrder : List Node := [0, 1, 2, 3, 4]

example : calcSteps demoOrder demoSuccs [4] 2 =
    [.doCalc [0, 1], .doPaste [1, 0], .doClear [],
     .doCalc [2, 3], .doPaste [3], .doClear [2, 1],
     .doCalc [4], .doPaste [4], .doClear [0, 3]] := by decide +kernel

example : isTopo demoSuccs demoOrder = true ∧ demoOrder.Nodup := by decide +kernel

example : (calcBlocks (calcSteps demoOrder demoSuccs [4] 2)).flatten = demoOrder :=
  (calc_blocks_partition demoOrder demoSuccs [4] 2 (by decide +kernel)).1

example : ((clearLists (calcSteps demoOrder demoSuccs [4] 2)).flatten).Perm [0, 1, 2, 3] :=
  cleared_are_the_nontargets demoOrder demoSuccs [4] 2 (by decide +kernel) (by decide +kernel)

example : finalPasted demoOrder demoSuccs [4] 2 = [] := by decide +kernel

def demoPreds : Node → List Node
  | 1 => [0]
  | 2 => [1]
  | 3 => [2]
  | 4 => [0, 3]
  | _ => []

example : execute demoPreds 1 (calcSteps demoOrder demoSuccs [4] 2) {} =
    { held := [4], inputs := [4], edges := [], log := [0, 1, 2, 3, 4] } := by decide +kernel

/-- generating with a user input on `1` (`Cells2(0)`): the input is not recomputed, what was
calculated (`4 0 3 2`) is cleared again -/
example : calculated demoPreds 9 [4] { held := [1], inputs := [1] } = [4, 0, 3, 2] ∧
    generateLeaves demoPreds 9 [4] { held := [1], inputs := [1] } =
      { held := [1], inputs := [1], edges := [], log := [4, 0, 3, 2] } := by decide +kernel

/-! ### runs that start from a non-empty cache, programs that read user inputs -/

/-- `1` (`Cells2(0)`) is a user input: `Cells2(1)` reads it, it is not planned -/
def demoPredsIn : Node → List Node
  | 2 => [1]
  | 3 => [2]
  | 4 => [0, 3]
  | _ => []

def demoSuccsIn : Node → List Node
  | 0 => [4]
  | 2 => [3]
  | 3 => [4]
  | _ => []

def inCache : Cache := { held := [1, 7], inputs := [1, 7] }

example : inCache.WF := ⟨by decide +kernel, by decide +kernel⟩
example : isTopo demoSuccsIn [0, 2, 3, 4] = true ∧ [0, 2, 3, 4].Nodup := by decide +kernel
/-- the hypotheses of `run_correct_from` are met by a program that reads a user input -/
example : ∀ n ∈ [0, 2, 3, 4], ∀ p ∈ demoPredsIn n,
    (p ∈ [0, 2, 3, 4] ∧ n ∈ demoSuccsIn p) ∨ p ∈ inCache.held := by decide +kernel
example : execute demoPredsIn 1 (calcSteps [0, 2, 3, 4] demoSuccsIn [4] 2) inCache =
    { held := [1, 7, 4], inputs := [1, 7, 4], edges := [], log := [0, 2, 3, 4] } := by decide +kernel
example : ∀ x, x ∈ (execute demoPredsIn 1 (calcSteps [0, 2, 3, 4] demoSuccsIn [4] 2) inCache).held ↔
    (x ∈ [4] ∧ x ∈ [0, 2, 3, 4]) ∨ x ∈ inCache.held :=
  (run_correct_from [0, 2, 3, 4] demoSuccsIn demoPredsIn [4] 2 0 inCache (by decide +kernel) (by decide +kernel)
    (by decide +kernel) ⟨by decide +kernel, by decide +kernel⟩ (by decide +kernel) (by decide +kernel) (by decide +kernel)).1

/-- the composed theorem on the same program: tracing `4` and the user input `1` from `inCache`
runs `4 0 3 2`; `[0, 2, 3, 4]` is a topological order of the recorded edges -/
example : calculated demoPredsIn 9 [4, 1] inCache = [4, 0, 3, 2] ∧
    (traceTargets demoPredsIn 9 [4, 1] inCache).edges = [(0, 4), (1, 2), (2, 3), (3, 4)] ∧
    isTopo (succsOf (traceTargets demoPredsIn 9 [4, 1] inCache).edges) [0, 2, 3, 4] = true := by decide +kernel
example : ∀ x, x ∈ (execute demoPredsIn 1
      (calcSteps [0, 2, 3, 4] (succsOf (traceTargets demoPredsIn 9 [4, 1] inCache).edges)
        ([4, 1].filter (fun t => !decide (t ∈ inCache.inputs))) 2)
      (generateLeaves demoPredsIn 9 [4, 1] inCache)).held ↔ x ∈ [4, 1] ∨ x ∈ inCache.held :=
  (generate_plan_execute_inputs_only demoPredsIn 8 0 [4, 1] [0, 2, 3, 4] 2 inCache (by decide +kernel)
    ⟨by decide +kernel, by decide +kernel⟩ (by decide +kernel) (by decide +kernel)
    (fun _ => (by decide +kernel : [0, 2, 3, 4].Perm (planned demoPredsIn (8 + 1) [4, 1] inCache)).mem_iff)
    (by decide +kernel) (by decide +kernel)).1

/-! ### a cache that already holds CALCULATED values (finding C16-precomputed-values, repaired by
77e9cc3): the full statements hold of `generate_actions` since the repair and fail of it as it was before
(`generateLeavesTraceOnly`) -/

/-- the cache after `Cells3(2)` was evaluated directly: everything held, nothing an input -/
def usedCache : Cache := evalNode demoPreds 9 4 {}

example : usedCache.WF ∧ usedCache.held = [0, 1, 2, 3, 4] ∧ usedCache.inputs = [] :=
  ⟨⟨by decide +kernel, by decide +kernel⟩, by decide +kernel, by decide +kernel⟩

/-- nothing is traced (the target has a value); everything the target was calculated from, and the
target, is taken from the graph, planned and cleared -/
example : calculated demoPreds 9 [4] usedCache = [] ∧
    planned demoPreds 9 [4] usedCache = [4, 0, 3, 2, 1] ∧
    generateLeaves demoPreds 9 [4] usedCache = { log := [4, 0, 3, 2, 1] } := by decide +kernel

/-- only `Cells2(1)` (= 2) and what it was calculated from have values, and an unrelated `7`
calculated from an unrelated `8`: the trace shows `4 3`, the graph adds `2 1 0`, `7` and `8` stay -/
def partCache : Cache := evalNode (fun n => if n = 7 then [8] else demoPreds n) 9 7 (evalNode demoPreds 9 2 {})

def partPreds : Node → List Node := fun n => if n = 7 then [8] else demoPreds n

example : partCache.held = [0, 1, 2, 8, 7] ∧ calculated partPreds 9 [4] partCache = [4, 3] ∧
    planned partPreds 9 [4] partCache = [4, 3, 0, 2, 1] ∧
    (generateLeaves partPreds 9 [4] partCache).held = [8, 7] ∧
    (generateLeaves partPreds 9 [4] partCache).edges = [(8, 7)] := by decide +kernel

/-- the hypotheses of the full composed theorem are met on `partCache`, and its conclusion: the
target is added, `7` and `8` are untouched, with their edge -/
example : ∀ x, x ∈ (execute partPreds 1
      (calcSteps [0, 1, 2, 3, 4] (succsOf (traceTargets partPreds 9 [4] partCache).edges)
        ([4].filter (fun t => !decide (t ∈ partCache.inputs))) 2)
      (generateLeaves partPreds 9 [4] partCache)).held ↔
    x ∈ [4] ∨ x ∈ (generateLeaves partPreds 9 [4] partCache).held :=
  (generate_plan_execute_correct partPreds 8 0 [4] [0, 1, 2, 3, 4] 2 partCache (by decide +kernel)
    ⟨by decide +kernel, by decide +kernel⟩ (by decide +kernel) (by decide +kernel)
    (fun _ => (by decide +kernel : [0, 1, 2, 3, 4].Perm (planned partPreds (8 + 1) [4] partCache)).mem_iff)
    (by decide +kernel) (by decide +kernel)).1
example : execute partPreds 1
      (calcSteps [0, 1, 2, 3, 4] (succsOf (traceTargets partPreds 9 [4] partCache).edges) [4] 2)
      (generateLeaves partPreds 9 [4] partCache) =
    { held := [8, 7, 4], inputs := [4], edges := [(8, 7)], log := [2, 1, 0, 7, 8, 4, 3, 0, 1, 2, 3, 4] } := by decide +kernel

/-- BEFORE 77e9cc3 (`generateLeavesTraceOnly`: only what the trace shows is planned and cleared)
"generating the actions leaves no calculated values behind" was false for a model that holds
calculated values: nothing is traced, nothing is cleared, the target keeps its value -/
theorem generate_leaves_nothing_failed_before_77e9cc3 :
    ¬ ∀ (preds : Node → List Node) (fuel : Nat) (targets : List Node) (c : Cache), c.WF →
      ∀ t ∈ targets, t ∉ c.inputs → t ∉ (generateLeavesTraceOnly preds (fuel + 1) targets c).held := by
  intro h
  have := h demoPreds 8 [4] usedCache ⟨by decide +kernel, by decide +kernel⟩ 4 (by decide +kernel) (by decide +kernel)
  revert this; decide +kernel

/-- … and so was the composed statement: the target has a value, nothing is traced, the plan over the
traced elements is empty, the execution does nothing – the target is not value-pasted and the
values it was calculated from stay -/
theorem generate_plan_execute_failed_before_77e9cc3 :
    ¬ ∀ (preds : Node → List Node) (fuel fuel' : Nat) (targets ordered : List Node) (size : Nat)
      (c : Cache), 1 ≤ size → c.WF →
      (∀ x, x ∈ ordered ↔ x ∈ calculated preds (fuel + 1) targets c) → ordered.Nodup →
      isTopo (succsOf (traceTargets preds (fuel + 1) targets c).edges) ordered = true →
      ∀ t ∈ targets, t ∈ (execute preds (fuel' + 1)
        (calcSteps ordered (succsOf (traceTargets preds (fuel + 1) targets c).edges)
          (targets.filter (fun t => !decide (t ∈ c.inputs))) size)
        (generateLeavesTraceOnly preds (fuel + 1) targets c)).inputs := by
  intro h
  have := h demoPreds 8 0 [4] [] 2 usedCache (by decide +kernel) ⟨by decide +kernel, by decide +kernel⟩
    (fun x => by
      rw [show calculated demoPreds (8 + 1) [4] usedCache = [] from by decide +kernel])
    (by decide +kernel) (by decide +kernel) 4 (by decide +kernel)
  revert this; decide +kernel

/-! ## Values: the paste / clear discipline never looks at a value – a held `None` is a held value

`VCache V` (Kernels/CalcSteps.lean) is the cache with the cells' `data` dictionaries, element ↦ value, over
ANY value domain `V` – e.g. `Option Nat` with the distinguished `none` an element of a cells with
`allow_none=True` holds; `f n vs` is the value the formula of `n` returns when its callees returned `vs`.
`'paste'` reads the value of each node (`get_value_from_key`) and assigns it back (`set_value_from_key`)
whatever it is; `'clear'` clears.  Forgetting the values (`VCache.erase`) commutes with every action, so
the theorems above hold verbatim for models with values, whatever the values are. -/

/-- **value_agnostic_execute** For every value domain, every valuation of the formulas, every action
list (a plan or not), every call-depth bound and every valued cache: running the actions with values
and forgetting them afterwards is running them on the value-free cache.  Which elements are held, which
are marked as inputs, the trace graph and the order of formula executions never depend on a value. -/
theorem value_agnostic_execute {V : Type} [Inhabited V] (f : Node → List (Option V) → V)
    (preds : Node → List Node) (fuel : Nat) (actions : List Action) (c : VCache V) :
    (executeV f preds fuel actions c).erase = execute preds fuel actions c.erase :=
  erase_executeV f preds fuel actions c

/-- … in particular two programs with the same call structure but different values – say one in which
some elements evaluate to `None`, over `Option W`, and one in which none does – hold, paste, clear and
compute exactly the same elements at every point of the same action list. -/
theorem held_elements_independent_of_values {V W : Type} [Inhabited V] [Inhabited W]
    (f : Node → List (Option V) → V) (g : Node → List (Option W) → W)
    (preds : Node → List Node) (fuel : Nat) (actions : List Action) (c : VCache V) (d : VCache W)
    (h : c.erase = d.erase) :
    (executeV f preds fuel actions c).erase = (executeV g preds fuel actions d).erase := by
  rw [erase_executeV, erase_executeV, h]

/-- **run_correct_any_values** `run_correct` for models with values: every value domain (with or without
a distinguished `None`), every valuation; every topological order of distinct nodes, target list, step
size `≥ 1`, call-depth bound `≥ 1`, program whose calls stay inside the plan.  After the run the `data`
dictionaries have entries for exactly the targets – whatever their values –, all value-pasted; the trace
graph is empty; the formulas that ran are the planned elements, each once, in the planned order. -/
theorem run_correct_any_values {V : Type} [Inhabited V] (f : Node → List (Option V) → V)
    (ordered : List Node) (succs preds : Node → List Node) (targets : List Node)
    (size fuel : Nat) (hz : 1 ≤ size) (ht : isTopo succs ordered = true) (hd : ordered.Nodup)
    (hp : ∀ n ∈ ordered, ∀ p ∈ preds n, p ∈ ordered ∧ n ∈ succs p) :
    (∀ x, x ∈ (executeV f preds (fuel + 1) (calcSteps ordered succs targets size) {}).data.map (·.1) ↔
        x ∈ targets ∧ x ∈ ordered) ∧
    (∀ x, x ∈ (executeV f preds (fuel + 1) (calcSteps ordered succs targets size) {}).inputs ↔
        x ∈ (executeV f preds (fuel + 1) (calcSteps ordered succs targets size) {}).data.map (·.1)) ∧
    (executeV f preds (fuel + 1) (calcSteps ordered succs targets size) {}).edges = [] ∧
    (executeV f preds (fuel + 1) (calcSteps ordered succs targets size) {}).log = ordered := by
  have e : (executeV f preds (fuel + 1) (calcSteps ordered succs targets size) ({} : VCache V)).erase =
      execute preds (fuel + 1) (calcSteps ordered succs targets size) {} :=
    erase_executeV f preds (fuel + 1) _ {}
  have r := run_correct ordered succs preds targets size fuel hz ht hd hp
  rw [← e] at r
  exact r

/-- **run_correct_from_any_values** the same from ANY valued cache whose elements and trace edges are as in
`run_correct_from_any` (well-formed; no held element is planned, no trace edge starts at a planned element;
calls go to planned elements or to held ones) – user inputs and calculated values, `None` among them or
not: what was held stays held, the targets are added, value-pasted; the planned elements ran once each. -/
theorem run_correct_from_any_values {V : Type} [Inhabited V] (f : Node → List (Option V) → V)
    (ordered : List Node) (succs preds : Node → List Node) (targets : List Node)
    (size fuel : Nat) (c0 : VCache V) (hz : 1 ≤ size) (ht : isTopo succs ordered = true) (hd : ordered.Nodup)
    (h0 : c0.erase.WF) (h0d : ∀ x ∈ c0.data.map (·.1), x ∉ ordered) (h0e : ∀ e ∈ c0.edges, e.1 ∉ ordered)
    (hp : ∀ n ∈ ordered, ∀ p ∈ preds n, (p ∈ ordered ∧ n ∈ succs p) ∨ p ∈ c0.data.map (·.1)) :
    (∀ x, x ∈ (executeV f preds (fuel + 1) (calcSteps ordered succs targets size) c0).data.map (·.1) ↔
        (x ∈ targets ∧ x ∈ ordered) ∨ x ∈ c0.data.map (·.1)) ∧
    (∀ x, x ∈ (executeV f preds (fuel + 1) (calcSteps ordered succs targets size) c0).inputs ↔
        (x ∈ targets ∧ x ∈ ordered) ∨ x ∈ c0.inputs) ∧
    (∀ e, e ∈ (executeV f preds (fuel + 1) (calcSteps ordered succs targets size) c0).edges ↔ e ∈ c0.edges) ∧
    (executeV f preds (fuel + 1) (calcSteps ordered succs targets size) c0).log = c0.log ++ ordered := by
  have e := erase_executeV f preds (fuel + 1) (calcSteps ordered succs targets size) c0
  have r := run_correct_from_any ordered succs preds targets size fuel c0.erase hz ht hd h0 h0d h0e hp
  rw [← e] at r
  exact r

/-- **pasted_value_is_kept** value-pasting stores exactly the value it is given – every value, the
distinguished `None` included: afterwards the element has an entry, and the entry is that value. -/
theorem pasted_value_is_kept {V : Type} (n : Node) (v : V) (c : VCache V) :
    (setValueV n v c).value n = some v ∧ n ∈ (setValueV n v c).data.map (·.1) ∧ n ∈ (setValueV n v c).inputs := by
  refine ⟨setValueV_value n v c, ?_, ?_⟩ <;> simp [setValueV]

/-! Non-vacuity with `None`s: modelx's own test model, values in `Option Nat`.  `valNone3`: `Cells2(2)` (= 3),
an intermediate element that the LAST block reads and that has a precedent of its own, evaluates to `None`;
`valNone4`: the target `Cells3(2)` (= 4) does. -/
def valNone3 : Node → List (Option (Option Nat)) → Option Nat :=
  fun n vs => if n = 3 then none else some (n + 10 * vs.length)

def valNone4 : Node → List (Option (Option Nat)) → Option Nat :=
  fun n vs => if n = 4 then none else some (n + 10 * vs.length)

example : executeV valNone3 demoPreds 1 (calcSteps demoOrder demoSuccs [4] 2) {} =
    { data := [(4, some 24)], inputs := [4], edges := [], log := [0, 1, 2, 3, 4] } := by decide +kernel

/-- a target whose value is `None` HOLDS `None` at the end (an entry with value `none`, not no entry) -/
example : executeV valNone4 demoPreds 1 (calcSteps demoOrder demoSuccs [4] 2) {} =
      { data := [(4, none)], inputs := [4], edges := [], log := [0, 1, 2, 3, 4] } ∧
    (executeV valNone4 demoPreds 1 (calcSteps demoOrder demoSuccs [4] 2) {}).value 4 = some none := by decide +kernel

example : ∀ x, x ∈ (executeV valNone3 demoPreds 1 (calcSteps demoOrder demoSuccs [4] 2) {}).data.map (·.1) ↔
    x ∈ [4] ∧ x ∈ demoOrder :=
  (run_correct_any_values valNone3 demoOrder demoSuccs demoPreds [4] 2 0 (by decide +kernel) (by decide +kernel) (by decide +kernel)
    (by decide +kernel)).1

example : (executeV valNone3 demoPreds 1 (calcSteps demoOrder demoSuccs [4] 2) {}).erase =
    (executeV (fun n _ => n) demoPreds 1 (calcSteps demoOrder demoSuccs [4] 2) {}).erase :=
  held_elements_independent_of_values _ _ demoPreds 1 _ {} {} rfl

example : (setValueV 3 (none : Option Nat) { data := [(2, some 7), (3, some 1)], edges := [(2, 3)] }).value 3 =
    some none := (pasted_value_is_kept 3 none _).1

/-- **paste_must_not_inspect_values** A `'paste'` step that reads the cache and skips the elements whose value is
`None` ("nothing held, nothing to keep" – `executeSkipNone`, a model of a plausible optimisation, not of modelx)
breaks the statement: (a) with `valNone4` the target ends up holding nothing; (b) with `valNone3` the intermediate
`None` is cleared with its precedents in its own block and the last block computes it and its precedents a second
time (on modelx's test model the final clear of `Cells1()` sweeps them away again; in general they are left
behind – the harness' oracle sees both). -/
theorem paste_must_not_inspect_values :
    (¬ ∀ (f : Node → List (Option (Option Nat)) → Option Nat) (ordered : List Node) (succs preds : Node → List Node)
        (targets : List Node) (size fuel : Nat), 1 ≤ size → isTopo succs ordered = true → ordered.Nodup →
        (∀ n ∈ ordered, ∀ p ∈ preds n, p ∈ ordered ∧ n ∈ succs p) →
        ∀ t ∈ targets, t ∈ ordered →
          t ∈ (executeSkipNone Option.isNone f preds (fuel + 1) (calcSteps ordered succs targets size) {}).data.map (·.1)) ∧
    (¬ ∀ (f : Node → List (Option (Option Nat)) → Option Nat) (ordered : List Node) (succs preds : Node → List Node)
        (targets : List Node) (size fuel : Nat), 1 ≤ size → isTopo succs ordered = true → ordered.Nodup →
        (∀ n ∈ ordered, ∀ p ∈ preds n, p ∈ ordered ∧ n ∈ succs p) →
        (executeSkipNone Option.isNone f preds (fuel + 1) (calcSteps ordered succs targets size) {}).log = ordered) := by
  constructor
  · intro h
    have := h valNone4 demoOrder demoSuccs demoPreds [4] 2 4 (by decide +kernel) (by decide +kernel) (by decide +kernel) (by decide +kernel)
      4 (by decide +kernel) (by decide +kernel)
    revert this; decide +kernel
  · intro h
    have := h valNone3 demoOrder demoSuccs demoPreds [4] 2 4 (by decide +kernel) (by decide +kernel) (by decide +kernel) (by decide +kernel)
    revert this; decide +kernel

/-- what the skipping paste does on `valNone3`: `3` is recomputed in the last block, with `2` and `1` -/
example : executeSkipNone Option.isNone valNone3 demoPreds 5 (calcSteps demoOrder demoSuccs [4] 2) {} =
    { data := [(4, some 24)], inputs := [4], edges := [], log := [0, 1, 2, 3, 4, 3, 2, 1] } := by decide +kernel

/-! ## Values: what the targets hold is what direct evaluation gives

The model with values (Kernels/CalcSteps.lean): a finite DAG of elements, `preds n` the precedents the formula
of `n` reads, and a pure evaluation function `f n vs` – the value of `n` when its precedents have the values
`vs` (so `f` reads its precedents only; `none` in `vs`: a precedent had no value when it was read).  `'calc'`
stores `f n (the precedents' values in the current cache)`.  `direct f preds inp k n` is DIRECT evaluation of
`n` to depth `k` relative to the values `inp` the model holds and does not recompute (user inputs first of
all): the least fixed point of the evaluation equations along the DAG. -/

/-- **run_values_are_direct_evaluation** Executing the plan from the empty model: for every value domain
(`None` or not), every evaluation function, every topological order of distinct nodes, target list, step size
`≥ 1`, call-depth bound `≥ 1`, program whose calls stay inside the plan – the elements that hold a value at
the end are exactly the targets, and the value each of them holds is the one direct evaluation gives it, at
every depth `≥` the number of planned elements (the depth at which direct evaluation has settled). -/
theorem run_values_are_direct_evaluation {V : Type} [Inhabited V] (f : Node → List (Option V) → V)
    (ordered : List Node) (succs preds : Node → List Node) (targets : List Node)
    (size fuel : Nat) (hz : 1 ≤ size) (ht : isTopo succs ordered = true) (hd : ordered.Nodup)
    (hp : ∀ n ∈ ordered, ∀ p ∈ preds n, p ∈ ordered ∧ n ∈ succs p) :
    (∀ x, (∃ v, (executeV f preds (fuel + 1) (calcSteps ordered succs targets size) {}).value x = some v) ↔
      x ∈ targets ∧ x ∈ ordered) ∧
    (∀ x v, (executeV f preds (fuel + 1) (calcSteps ordered succs targets size) {}).value x = some v →
      ∀ k, ordered.length ≤ k → direct f preds (fun _ => none) k x = some v) := by
  have hrc := run_correct_any_values f ordered succs preds targets size fuel hz ht hd hp
  obtain ⟨hs, _, hk⟩ := direct_solves ht hd f (inp := fun _ => none) (fun _ _ => rfl)
    (fun n hn p hpm => Or.inl (hp n hn p hpm))
  have hc := run_cons (targets := targets) (c0 := {}) ht hd ⟨by simp, by simp⟩ (by simp) (by simp)
    (fun n hn p hpm => Or.inl (hp n hn p hpm)) f _ hs fuel hz ({} : VCache V) rfl (fun e he => nomatch he)
  constructor
  · intro x
    rw [← hrc.1 x]
    exact ⟨fun ⟨v, hv⟩ => held_of_value hv, value_of_held⟩
  · intro x v hv k hk'
    have hx := ((hrc.1 x).mp (held_of_value hv)).2
    rw [hk x hx k hk', hc.value hv]

/-- **run_values_are_direct_evaluation_from_any_values** The same from ANY model state with values: `inp`
describes what the model holds when the run starts – user inputs (assigned values, NOT recomputed) and
calculated values it already holds that are not planned (since 77e9cc3 `generate_actions` plans and clears the
held values the targets depend on; whatever else is held is read as it is) – `hin`: every entry of the cache is
`inp`'s value, `hout`: no planned element has one.  Under the hypotheses of `run_correct_from_any` on the held
elements and trace edges: EVERY value held at the end – targets, user inputs, what was held before – is the
value direct evaluation relative to `inp` gives that element, at every depth `≥` the number of planned
elements.  (If the calculated values held before were themselves direct evaluations relative to the user
inputs, so is everything at the end: direct evaluation reads them as it would recompute them.) -/
theorem run_values_are_direct_evaluation_from_any_values {V : Type} [Inhabited V] (f : Node → List (Option V) → V)
    (ordered : List Node) (succs preds : Node → List Node) (targets : List Node)
    (size fuel : Nat) (c0 : VCache V) (inp : Node → Option V)
    (hz : 1 ≤ size) (ht : isTopo succs ordered = true) (hd : ordered.Nodup)
    (h0 : c0.erase.WF) (h0d : ∀ x ∈ c0.data.map (·.1), x ∉ ordered) (h0e : ∀ e ∈ c0.edges, e.1 ∉ ordered)
    (hp : ∀ n ∈ ordered, ∀ p ∈ preds n, (p ∈ ordered ∧ n ∈ succs p) ∨ p ∈ c0.data.map (·.1))
    (hin : ∀ e ∈ c0.data, inp e.1 = some e.2) (hout : ∀ n ∈ ordered, inp n = none) :
    ∀ x v, (executeV f preds (fuel + 1) (calcSteps ordered succs targets size) c0).value x = some v →
      ∀ k, ordered.length ≤ k → direct f preds inp k x = some v := by
  have hrc := run_correct_from_any_values f ordered succs preds targets size fuel c0 hz ht hd h0 h0d h0e hp
  obtain ⟨hs, hi, hk⟩ := direct_solves ht hd f hout fun n hn p hpm =>
    (hp n hn p hpm).imp_right fun h => by
      obtain ⟨e, he, rfl⟩ := List.mem_map.mp h
      rw [hin e he]; rfl
  have hc := run_cons (targets := targets) ht hd h0 h0d h0e hp f _ hs fuel hz c0 rfl
    (fun e he => (hi e.1 e.2 (hin e he)).symm)
  intro x v hv k hk'
  rw [hc.value hv]
  rcases (hrc.1 x).mp (held_of_value hv) with h | h
  · exact hk x h.2 k hk'
  · obtain ⟨e, he, rfl⟩ := List.mem_map.mp h
    rw [direct_of_inp f preds inp k _ _ (hin e he), hi _ _ (hin e he)]

/-- the evaluation equations, solved by direct evaluation: on a topological order, depth `ordered.length`
determines every planned element, more depth changes nothing, and the value of each is `f` of its
precedents' values (so direct evaluation IS the fixed point the theorems above speak about) -/
theorem direct_evaluation_is_the_fixed_point {V : Type} [Inhabited V] (f : Node → List (Option V) → V)
    (ordered : List Node) (succs preds : Node → List Node) (inp : Node → Option V)
    (ht : isTopo succs ordered = true) (hd : ordered.Nodup) (hout : ∀ n ∈ ordered, inp n = none)
    (hp : ∀ n ∈ ordered, ∀ p ∈ preds n, (p ∈ ordered ∧ n ∈ succs p) ∨ (inp p).isSome) :
    ∀ n ∈ ordered, ∀ k, ordered.length ≤ k →
      direct f preds inp k n = some (f n ((preds n).map (direct f preds inp k))) :=
  direct_fixed_point ht hd f hout hp

/-! Non-vacuity with numbers and `None`s.  `valSeen n vs = some (n + 10 · number of precedents that HAD a value)`,
`valNone3` as above (`Cells2(2)` is `None`). -/
def valSeen : Node → List (Option (Option Nat)) → Option Nat :=
  fun n vs => some (n + 10 * (vs.filter Option.isSome).length)

example : (executeV valSeen demoPreds 1 (calcSteps demoOrder demoSuccs [4] 2) {}).value 4 = some (some 24) ∧
    direct valSeen demoPreds (fun _ => none) 5 4 = some (some 24) ∧
    direct valSeen demoPreds (fun _ => none) 9 4 = some (some 24) := by decide +kernel

example : ∀ x v, (executeV valNone3 demoPreds 1 (calcSteps demoOrder demoSuccs [4, 3] 2) {}).value x = some v →
    ∀ k, demoOrder.length ≤ k → direct valNone3 demoPreds (fun _ => none) k x = some v :=
  (run_values_are_direct_evaluation valNone3 demoOrder demoSuccs demoPreds [4, 3] 2 0 (by decide +kernel) (by decide +kernel)
    (by decide +kernel) (by decide +kernel)).2

/-- the `None`-valued target `3` holds `None`, and that is its direct value -/
example : (executeV valNone3 demoPreds 1 (calcSteps demoOrder demoSuccs [4, 3] 2) {}).value 3 = some none ∧
    direct valNone3 demoPreds (fun _ => none) 5 3 = some none := by decide +kernel

/-- from a model with a user input on `1` (`Cells2(0) = 100`, not recomputed) and an unrelated value `7`:
`Cells2(1)` reads the input -/
def inVCache : VCache (Option Nat) := { data := [(1, some 100), (7, none)], inputs := [1, 7] }
def inVals : Node → Option (Option Nat) := fun n => if n = 1 then some (some 100) else if n = 7 then some none else none

example : (executeV valSeen demoPredsIn 1 (calcSteps [0, 2, 3, 4] demoSuccsIn [4] 2) inVCache).data =
    [(1, some 100), (7, none), (4, some 24)] ∧ direct valSeen demoPredsIn inVals 4 4 = some (some 24) ∧
    direct valSeen demoPredsIn inVals 4 1 = some (some 100) := by decide +kernel

example : ∀ x v, (executeV valSeen demoPredsIn 1 (calcSteps [0, 2, 3, 4] demoSuccsIn [4] 2) inVCache).value x = some v →
    ∀ k, [0, 2, 3, 4].length ≤ k → direct valSeen demoPredsIn inVals k x = some v :=
  run_values_are_direct_evaluation_from_any_values valSeen [0, 2, 3, 4] demoSuccsIn demoPredsIn [4] 2 0 inVCache inVals
    (by decide +kernel) (by decide +kernel) (by decide +kernel) ⟨by decide +kernel, by decide +kernel⟩ (by decide +kernel) (by decide +kernel) (by decide +kernel) (by decide +kernel) (by decide +kernel)

/-- **calc_needs_its_precedents_held** What the plan's order is for: a `'calc'` of an element whose precedents
hold no value, at call-depth bound 1 (the formula cannot evaluate them itself), computes from MISSING values
(`valSeen` sees none of its two precedents) – not the direct value.  So "every held value is the direct one" is
false of arbitrary action lists; it is the planned order (every `'calc'` with its precedents held,
`block_ready`) that makes it true for every call-depth bound `≥ 1`. -/
theorem calc_needs_its_precedents_held :
    ¬ ∀ (f : Node → List (Option (Option Nat)) → Option Nat) (preds : Node → List Node) (actions : List Action)
        (x : Node) (v : Option Nat), (executeV f preds 1 actions {}).value x = some v →
        direct f preds (fun _ => none) 5 x = some v := by
  intro h
  have := h valSeen demoPreds [.doCalc [4]] 4 (some 4) (by decide +kernel)
  revert this; decide +kernel

/-- a plan that clears too early is noticed by the cache model: the log shows the recomputation -/
example : (execute demoPreds 5 [.doCalc [0, 1], .doClear [0], .doCalc [4]] {}).log =
    [0, 1, 4, 0, 3, 2, 1] := by decide +kernel

/-- the topological hypothesis is needed for the final assertion: on an order that is not
topological the model (like the code) ends with a non-empty `pasted` -/
example : finalPasted [1, 0] demoSuccs [] 1 ≠ [] := by decide +kernel

end MxModel.C16
