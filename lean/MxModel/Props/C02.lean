import MxModel.Props.C01
import MxModel.Props.C06
import MxModel.Proofs.ExecCertRunOps
import MxModel.Proofs.ExecCertRecalcOp
import MxModel.Proofs.ExecInputsRun
import MxModel.Proofs.ExecResolveSM
import MxModel.Proofs.ExecCertExamples
import MxModel.Proofs.EditMachineInputs
import MxModel.Proofs.EditMachineStructEnv
import MxModel.Proofs.EditMachineGlobalsExamples
import MxModel.Proofs.EditMachineRenameExamples
/-!
# C02 – no stale value survives any edit

What is proved here, for the value layer's mechanism model and for every formula behaviour:

* `den_local` – **answers depend only on current definitions reachable from the query**: the
  uncached denotation of an element is determined by the formulas, flags and inputs of the
  elements in any call-closed set containing it and by the references those formulas read;
  an edit outside that set changes nothing for it.
* `no_stale_after_edit` – the reduction of the property to its core obligation: if, after an
  edit `env ↦ env'` (any kind: values, references, formulas, flags, members), every element that
  *survives* the clearing lies in a call-closed set the edit did not touch, then every held
  value is the denotation under the **new** definitions, and every later evaluation returns
  the value a model that only saw the edits returns (`Den env'`), whatever was cached before.
* for value edits the clearing is exact (C06: `set_value_exact`, `clear_at_exact`).

**Mechanism level** (proofs in `Proofs/ExecCert*.lean`): the clearing
that modelx performs for an edit – namespace notification of the observer cells then
`clear_attr_referrers` for a reference edit (`St.setRef`, `St.delRef`), `clear_obj` for a formula
or flag edit (`St.setFormula`), `clear_with_descs` for a value edit (`St.setValue`,
`St.clearValueAt`) – *discharges* the obligation `hsurv` of `no_stale_after_edit`:
`no_stale_after_ref_edit`, `no_stale_after_ref_delete`, `no_stale_after_formula_edit`,
`no_stale_after_value_edit` conclude `Good env' …` for the edited environment with **no**
hypothesis about the survivors, from the certificate invariant `CI`, which every reachable
state has (`reachable_ci`: evaluations – successful or failed –, value edits, reference edits,
formula and flag edits, cells deleted and created, in any interleaving; with the recalculation option
`mx.set_recalc(True)` – the fourteenth operation, the assignment that recomputes the former leaf
dependents at once –: `recalc_keeps_certificates`, `reachable_ci_with_recalc`, and
`recalc_history_is_a_lazy_history`, by which every statement about the reachable states of the
thirteen-operation language holds with the option on).  Structural edits:
`no_stale_after_batch_edit` (a SET of cells is redefined at once – formulas, flags, existence –
and the clearing is the namespace notification, which keeps inputs), with its instances
`no_stale_after_cell_delete` (`St.delCell`) and `no_stale_after_cell_create` (`St.newCell`); a call
of a cells that does not exist fails in the caller (`Env.alive`, `evalNode`, `calleeAt`).
Hypotheses, all named and visible: `Ranked env lt` (terminating programs, the regime of C06/C08),
`NoCatchEnv env` (no formula turns a failure into a value: known finding
C02-caught-failure-untracked, `full_statement_fails_catch` below), `Scoped env` (static scoping:
a by-name read is of a reference of the formula's own space, which is how Python resolves
globals), and – only for the corollary about what later evaluations *return*, inherited from
C01 – `LimitNotCaughtInThisCall` (C01).

**Structural edits** (the last three sections; models `Edit/Machine.lean`, `Edit/MachineRename.lean`,
proofs `Proofs/EditMachine*.lean`): the combined machine – structural mechanism model × executor, the
definitions READ OFF the structure, every structural operation followed by the clearing the code
performs for it – keeps the invariant through every operation (`machine_keeps_ci`; the premise
"which cells are notified" of `no_stale_in_sub_spaces_after_member_edit` is derived:
`clearing_covers_every_change`), hence `no_stale_value_after_any_structural_history` and
`live_equals_edits_only`.  The same with model-level references and their shadowing (`Edit.OpG`:
`clearing_covers_every_change_with_globals`, `machineG_keeps_ci`,
`no_stale_value_after_any_history_with_globals`, `live_equals_edits_only_with_globals`) and with
`space.rename` (`Edit.OpR`: `rename_changes_no_definition`, `machineR_keeps_ci`,
`no_stale_value_after_any_history_with_renames`, `live_equals_edits_only_with_renames`); the code
before each repair of this class fails the decidable coverage check (`coverage_fails_without_…`).

What is **not** a Lean theorem: object-valued references, parametrised spaces, `_model.x` reads,
formulas with handlers, formulas that read an attribute of a space object (its name: known finding
C02-space-name-read-through-reference), `allow_none` edits – decided by the implementation-only
oracle (live model against a model to which only the edits were applied, after every evaluation)
and by the small-scope exhaustive enumeration of single edits.  The mechanism model functions the
theorems are about are tied to the code by the correspondences of this property's check
(`harness/mxh/props/c02.py`: held values, trace graph and reference graph after every operation of
generated histories with reference, formula, flag and value edits; for the combined machine the
`edit` layer: accept / refuse, results, the held set and the machine's coverage check after every
operation).
-/
namespace MxModel.C02
open MxModel.Exec

/-- all calls a behaviour can make, on any path and whatever callees return, go into `C` -/
def CallsIn (C : Node → Prop) : Prog → Prop
  | .ret _ => True
  | .raise _ => True
  | .reraise _ => True
  | .read _ _ k => ∀ v, CallsIn C (k v)
  | .call m k => C m ∧ ∀ r, CallsIn C (k r)

/-- all references a behaviour can read are in `R` -/
def ReadsIn (R : RefId → Prop) : Prog → Prop
  | .ret _ => True
  | .raise _ => True
  | .reraise _ => True
  | .read _ r k => R r ∧ ∀ v, ReadsIn R (k v)
  | .call _ k => ∀ r, ReadsIn R (k r)

theorem denoteBody_local (env env' : Env) (f g : Node → Res × Bool) (C : Node → Prop) (R : RefId → Prop)
    (hfg : ∀ n, C n → f n = g n) (hrefs : ∀ r, R r → env'.refs r = env.refs r)
    (halive : ∀ n, C n → env'.alive n.1 = env.alive n.1) :
    ∀ p : Prog, CallsIn C p → ReadsIn R p → denoteBody env' g p = denoteBody env f p := by
  intro p
  induction p with
  | ret v => intro _ _; rfl
  | raise e => intro _ _; rfl
  | reraise e => intro _ _; rfl
  | read a r k ih =>
    intro hc hr
    simp only [CallsIn, ReadsIn] at hc hr
    simp only [denoteBody, hrefs r hr.1]
    exact ih _ (hc _) (hr.2 _)
  | call n k ih =>
    intro hc hr
    simp only [CallsIn, ReadsIn] at hc hr
    simp only [denoteBody, calleeAt, ← hfg n hc.1, halive n hc.1]
    rw [ih _ (hc.2 _) (hr _)]

/-- **Locality.**  If `C` is closed under the calls of the (old) formulas, and the edit leaves
the formulas, flags and inputs of `C` and the references read from `C` alone, then every
element of `C` has the same denotation before and after the edit. -/
theorem den_local (env env' : Env) (inp inp' : Node → Option Val) (C : Node → Prop) (R : RefId → Prop)
    (hclosed : ∀ n, C n → CallsIn C (env.formula n) ∧ ReadsIn R (env.formula n))
    (hform : ∀ n, C n → env'.formula n = env.formula n)
    (hcached : ∀ n, C n → env'.cached n.1 = env.cached n.1)
    (hnone : ∀ n, C n → env'.allowNone n.1 = env.allowNone n.1)
    (hinp : ∀ n, C n → inp' n = inp n)
    (hrefs : ∀ r, R r → env'.refs r = env.refs r)
    (halive : ∀ n, C n → env'.alive n.1 = env.alive n.1) :
    ∀ (d : Nat) (n : Node), C n → denoteN env' inp' d n = denoteN env inp d n := by
  intro d
  induction d with
  | zero => intro n _; rfl
  | succ d ih =>
    intro n hn
    simp only [denoteN, hcached n hn, hinp n hn, hform n hn]
    have hb := denoteBody_local env env' (denoteN env inp d) (denoteN env' inp' d) C R
      (fun m hm => (ih m hm).symm) hrefs halive (env.formula n) (hclosed n hn).1 (hclosed n hn).2
    rw [hb]
    have hck : ∀ r, checkNone env' n.1 r = checkNone env n.1 r := by
      intro r; unfold checkNone; rw [hcached n hn, hnone n hn]
    rw [hck]

/-- **No stale value survives an edit whose clearing covers what it touched.**  `s'` is the
state after the edit; every element it still holds was held before and lies in a
call-closed set `C` the edit did not touch.  Then all held values are denotations under the
*new* definitions – and so (C01) is every value any later evaluation returns. -/
theorem no_stale_after_edit (env env' : Env) (inp inp' : Node → Option Val) (s s' : St)
    (C : Node → Prop) (R : RefId → Prop)
    (hg : Good env inp s)
    (hsurv : ∀ m v, env'.cached m.1 = true → lookup s'.data m = some v →
      lookup s.data m = some v ∧ C m)
    (hinputs : ∀ m v, env'.cached m.1 = true → inp' m = some v → lookup s'.data m = some v)
    (hclosed : ∀ n, C n → CallsIn C (env.formula n) ∧ ReadsIn R (env.formula n))
    (hform : ∀ n, C n → env'.formula n = env.formula n)
    (hcached : ∀ n, C n → env'.cached n.1 = env.cached n.1)
    (hnone : ∀ n, C n → env'.allowNone n.1 = env.allowNone n.1)
    (hinp : ∀ n, C n → inp' n = inp n)
    (hrefs : ∀ r, R r → env'.refs r = env.refs r)
    (halive : ∀ n, C n → env'.alive n.1 = env.alive n.1) :
    Good env' inp' s' := by
  constructor
  · intro m v hc hl
    obtain ⟨hold, hC⟩ := hsurv m v hc hl
    have hc0 : env.cached m.1 = true := by rw [← hcached m hC]; exact hc
    obtain ⟨d, hd⟩ := hg.sound m v hc0 hold
    exact ⟨d, by rw [den_local env env' inp inp' C R hclosed hform hcached hnone hinp hrefs halive d m hC]; exact hd⟩
  · exact hinputs

/-- …hence a later evaluation in the edited model returns the denotation under the new
definitions – the value a model that only saw the edits returns (partial:
`LimitNotCaughtInThisCall`, as in C01). -/
theorem later_answers_depend_only_on_current_definitions_partial (env' : Env)
    (inp' : Node → Option Val) (s' : St) (n : Node) (v : Val)
    (hg : Good env' inp' s') (hlim : LimitNotCaughtInThisCall env' n s')
    (hv : (evalTop env' n s').1 = .ok v) : Den env' inp' n (.ok v) :=
  (C01.eval_value_is_denotation_partial env' inp' n s' hg hlim).1 v hv

/-! Non-vacuity: in the program of C08, `c0(7)` is alone in its call-closed set and reads only
reference 0; changing the formula of `c2` leaves its denotation untouched. -/
example : CallsIn (fun n => n = (0, [.int 7])) (C08.gEnv.formula (0, [.int 7])) ∧
    ReadsIn (fun r => r = 0) (C08.gEnv.formula (0, [.int 7])) := by
  simp [C08.gEnv, C08.gCells, formulaOf, compile, arith, CallsIn, ReadsIn]
  constructor <;> intro o <;> cases o with
    | none => simp [CallsIn, ReadsIn]
    | some v => cases v <;> simp [CallsIn, ReadsIn]

/-! ## Mechanism level: the clearing modelx performs discharges the obligation

The regime `WF`, the environment updates, the operation language `Op` / `step` / `run` /
`Admissible` and the class `tableEnv` are defined in `Proofs/ExecCertRunOps.lean`. -/

/-- **T1** – a top-level evaluation (of an element of a cells that exists: a handle of a deleted
cells raises `DeletedObjectError` before the executor is reached), successful or failed, keeps
the invariant. -/
theorem eval_keeps_certificates (env : Env) (lt : Node → Node → Prop) (ho : StrictOrder lt)
    (hw : WF env lt) (s : St) (n : Node) (hn : env.alive n.1 = true) (h : CI env lt s) :
    CI env lt (evalTop env n s).2 :=
  evalTop_ci ho hw.ranked hw.noCatch n hn h

/-- **T2** – certificates imply soundness: every held value is the uncached denotation under
the current definitions and the current inputs. -/
theorem certificates_sound (env : Env) (lt : Node → Node → Prop) (s : St) (h : CI env lt s) :
    Good env (inpOf s) s := h.good

/-- **T3 – no stale value survives a reference edit** (`space.r = v`, creating or changing the
reference): after the clearing modelx performs, *every* value still held is the denotation under
the NEW definitions.  No hypothesis about the survivors. -/
theorem no_stale_after_ref_edit (env : Env) (lt : Node → Node → Prop) (hw : WF env lt) (s : St)
    (h : CI env lt s) (r : RefId) (v : Val) :
    CI (env.withRef r (some v)) lt (s.setRef env r) ∧
    Good (env.withRef r (some v)) (inpOf (s.setRef env r)) (s.setRef env r) :=
  have := setRef_ci h hw.scoping hw.noCatch (refEdit_withRef env r (some v))
  ⟨this, this.good⟩

/-- …and the deletion of a reference (`del space.r`). -/
theorem no_stale_after_ref_delete (env : Env) (lt : Node → Node → Prop) (hw : WF env lt) (s : St)
    (h : CI env lt s) (r : RefId) (hex : (env.refs r).isSome = true) :
    CI (env.withRef r none) lt (s.delRef env r) ∧
    Good (env.withRef r none) (inpOf (s.delRef env r)) (s.delRef env r) :=
  have := delRef_ci h hw.scoping hw.noCatch (refEdit_withRef env r none) hex
  ⟨this, this.good⟩

/-- **T4 – …a formula or cache-flag edit** (`cells.formula = f`, `cells.is_cached = b`: the two
edits of one cells' definition that modelx ACCOMPANIES with `clear_obj(cells)`, `St.setFormula`).
The theorem is about the clearing, not about the edit: whatever changes in the definition of cells
`c` (`CellEdit` lets formula, flag and `allow_none` of `c` differ), if `clear_obj(c)` is performed
the invariant holds for the new definitions.  It does NOT say that modelx performs that clearing
for every such change: the `allow_none` setter (`base.py`) clears nothing – an `allow_none` edit is
not among C02's edits and is not covered (a held `None` stays where a model that saw only the edit
raises `NoneReturnedError`); histories do not change `allow_none` after an evaluation. -/
theorem no_stale_after_formula_edit (env env' : Env) (lt : Node → Node → Prop) (s : St)
    (h : CI env lt s) (c : CellId) (hed : CellEdit env env' c) :
    CI env' lt (s.setFormula c) ∧ Good env' (inpOf (s.setFormula c)) (s.setFormula c) :=
  have := setFormula_ci h hed
  ⟨this, this.good⟩

/-- **T4 – …a value edit** (assignment; `clear_with_descs`, exact by C06): all held values are
denotations w.r.t. the NEW inputs. -/
theorem no_stale_after_value_edit (env : Env) (lt : Node → Node → Prop) (s : St) (h : CI env lt s)
    (n : Node) (v : Val) (hc : env.cached n.1 = true) (hn : env.alive n.1 = true) :
    CI env lt (s.setValue env n v).1 ∧
    Good env (inpOf (s.setValue env n v).1) (s.setValue env n v).1 :=
  have := setValue_ci h n v hc hn
  ⟨this, this.good⟩

/-- **…a clear** (`clear_value_at(key, clear_input=True)`; `clear_with_descs`): the values still held are
denotations w.r.t. the inputs that are left. -/
theorem no_stale_after_clear (env : Env) (lt : Node → Node → Prop) (s : St) (h : CI env lt s)
    (n : Node) : CI env lt (s.clearValueAt n true) ∧
    Good env (inpOf (s.clearValueAt n true)) (s.clearValueAt n true) :=
  have := clearValueAt_ci h n true
  ⟨this, this.good⟩

/-! ### structural edits: the namespace of a set of cells changes -/

/-- **T6 – a SET of cells is redefined at once, and the clearing is the namespace notification**
(the batch generalisation of T4, whose clearing is `clear_obj`).  Like T4 it is a statement about
the clearing: IF the cells in `L` are notified, the invariant holds for any `env'` that differs from
`env` at the cells in `C` only – there arbitrarily: formula, cache flag, `allow_none`, existence
(`BatchEdit`; which edits modelx accompanies with which notification is the tie, and an
`allow_none` edit is accompanied by none);
modelx notifies the cells in `L` (`St.notifyAll`: `on_namespace_change` of each – a cached cells
drops its computed values with everything computed from them and KEEPS its inputs; an uncached
cells drops everything computed through it); every redefined cells is notified or has no node in
the trace graph (`hC`: it was cleared by `clear_obj` just before, or did not exist).  Admissibility
(`hinp`): a redefined cells that holds an input is still cached and still exists.  Then the
invariant holds for the NEW definitions, so every value still held – the inputs and everything
outside the notified cells that was not computed from them – is a denotation under them.
(The regime `WF env' lt` is needed only by later evaluations, `eval_keeps_certificates`.) -/
theorem no_stale_after_batch_edit (env env' : Env) (lt : Node → Node → Prop) (s : St) (h : CI env lt s)
    (L : List CellId) (C : CellId → Prop) (hed : BatchEdit env env' C)
    (hC : ∀ c, C c → c ∈ L ∨ ∀ x ∈ s.gn, x.cell ≠ c)
    (hinp : ∀ n ∈ s.inputs, C n.1 → env'.cached n.1 = true ∧ env'.alive n.1 = true) :
    CI env' lt (s.notifyAll env L) ∧ Good env' (inpOf (s.notifyAll env L)) (s.notifyAll env L) :=
  have := batchEdit_ci L C h hed hC hinp
  ⟨this, this.good⟩

/-- **…a cells is deleted** (`del space.c`: `clear_obj(c)`, then the notification of the cells of
`c`'s space).  `env'`: `c` is gone – and, in the generality the resolution layer needs, the cells
of its space may have new formulas (their names resolve differently). -/
theorem no_stale_after_cell_delete (env env' : Env) (lt : Node → Node → Prop) (s : St) (h : CI env lt s)
    (c : CellId) (hed : BatchEdit env env' (fun c' => c' = c ∨ c' ∈ env.siblings c))
    (hkeep : ∀ c' ∈ env.siblings c, c' ≠ c → env'.cached c' = env.cached c' ∧ env'.alive c' = env.alive c') :
    CI env' lt (s.delCell env c) ∧ Good env' (inpOf (s.delCell env c)) (s.delCell env c) :=
  have := delCell_ci h hed hkeep
  ⟨this, this.good⟩

/-- **…a cells is created** (`space.new_cells(…)`: the notification of the cells of the space). -/
theorem no_stale_after_cell_create (env env' : Env) (lt : Node → Node → Prop) (s : St) (h : CI env lt s)
    (c : CellId) (hdead : env.alive c = false)
    (hed : BatchEdit env env' (fun c' => c' = c ∨ c' ∈ env.siblings c))
    (hkeep : ∀ c' ∈ env.siblings c, c' ≠ c → env'.cached c' = env.cached c' ∧ env'.alive c' = env.alive c') :
    CI env' lt (s.newCell env c) ∧ Good env' (inpOf (s.newCell env c)) (s.newCell env c) :=
  have := newCell_ci h hdead hed hkeep
  ⟨this, this.good⟩

/-! ### the resolution layer: names, namespaces, inheritance

Source-level behaviours `SProg` look global names up in the namespace of the formula's own space
(`Exec/Resolve.lean`); `resolve ns p` is the behaviour the executor sees; `SEnv.toEnv` the
definitions (`formula n = resolve (namespace of n's home) (source of n)`; a cells exists when its
name is bound to it in its home). -/

/-- **the resolved behaviour depends only on the names the source mentions** -/
theorem resolve_depends_only_on_mentioned_names (ns ns' : Ns) (p : SProg)
    (h : ∀ x, Mentions p x → ns x = ns' x) : resolve ns p = resolve ns' p :=
  resolve_congr ns ns' p h

/-- **T7 – an edit that changes the namespaces of a set of spaces `N`** – in ANY way: cells and
references created, deleted, rebound; derived members appearing in or vanishing from sub spaces –
**and notifies every cells of every space in `N` leaves no stale value**: instance of T6, because a
formula outside `N` is resolved in a namespace that did not change.  Derived cells of sub spaces
are cells whose home is the sub space.  (`hL`: every cells living in `N` is notified or has no
node; `hinp`: one that holds an input still exists.) -/
theorem no_stale_after_namespace_edit (se : SEnv) (nss' : Nat → Ns) (N : Nat → Prop) (L : List CellId)
    (lt : Node → Node → Prop) (s : St) (h : CI se.toEnv lt s)
    (hN : ∀ sp, ¬ N sp → nss' sp = se.nss sp)
    (hL : ∀ c, N (se.home c) → c ∈ L ∨ ∀ x ∈ s.gn, x.cell ≠ c)
    (hinp : ∀ n ∈ s.inputs, N (se.home n.1) → (se.withNss nss').toEnv.alive n.1 = true) :
    CI (se.withNss nss').toEnv lt (s.notifyAll se.toEnv L) ∧
    Good (se.withNss nss').toEnv (inpOf (s.notifyAll se.toEnv L)) (s.notifyAll se.toEnv L) :=
  have := nsEdit_ci se nss' N L h hN hL hinp
  ⟨this, this.good⟩

/-- **…instantiated with the structural mechanism model** (`Struct/Mech.lean`, `MxModel.SM`): for
`new_cells`, `set_cells_property` and `del_cells` / `del_ref` at space `p` the namespaces that change
are those of `SM.St.touched st p` – `p` and the sub spaces the mechanism walks
(`C13.member_edit_changes_only_touched_spaces`) – so: if every cells living in `p` or in a sub space
of `p` (derived cells included) is notified, no stale value survives **in sub spaces either**. -/
theorem no_stale_in_sub_spaces_after_member_edit (se : SEnv) (ids : SM.Ids) (pathOf : Nat → SM.Path)
    (st st' : SM.St) (p : SM.Path) (hf : SM.Frame st st' p) (L : List CellId) (lt : Node → Node → Prop)
    (s : St) (h : CI (SM.withStruct se ids pathOf st).toEnv lt s)
    (hL : ∀ c, pathOf (se.home c) ∈ st.touched p → c ∈ L ∨ ∀ x ∈ s.gn, x.cell ≠ c)
    (hinp : ∀ n ∈ s.inputs, pathOf (se.home n.1) ∈ st.touched p →
      (SM.withStruct se ids pathOf st').toEnv.alive n.1 = true) :
    CI (SM.withStruct se ids pathOf st').toEnv lt (s.notifyAll (SM.withStruct se ids pathOf st).toEnv L) ∧
    Good (SM.withStruct se ids pathOf st').toEnv
      (inpOf (s.notifyAll (SM.withStruct se ids pathOf st).toEnv L))
      (s.notifyAll (SM.withStruct se ids pathOf st).toEnv L) :=
  have := SM.mech_edit_ci se ids pathOf st st' p hf L h hL hinp
  ⟨this, this.good⟩

/-! Non-vacuity.  `f(1)` at source level, resolved where `f` is cells 7, where `f` is reference 3
(the call of an integer: `TypeError`), and where `f` is unbound (`NameError`) – three different
behaviours; and two namespaces that differ elsewhere give the same behaviour. -/
def sK : Res → SProg
  | .ok v => .ret v
  | .err e => .reraise e

def sCall : SProg := .callN "f" [.int 1] sK (fun _ => .raise (.user 3)) (.raise (.user 4))

example : (match resolve (fun x => if x = "f" then some (.cell 7) else none) sCall with
      | .call n _ => n = (7, [.int 1]) | _ => False) ∧
    (match resolve (fun x => if x = "f" then some (.ref 3) else none) sCall with
      | .read false 3 _ => True | _ => False) ∧
    (match resolve (fun _ => none) sCall with | .raise (.user 4) => True | _ => False) := by
  refine ⟨?_, ?_, ?_⟩ <;> simp [sCall, SProg.callN, resolve]

example : resolve (fun x => if x = "f" then some (.cell 7) else if x = "g" then some (.ref 1) else none) sCall =
    resolve (fun x => if x = "f" then some (.cell 7) else none) sCall :=
  resolve_depends_only_on_mentioned_names _ _ sCall (by
    intro x hx
    have : x = "f" := by
      simp only [sCall, SProg.callN, Mentions] at hx
      rcases hx with rfl | ⟨b, hb⟩
      · rfl
      · exfalso
        match b, hb with
        | some (.cell c), hb => obtain ⟨r, hr⟩ := hb; cases r <;> exact hr
        | some (.ref r), hb => obtain ⟨o, ho⟩ := hb; exact ho
        | none, hb => exact hb
    subst this
    rfl)

/-- **Every reachable quiescent state has the certificate invariant**: after any finite
interleaving of evaluations (successful, failed), value edits, reference edits (change, create,
delete), formula / flag edits, deletions / creations of cells, changes of the recursion limit and
administrative calls (thirteen operations: the union of this property's and C05/C08/C17's edit
languages), starting from the empty model.  The fourteenth operation – the value assignment with the
recalculation option on – is added by `reachable_ci_with_recalc` / `recalc_history_is_a_lazy_history`
below. -/
theorem reachable_ci (lt : Node → Node → Prop) (ho : StrictOrder lt) (env0 : Env) (hw0 : WF env0 lt)
    (ops : List Op) (hadm : Admissible lt (env0, {}) ops) :
    CI (run (env0, {}) ops).1 lt (run (env0, {}) ops).2 ∧ WF (run (env0, {}) ops).1 lt :=
  run_ci lt ho ops (env0, {}) hw0 (CI.empty env0 lt) hadm

/-- **C02 for the value layer**: in every reachable state, every held value is the denotation
under the CURRENT definitions – whatever was evaluated before the edits. -/
theorem no_stale_value_reachable (lt : Node → Node → Prop) (ho : StrictOrder lt) (env0 : Env)
    (hw0 : WF env0 lt) (ops : List Op) (hadm : Admissible lt (env0, {}) ops) :
    Good (run (env0, {}) ops).1 (inpOf (run (env0, {}) ops).2) (run (env0, {}) ops).2 :=
  (reachable_ci lt ho env0 hw0 ops hadm).1.good

/-- **T5 – later answers equal those of a model that saw only the edits** (partial:
`LimitNotCaughtInThisCall` for the two evaluations, as in C01).  `sF` is any state of the edited model
in which nothing stale can be held.  (For states `sF` given from outside; for THE edits-only
model see `live_answer_equals_edits_only_answer`, which has no hypothesis about `sF`.) -/
theorem later_answers_equal_fresh_model_partial (env' : Env) (lt : Node → Node → Prop) (s' sF : St)
    (h : CI env' lt s') (hF : Good env' (inpOf s') sF) (n : Node) (v w : Val)
    (hend : LimitNotCaughtInThisCall env' n s') (hendF : LimitNotCaughtInThisCall env' n sF)
    (hv : (evalTop env' n s').1 = .ok v) (hw : (evalTop env' n sF).1 = .ok w) : v = w :=
  C01.order_independent env' (inpOf s') n s' sF h.good hF hend hendF v w hv hw

/-- **The model to which only the edits were applied has the same definitions and the same inputs
as the live model** – `noEvals ops` is the history with every evaluation removed – and holds
certificates for them. -/
theorem edits_only_same_definitions_and_inputs (lt : Node → Node → Prop) (ho : StrictOrder lt) (env0 : Env)
    (hw0 : WF env0 lt) (ops : List Op) (hadm : Admissible lt (env0, {}) ops) :
    (run (env0, {}) (noEvals ops)).1 = (run (env0, {}) ops).1 ∧
    inpOf (run (env0, {}) (noEvals ops)).2 = inpOf (run (env0, {}) ops).2 ∧
    Good (run (env0, {}) ops).1 (inpOf (run (env0, {}) ops).2) (run (env0, {}) (noEvals ops)).2 := by
  obtain ⟨h1, h2, h3, _, _⟩ := run_noEvals lt ho env0 hw0 ops hadm
  exact ⟨h1, h2, h2 ▸ h3.good⟩

/-- **The headline: whatever was evaluated in between, the value a later evaluation returns equals
the value returned by a model to which only the edits were applied.**  `ops` is ANY history of the
thirteen-operation language from the empty model (admissible: the edits stay in the regime `WF`);
the live model runs all of it, the other model runs `noEvals ops`; then both are asked for `n`.
If both return values, the values are equal.  No hypothesis about either run – in particular none
about the depth limit, in these two calls or in any evaluation of the history. -/
theorem live_answer_equals_edits_only_answer (lt : Node → Node → Prop) (ho : StrictOrder lt) (env0 : Env)
    (hw0 : WF env0 lt) (ops : List Op) (hadm : Admissible lt (env0, {}) ops) (n : Node) (v w : Val)
    (hv : (evalTop (run (env0, {}) ops).1 n (run (env0, {}) ops).2).1 = .ok v)
    (hw : (evalTop (run (env0, {}) (noEvals ops)).1 n (run (env0, {}) (noEvals ops)).2).1 = .ok w) :
    v = w := by
  obtain ⟨h1, h2, h3, h4, hwf⟩ := run_noEvals lt ho env0 hw0 ops hadm
  rw [h1] at hw
  have a := (C01.eval_value_is_denotation_nocatch_partial _ _ hwf.noCatch n _ h4.good).1 v hv
  have b := (C01.eval_value_is_denotation_nocatch_partial _ _ hwf.noCatch n _ h3.good).1 w hw
  rw [h2] at b
  have := Den_det _ _ n _ _ a b
  cases this; rfl

/-- …and when neither of the two calls hits the limit and the live one fails, the edits-only model
fails with the same original error. -/
theorem live_error_equals_edits_only_error_partial (lt : Node → Node → Prop) (ho : StrictOrder lt)
    (env0 : Env) (hw0 : WF env0 lt) (ops : List Op) (hadm : Admissible lt (env0, {}) ops) (n : Node)
    (e : Err) (tb : List Node)
    (hl1 : LimitNotCaughtInThisCall (run (env0, {}) ops).1 n (run (env0, {}) ops).2)
    (hl2 : LimitNotCaughtInThisCall (run (env0, {}) ops).1 n (run (env0, {}) (noEvals ops)).2)
    (hv : (evalTop (run (env0, {}) ops).1 n (run (env0, {}) ops).2).1 = .formulaError e tb) :
    ∃ tb', (evalTop (run (env0, {}) (noEvals ops)).1 n (run (env0, {}) (noEvals ops)).2).1 =
      .formulaError e tb' := by
  obtain ⟨h1, h2, h3, h4, hwf⟩ := run_noEvals lt ho env0 hw0 ops hadm
  rw [h1]
  have a := (C01.eval_value_is_denotation_partial _ _ n _ h4.good hl1).2.1 e tb hv
  have hg3 : Good (run (env0, {}) ops).1 (inpOf (run (env0, {}) ops).2) (run (env0, {}) (noEvals ops)).2 :=
    h2 ▸ h3.good
  have hb := C01.eval_value_is_denotation_partial _ _ n _ hg3 hl2
  cases hres : (evalTop (run (env0, {}) ops).1 n (run (env0, {}) (noEvals ops)).2).1 with
  | ok w => have := Den_det _ _ n _ _ a (hb.1 w hres); cases this
  | formulaError e' tb' =>
    have := Den_det _ _ n _ _ a (hb.2.1 e' tb' hres)
    cases this; exact ⟨tb', rfl⟩

/-- **a syntactic class in the regime** (`tableEnv`, `Proofs/ExecCertRunOps.lean`): bodies without a
handler that returns a value (`noCatch`; contains the `try`-free bodies, `noCatch_of_noTry`), cells
`i` calls cells `< i`, any placement in spaces, any set of missing cells. -/
theorem tableEnv_wf (cells : CellId → Option Expr) (ar : CellId → Option Nat) (ids : List CellId)
    (cached allowNone : CellId → Bool) (cspace : CellId → Nat) (rspace : RefId → Nat)
    (refs : RefId → Option Val) (maxdepth : Nat) (dead : CellId → CellId → Option Bool) (alive : CellId → Bool)
    (hids : ∀ i e, cells i = some e → i ∈ ids)
    (hbody : ∀ i e, cells i = some e → noCatch e = true ∧ callsBelowId i e = true) :
    WF (tableEnv cells ar ids cached allowNone cspace rspace refs maxdepth dead alive) idLt :=
  tableEnv_wf_aux cells ar ids cached allowNone cspace rspace refs maxdepth dead alive hids hbody

/-! Non-vacuity.  Space 0 holds `c0(x) = x + r0` (reference `r0` of space 0, by name), the
uncached `c1(x) = c0(x) + r1` (`r1` lives in space 1: attribute path) and `c3() = c2(1) + r0`
(by attribute path `_space.r0`); space 1 holds `c2(x) = c1(x) * r1` (`r1` by name).  A history
with evaluations, a change of `r1`, a change of `r0`, a deletion of `r1`, an assignment and its
re-creation is admissible (flag and formula edits: `zOps` below); the invariant holds at its end,
and the values really changed.  (The example programs are defined in
`Proofs/ExecCertExamples.lean`.) -/
example : CI (run (xEnv, {}) xOps).1 idLt (run (xEnv, {}) xOps).2 :=
  (reachable_ci idLt idLt_strict xEnv xEnv_wf xOps
    (xOps_admissible xOps _ xEnv_wf (by intro op h; simp [xOps] at h; rcases h with rfl | rfl | rfl | rfl | rfl | rfl | rfl | rfl | rfl | rfl | rfl | rfl <;> trivial))).1

/-- the values the history really produces: `c3()` = 36 at first, 52 after `r1 := 3`, 92 after
`r0 := 20`, 329 after `c0(1) := 100`, a failure after `del r1`, 121 after `r1 := 1` -/
example : (evalTop xEnv (3, []) {}).1 = .ok (.int 36) ∧
    (evalTop (run (xEnv, {}) (xOps.take 3)).1 (3, []) (run (xEnv, {}) (xOps.take 3)).2).1 = .ok (.int 52) ∧
    (evalTop (run (xEnv, {}) (xOps.take 5)).1 (3, []) (run (xEnv, {}) (xOps.take 5)).2).1 = .ok (.int 92) ∧
    (evalTop (run (xEnv, {}) (xOps.take 7)).1 (3, []) (run (xEnv, {}) (xOps.take 7)).2).1 = .ok (.int 329) ∧
    (evalTop (run (xEnv, {}) xOps).1 (3, []) (run (xEnv, {}) xOps).2).1 = .ok (.int 121) := by
  decide +kernel

/-- after `r1 := 3` the value of `c0(5)` – which does not depend on `r1` – is still held, the
values computed from `r1` (by name in the other space, by attribute path through the uncached
`c1`) are gone, and so are the reference-graph edges of everything removed (the read of `r1` made
inside the uncached `c1` had been recorded for `c2(1)`, the nearest cached caller) -/
example : ((run (xEnv, {}) (xOps.take 3)).2.data.map (·.1)) = [(0, [.int 5]), (0, [.int 1])] ∧
    (run (xEnv, {}) (xOps.take 2)).2.rg = [(1, (2, [.int 1])), (0, (3, []))] ∧
    (run (xEnv, {}) (xOps.take 3)).2.rg = [] := by
  decide +kernel

/-! Non-vacuity with a FLAG edit and a FORMULA edit (`zOps`, `Proofs/ExecCertExamples.lean`): `c3()` is 36;
the uncached `c1` is switched to cached – `c3()` is recomputed, 36 again, now with an element node for
`c1(1)`; `c3` gets the formula `c0(1)` – 11; `r0 := 7` – 8.  The history is admissible, the invariant
holds at its end, and the model to which only the three edits were applied answers 8 as well
(`live_answer_equals_edits_only_answer` – here both sides computed). -/
example : CI (run (xEnv, {}) zOps).1 idLt (run (xEnv, {}) zOps).2 :=
  (reachable_ci idLt idLt_strict xEnv xEnv_wf zOps zOps_admissible).1

example : (evalTop xEnv (3, []) {}).1 = .ok (.int 36) ∧
    (evalTop (run (xEnv, {}) (zOps.take 2)).1 (3, []) (run (xEnv, {}) (zOps.take 2)).2).1 = .ok (.int 36) ∧
    (run (xEnv, {}) (zOps.take 3)).2.gn.contains (.elem (1, [.int 1])) = true ∧
    (evalTop (run (xEnv, {}) (zOps.take 4)).1 (3, []) (run (xEnv, {}) (zOps.take 4)).2).1 = .ok (.int 11) ∧
    (evalTop (run (xEnv, {}) zOps).1 (3, []) (run (xEnv, {}) zOps).2).1 = .ok (.int 8) ∧
    (evalTop (run (xEnv, {}) (noEvals zOps)).1 (3, []) (run (xEnv, {}) (noEvals zOps)).2).1 = .ok (.int 8) := by
  decide +kernel

example : noEvals zOps = [.setCached 1 true, .setFormula 3 zF, .setRef 0 (.int 7)] := rfl

example (v w : Val) (hv : (evalTop (run (xEnv, {}) zOps).1 (2, [.int 1]) (run (xEnv, {}) zOps).2).1 = .ok v)
    (hw : (evalTop (run (xEnv, {}) (noEvals zOps)).1 (2, [.int 1]) (run (xEnv, {}) (noEvals zOps)).2).1 = .ok w) :
    v = w :=
  live_answer_equals_edits_only_answer idLt idLt_strict xEnv xEnv_wf zOps zOps_admissible (2, [.int 1]) v w hv hw

/-! Non-vacuity for cells deleted and created.  In the same program: `c3()` and `c0(5)` are
evaluated, `c0(9)` is assigned; `c0` is deleted - nothing is held any more (the elements of `c0`,
input included, and everything computed from them through the uncached `c1` in the other space),
`c3()` now fails with the error of an unbound name; `c0` is created again as the constant 1 and
`c3()` is `((1 + r1) * r1) + r0 = 16`.  The history is admissible and the invariant holds. -/
example : CI (run (xEnv, {}) yOps).1 idLt (run (xEnv, {}) yOps).2 :=
  (reachable_ci idLt idLt_strict xEnv xEnv_wf yOps yOps_admissible).1

example : ((run (xEnv, {}) (yOps.take 3)).2.data.map (·.1)) =
      [(0, [.int 9]), (0, [.int 5]), (3, []), (2, [.int 1]), (0, [.int 1])] ∧
    (run (xEnv, {}) (yOps.take 4)).2.data = [] ∧ (run (xEnv, {}) (yOps.take 4)).2.gn = [] ∧
    (run (xEnv, {}) (yOps.take 4)).2.rg = [] ∧
    (evalTop (run (xEnv, {}) (yOps.take 4)).1 (3, []) (run (xEnv, {}) (yOps.take 4)).2).1 =
      .formulaError errDead [(3, []), (2, [.int 1]), (1, [.int 1])] ∧
    (evalTop (run (xEnv, {}) (yOps.take 6)).1 (3, []) (run (xEnv, {}) (yOps.take 6)).2).1 = .ok (.int 16) := by
  decide +kernel

/-! ### the fourteenth operation: the assignment with the recalculation option on

`mx.set_recalc(True)`: `cells[key] = v` recomputes the former leaf dependents at once (`St.setValueRecalc`,
`Exec/Mech.lean`; the statements about it alone are in `Props/C06.lean`).  The fourteen-operation language
`OpR` = `Op` + `setValueRecalc` (`Proofs/ExecCertRecalcOp.lean`) is an EXTENSION of the thirteen-operation
language with a SIMULATION: `stepR` / `runR` / `AdmissibleR` read it operationally; `expand` rewrites a
history with recalculating assignments into a history without. -/

/-- **The fourteenth operation keeps the certificate invariant** – whatever its outcome
`(s.setValueRecalc env n v).2`: `.ok` (every recomputation returned), `.failed t e tb` (the recomputation
of the former leaf dependent `t` raised out of the assignment; the assignment is made, the targets before
`t` are recomputed), `.refused e` (`None` where it is not allowed: nothing changed).  Second conjunct: as an
operation of the language (`stepR`: an assignment through the handle of a missing cells, or to an
uncached one, changes nothing). -/
theorem recalc_keeps_certificates (lt : Node → Node → Prop) (ho : StrictOrder lt) (env : Env) (hw : WF env lt)
    (s : St) (h : CI env lt s) (n : Node) (v : Val) :
    (env.cached n.1 = true → env.alive n.1 = true → CI env lt (s.setValueRecalc env n v).1) ∧
    CI (stepR (env, s) (.setValueRecalc n v)).1 lt (stepR (env, s) (.setValueRecalc n v)).2 :=
  ⟨fun hc hn => setValueRecalc_ci ho hw h n v hc hn, stepR_ci lt ho (env, s) (.setValueRecalc n v) hw h⟩

/-- **Every reachable quiescent state has the certificate invariant, the recalculation option included**:
after any finite interleaving of the thirteen operations of `reachable_ci` and of recalculating
assignments (returned, failed, refused), starting from the empty model. -/
theorem reachable_ci_with_recalc (lt : Node → Node → Prop) (ho : StrictOrder lt) (env0 : Env) (hw0 : WF env0 lt)
    (ops : List OpR) (hadm : AdmissibleR lt (env0, {}) ops) :
    CI (runR (env0, {}) ops).1 lt (runR (env0, {}) ops).2 ∧ WF (runR (env0, {}) ops).1 lt :=
  runR_ci lt ho ops (env0, {}) hw0 (CI.empty env0 lt) hadm

/-- … hence C02 for the value layer with the option on: in every state reachable with recalculating
assignments every held value is the denotation under the CURRENT definitions and inputs. -/
theorem no_stale_value_reachable_with_recalc (lt : Node → Node → Prop) (ho : StrictOrder lt) (env0 : Env)
    (hw0 : WF env0 lt) (ops : List OpR) (hadm : AdmissibleR lt (env0, {}) ops) :
    Good (runR (env0, {}) ops).1 (inpOf (runR (env0, {}) ops).2) (runR (env0, {}) ops).2 :=
  (reachable_ci_with_recalc lt ho env0 hw0 ops hadm).1.good

/-- **A history with recalculating assignments is a lazy history.**  Every pair (definitions, mechanism
state) reachable from the empty model by an admissible history of the fourteen-operation language is THE
pair – same definitions, same held values, inputs, graphs, log – reached by the history `expand … ops` of the
thirteen-operation language, which is admissible too.  `expand` (shape: `lazy_history_shape`) keeps every
operation of `Op` and replaces each recalculating assignment by the lazy assignment followed by the
evaluations of the former leaf dependents (those up to and including the first that fails).  Hence every
theorem about `run (env0, {}) ops'` for admissible `ops'` – `reachable_ci`, `no_stale_value_reachable`,
`live_answer_equals_edits_only_answer`, the statements of C01/C05/C06/C08/C09 about reachable states – holds
of every state reachable with the option on. -/
theorem recalc_history_is_a_lazy_history (lt : Node → Node → Prop) (ho : StrictOrder lt) (env0 : Env)
    (hw0 : WF env0 lt) (ops : List OpR) (hadm : AdmissibleR lt (env0, {}) ops) :
    runR (env0, {}) ops = run (env0, {}) (expand (env0, {}) ops) ∧
    Admissible lt (env0, {}) (expand (env0, {}) ops) :=
  runR_eq_run lt ho ops (env0, {}) hw0 (CI.empty env0 lt) hadm

/-- … as ONE statement: whatever holds of every pair (definitions, mechanism state) reachable by an
admissible history of the thirteen-operation language holds of every pair reachable by an admissible
history of the fourteen-operation language. -/
theorem every_lazy_theorem_holds_with_recalc (lt : Node → Node → Prop) (ho : StrictOrder lt) (env0 : Env)
    (hw0 : WF env0 lt) (P : Env × St → Prop)
    (hP : ∀ ops : List Op, Admissible lt (env0, {}) ops → P (run (env0, {}) ops))
    (ops : List OpR) (hadm : AdmissibleR lt (env0, {}) ops) : P (runR (env0, {}) ops) := by
  obtain ⟨e, a⟩ := recalc_history_is_a_lazy_history lt ho env0 hw0 ops hadm
  rw [e]; exact hP _ a

/-- **the shape of the lazy history**: nothing for the empty history; an operation of the thirteen is
kept; a recalculating assignment `n := v` becomes the lazy assignment `n := v` followed by evaluations of
former leaf dependents of `n` (`ts`: elements of `St.startNodesFrom` of the state BEFORE the assignment,
each at most as often as there – `ts` is a sublist; exactly which: `C06.recalc_state_is_lazy_run`) -/
theorem lazy_history_shape :
    (∀ st, expand st [] = []) ∧
    (∀ st op ops, expand st (.base op :: ops) = op :: expand (step st op) ops) ∧
    (∀ (env : Env) (s : St) (n : Node) (v : Val) (ops : List OpR), ∃ ts : List Node,
      (∀ t ∈ ts, t ∈ s.startNodesFrom n) ∧
      expand (env, s) (.setValueRecalc n v :: ops) =
        .setValue n v :: ts.map Op.eval ++ expand (stepR (env, s) (.setValueRecalc n v)) ops) := by
  refine ⟨fun _ => rfl, fun _ _ _ => rfl, ?_⟩
  intro env s n v ops
  by_cases hg : (env.cached n.1 && env.alive n.1) = true
  · cases hs : (s.setValue env n v).2 with
    | some e =>
      refine ⟨[], fun _ ht => absurd ht List.not_mem_nil, ?_⟩
      simp only [expand, expandOp, hg, if_true, hs, List.map_nil, List.cons_append, List.nil_append]
    | none =>
      refine ⟨evaluatedTargets env (s.startNodesFrom n) (s.setValue env n v).1,
        evaluatedTargets_sub env _ _, ?_⟩
      simp only [expand, expandOp, hg, if_true, hs, List.cons_append]
  · refine ⟨[], fun _ ht => absurd ht List.not_mem_nil, ?_⟩
    simp only [expand, expandOp, hg, Bool.false_eq_true, if_false, List.map_nil, List.cons_append,
      List.nil_append]

/-- **The headline with the option on**: whatever was evaluated or recomputed in between, the value a
later evaluation returns equals the value returned by a model to which only the edits were applied – with
the option OFF: `noEvals (expand … ops)` keeps of every recalculating assignment the lazy assignment only.
(`live_answer_equals_edits_only_answer` carried over by `recalc_history_is_a_lazy_history`.) -/
theorem live_answer_equals_edits_only_answer_with_recalc (lt : Node → Node → Prop) (ho : StrictOrder lt)
    (env0 : Env) (hw0 : WF env0 lt) (ops : List OpR) (hadm : AdmissibleR lt (env0, {}) ops) (n : Node) (v w : Val)
    (hv : (evalTop (runR (env0, {}) ops).1 n (runR (env0, {}) ops).2).1 = .ok v)
    (hw : (evalTop (run (env0, {}) (noEvals (expand (env0, {}) ops))).1 n
            (run (env0, {}) (noEvals (expand (env0, {}) ops))).2).1 = .ok w) :
    v = w := by
  obtain ⟨e, a⟩ := recalc_history_is_a_lazy_history lt ho env0 hw0 ops hadm
  rw [e] at hv
  exact live_answer_equals_edits_only_answer lt ho env0 hw0 _ a n v w hv hw

/-! Non-vacuity, on the program of C06 (`C06.kEnv`: `c0 = 1`, `c1 = c0() * 10`,
`c2 = c1() + 1 if c0() < 5 else 0`, `c3 = c1() + 100`, `c4 = 7`, `c5 = 1 if c0() < 5 else raise`).  The history
`kOpsR`: `c2()`, `c3()`, `c4()` evaluated; `c0 = 2` with the option on (returns: `c2()`, `c3()` recomputed); `c5()`
evaluated; `c0 = 9` with the option on (targets `c2()`, `c5()`, `c3()`: `c2()` is recomputed to 0, `c5()` FAILS,
`c3()` is not evaluated); `c0 = None` with the option on (REFUSED).  It is admissible; the invariant holds at
its end; its lazy history is the eleven operations below and reaches the same state (compared as whole
states); the values are those of the definitions in force. -/
def kOpsR : List OpR :=
  [.base (.eval (2, [])), .base (.eval (3, [])), .base (.eval (4, [])), .setValueRecalc (0, []) (.int 2),
   .base (.eval (5, [])), .setValueRecalc (0, []) (.int 9), .setValueRecalc (0, []) .none]

theorem kOpsR_admissible : AdmissibleR idLt (C06.kEnv, {}) kOpsR :=
  admissibleR_valueOnly kOpsR _ C06.kEnv_wf rfl

example : CI C06.kEnv idLt (C06.kS.setValueRecalc C06.kEnv (0, []) (.int 2)).1 :=
  (recalc_keeps_certificates idLt idLt_strict C06.kEnv C06.kEnv_wf C06.kS C06.kS_ci (0, []) (.int 2)).1 rfl rfl

-- a failing recomputation (`kU`: `c5()` fails) and a refused assignment
example : (C06.kU.setValueRecalc C06.kEnv (0, []) (.int 9)).2 = .failed (5, []) (.user kValue) [(5, [])] ∧
    CI C06.kEnv idLt (C06.kU.setValueRecalc C06.kEnv (0, []) (.int 9)).1 ∧
    (C06.kS.setValueRecalc C06.kEnv (0, []) .none).2 = .refused .noneNotAllowed ∧
    CI C06.kEnv idLt (C06.kS.setValueRecalc C06.kEnv (0, []) .none).1 :=
  ⟨by decide +kernel,
   (recalc_keeps_certificates idLt idLt_strict C06.kEnv C06.kEnv_wf C06.kU C06.kU_ci (0, []) (.int 9)).1 rfl rfl,
   by decide +kernel,
   (recalc_keeps_certificates idLt idLt_strict C06.kEnv C06.kEnv_wf C06.kS C06.kS_ci (0, []) .none).1 rfl rfl⟩

example : CI (runR (C06.kEnv, {}) kOpsR).1 idLt (runR (C06.kEnv, {}) kOpsR).2 :=
  (reachable_ci_with_recalc idLt idLt_strict C06.kEnv C06.kEnv_wf kOpsR kOpsR_admissible).1

example : expand (C06.kEnv, {}) kOpsR =
    [.eval (2, []), .eval (3, []), .eval (4, []),
     .setValue (0, []) (.int 2), .eval (2, []), .eval (3, []),
     .eval (5, []),
     .setValue (0, []) (.int 9), .eval (2, []), .eval (5, []),
     .setValue (0, []) .none] := by rfl

example : runR (C06.kEnv, {}) kOpsR = run (C06.kEnv, {}) (expand (C06.kEnv, {}) kOpsR) :=
  (recalc_history_is_a_lazy_history idLt idLt_strict C06.kEnv C06.kEnv_wf kOpsR kOpsR_admissible).1

/-- both sides computed: the states are equal as wholes; after `c0 = 2` (option on) `c1()`, `c2()`, `c3()` hold
20, 21, 120 at once; at the end `c0()` holds 9 as an input, `c2()` holds 0, `c4()` keeps 7, `c1()`, `c3()`, `c5()`
hold nothing, and `c3()` asked for afterwards is 190 – in the live model and in the model that saw only
the two accepted assignments, lazily -/
example : (runR (C06.kEnv, {}) kOpsR).2 =
      (run (C06.kEnv, {})
        [.eval (2, []), .eval (3, []), .eval (4, []), .setValue (0, []) (.int 2), .eval (2, []), .eval (3, []),
         .eval (5, []), .setValue (0, []) (.int 9), .eval (2, []), .eval (5, []), .setValue (0, []) .none]).2 ∧
    (runR (C06.kEnv, {}) (kOpsR.take 4)).2.data.map (·.1) = [(3, []), (2, []), (1, []), (0, []), (4, [])] ∧
    lookup (runR (C06.kEnv, {}) (kOpsR.take 4)).2.data (3, []) = some (.int 120) ∧
    (runR (C06.kEnv, {}) kOpsR).2.data = [((2, []), .int 0), ((0, []), .int 9), ((4, []), .int 7)] ∧
    (runR (C06.kEnv, {}) kOpsR).2.inputs = [(0, [])] ∧
    (evalTop C06.kEnv (3, []) (runR (C06.kEnv, {}) kOpsR).2).1 = .ok (.int 190) ∧
    (evalTop C06.kEnv (3, []) (run (C06.kEnv, {}) (noEvals (expand (C06.kEnv, {}) kOpsR))).2).1 = .ok (.int 190) := by
  decide +kernel

example (v w : Val) (hv : (evalTop (runR (C06.kEnv, {}) kOpsR).1 (3, []) (runR (C06.kEnv, {}) kOpsR).2).1 = .ok v)
    (hw : (evalTop (run (C06.kEnv, {}) (noEvals (expand (C06.kEnv, {}) kOpsR))).1 (3, [])
            (run (C06.kEnv, {}) (noEvals (expand (C06.kEnv, {}) kOpsR))).2).1 = .ok w) : v = w :=
  live_answer_equals_edits_only_answer_with_recalc idLt idLt_strict C06.kEnv C06.kEnv_wf kOpsR kOpsR_admissible
    (3, []) v w hv hw

-- `every_lazy_theorem_holds_with_recalc` at work, with `P` = "the state has certificates"
example : CI (runR (C06.kEnv, {}) kOpsR).1 idLt (runR (C06.kEnv, {}) kOpsR).2 :=
  every_lazy_theorem_holds_with_recalc idLt idLt_strict C06.kEnv C06.kEnv_wf (fun st => CI st.1 idLt st.2)
    (fun ops hadm => (reachable_ci idLt idLt_strict C06.kEnv C06.kEnv_wf ops hadm).1) kOpsR kOpsR_admissible

/-! ### the hypothesis `NoCatchEnv` is needed

`c0() = raise if r0 < 1 else r0` in the space of `r0`, `c1() = try: c0() except: -1` in another space.
`c1` holds `-1`; after `r0 := 5` the live model still answers `-1`, a model that saw only the
edit answers `5`: the full statement (without `NoCatchEnv`) is false of the mechanism – and of
modelx (known finding C02-caught-failure-untracked, `corpus/C02/known-caught-failure.json`). -/
theorem full_statement_fails_catch :
    ¬ (∀ (env : Env) (s : St) (r : RefId) (v : Val), Good env (inpOf s) s →
        Good (env.withRef r (some v)) (inpOf (s.setRef env r)) (s.setRef env r)) := by
  intro h
  -- no state of this history holds an input
  have hnone : ∀ s : St, s.inputs = [] → inpOf s = fun _ => none := fun s hs => by funext n; simp [inpOf, hs]
  have hgood : Good cEnv (inpOf (evalTop cEnv (1, []) {}).2) (evalTop cEnv (1, []) {}).2 := by
    have hg0 : Good cEnv (fun _ => none) {} := ⟨by intro n v _ hl; simp at hl, by intro n v _ hi; cases hi⟩
    rw [hnone _ (by decide +kernel)]
    exact (C01.eval_value_is_denotation_partial cEnv (fun _ => none) (1, []) {} hg0
      (LimitNotCaughtInThisCall.of_flag rfl (by decide +kernel))).2.2
  have := (h cEnv _ 0 (.int 5) hgood).sound (1, []) (.int (-1)) rfl (by decide +kernel)
  have hspec : Den (cEnv.withRef 0 (some (.int 5)))
      (inpOf ((evalTop cEnv (1, []) {}).2.setRef cEnv 0)) (1, []) (.ok (.int 5)) := by
    rw [hnone _ (by decide +kernel)]
    exact ⟨3, by decide +kernel⟩
  have := Den_det _ _ _ _ _ this hspec
  cases this

/-! …also for the creation of a cells.  `c1() = try: S.c0() except: -1` lives in another space than
the cells `c0` it calls through an attribute path; `c0` does not exist.  `c1` holds `-1`; after `c0`
is created (as the constant 5) the namespace that changed is the one of `c0`'s space – `c1` is not
notified, and no edge records the failed call: the live model still answers `-1`, a model that saw
only the edits answers `5`.  (Replayed on modelx: `notes/EDIT-repro_caught_missing_cells.py`; a
variant of known finding C02-caught-failure-untracked.  A caller in `c0`'s OWN space is cleared by
the notification – that is what the notification is for.) -/
theorem cell_create_fails_catch :
    ¬ (∀ (env : Env) (s : St) (c : CellId) (f : Key → Prog) (b an : Bool), Good env (inpOf s) s →
        env.alive c = false →
        Good (env.withCell c f b an) (inpOf (s.newCell env c)) (s.newCell env c)) := by
  intro h
  -- no state of this history holds an input
  have hnone : ∀ s : St, s.inputs = [] → inpOf s = fun _ => none := fun s hs => by funext n; simp [inpOf, hs]
  have hgood : Good dEnv (inpOf (evalTop dEnv (1, []) {}).2) (evalTop dEnv (1, []) {}).2 := by
    have hg0 : Good dEnv (fun _ => none) {} := ⟨by intro n v _ hl; simp at hl, by intro n v _ hi; cases hi⟩
    rw [hnone _ (by decide +kernel)]
    exact (C01.eval_value_is_denotation_partial dEnv (fun _ => none) (1, []) {} hg0
      (LimitNotCaughtInThisCall.of_flag rfl (by decide +kernel))).2.2
  have := (h dEnv _ 0 (fun _ => .ret (.int 5)) true false hgood rfl).sound (1, []) (.int (-1)) rfl (by decide +kernel)
  have hspec : Den (dEnv.withCell 0 (fun _ => .ret (.int 5)) true false)
      (inpOf ((evalTop dEnv (1, []) {}).2.newCell dEnv 0)) (1, []) (.ok (.int 5)) := by
    rw [hnone _ (by decide +kernel)]
    exact ⟨3, by decide +kernel⟩
  have := Den_det _ _ _ _ _ this hspec
  cases this


/-! ## Structural edits: the combined machine (`Edit/Machine.lean`)

The state `Edit.W` is a structural state (`SM.St`, `Struct/Mech.lean`), an executor state and the
identities of the members.  The definitions the executor sees, `w.env P`, are read off the structure:
every cells member `(space, name)` – defined or derived – is a cells of its own whose formula is the
source its entry carries (for a derived member: its first definer's) RESOLVED IN THE NAMESPACE OF ITS
OWN SPACE, with the flags of that definition; every reference member a reference of its own.  A
structural operation applies `SM.St.apply` and then performs on the executor state the clearing
modelx performs (`Edit.clearing`: `clear_obj`, namespace notifications, `clear_attr_referrers`, read
off `SpaceManager` / `SpaceUpdater` / `UserSpaceImpl.on_inherit`), under the flags in force.

`Edit.CIW P lt w`: `SM.Inv` (C03's `run_inv`) ∧ every member has an identity ∧ the certificate
invariant `CI` for `w.env P`.  Regime: `WF (w.env P) lt` (`Ranked`, `NoCatchEnv`, `Scoped` for the
RESOLVED definitions) in every state of the history (`Edit.Admissible`); `structure_regime_from_sources`
says how it is guaranteed by the sources. -/

/-- **The clearing modelx performs reaches every definition the edit changes** – in the space of the
edit and in EVERY sub space.  `Edit.Covers t st st' cl`: a cells (own or derived, of any space)
whose namespace differs between `st` and `st'` is notified or cleared; a cells whose entry differs
(new definer, new formula, deleted) is cleared as an object; for a reference whose entry differs the
cells of its space are notified and, if it existed, `clear_attr_referrers` is performed.  From the
structural invariant alone, for EVERY structural operation: `new_space`, `del space`, `new_cells`,
`set_cells_property` (formula or cache flag), `del_cells`, `rename_cells`, `space.name = v` (new and
changed), `del_ref`, `add_bases`, `remove_bases`.  This is the premise `hL` of
`no_stale_in_sub_spaces_after_member_edit`, derived from the definition of the clearing instead of
assumed. -/
theorem clearing_covers_every_change (P : Edit.Params) (w : Edit.W) (o : SM.Op) (hi : SM.Inv w.sm)
    (hsup : Edit.supported o = true)
    (st' : SM.St) (hop : w.sm.apply P.kw o = some st') :
    Edit.Covers (w.tabs.grow st') w.sm st' (Edit.clearing P.kw (w.tabs.grow st') w.sm st' o) :=
  Edit.covers_of_inv P.kw _ o hi hsup hop

/-- **`machine_keeps_ci`: every operation of the combined machine keeps the invariant** – for the
definitions of the NEW structure.  No premise about which cells are notified. -/
theorem machine_keeps_ci (P : Edit.Params) (lt : Node → Node → Prop) (ho : StrictOrder lt) (w : Edit.W)
    (op : Edit.Op) (hw : WF (w.env P) lt) (h : Edit.CIW P lt w) :
    Edit.CIW P lt (Edit.step P w op) :=
  Edit.step_ciw ho w op hw h (Edit.stepCovers_of_inv P w op h.inv)

/-- the decidable form of the coverage premise (`Edit.stepCovered`, evaluated by the driver at every
step of every compared history as a cross-check of `clearing_covers_every_change`) suffices too -/
theorem machine_keeps_ci_of_check (P : Edit.Params) (lt : Node → Node → Prop) (ho : StrictOrder lt) (w : Edit.W)
    (o : SM.Op) (hs : Edit.supported o = true) (hc : Edit.stepCovered P w (.struct o) = true)
    (hw : WF (w.env P) lt) (h : Edit.CIW P lt w) : Edit.CIW P lt (Edit.step P w (.struct o)) :=
  Edit.step_ciw ho w _ hw h
    (Edit.stepCovers_of_check P w _ (fun o' e => by cases e; exact hs) hc)

/-- **Every state the combined machine reaches from the empty model has the invariant** – any finite
interleaving of structural edits (accepted or refused) and evaluations, assignments, clearings. -/
theorem machine_reachable_ci (P : Edit.Params) (lt : Node → Node → Prop) (ho : StrictOrder lt)
    (ops : List Edit.Op) (hadm : Edit.Admissible P lt {} ops) :
    Edit.CIW P lt (Edit.run P {} ops) ∧ WF ((Edit.run P {} ops).env P) lt :=
  Edit.run_ciw ho ops {} (Edit.wf_empty P lt) (Edit.ciw_empty P lt) hadm

/-- **C02 for structural histories: every value held in any reachable state is the denotation under
the CURRENT structure** – the formulas of derived cells resolved in their sub space, the current
reference values, the current inputs – whatever was evaluated before the edits. -/
theorem no_stale_value_after_any_structural_history (P : Edit.Params) (lt : Node → Node → Prop)
    (ho : StrictOrder lt) (ops : List Edit.Op) (hadm : Edit.Admissible P lt {} ops) :
    Good ((Edit.run P {} ops).env P) (inpOf (Edit.run P {} ops).ex) (Edit.run P {} ops).ex :=
  (machine_reachable_ci P lt ho ops hadm).1.ci.good

/-- the same, element by element: a value held for element `key` of the cells member `(q, n)` -/
theorem held_value_is_current_denotation (P : Edit.Params) (lt : Node → Node → Prop) (ho : StrictOrder lt)
    (ops : List Edit.Op) (hadm : Edit.Admissible P lt {} ops) (q : SM.Path) (n : String) (key : Key) (v : Val)
    (hl : lookup (Edit.run P {} ops).ex.data ((Edit.run P {} ops).tabs.cid q n, key) = some v) :
    Den ((Edit.run P {} ops).env P) (inpOf (Edit.run P {} ops).ex) ((Edit.run P {} ops).tabs.cid q n, key) (.ok v) := by
  have h := (machine_reachable_ci P lt ho ops hadm).1.ci
  exact h.good.sound _ v (h.gi.heldNodes _ (by rw [hl]; rfl)).2 hl

/-- **The headline for the combined operation language**: whatever was evaluated in between, the
value a later call returns equals the value returned by the model that ran the same history with
every evaluation removed.  Both models have the same structure, identities and inputs
(`Edit.run_sim`); no hypothesis about the second run, none about the depth limit. -/
theorem live_equals_edits_only (P : Edit.Params) (lt : Node → Node → Prop) (ho : StrictOrder lt)
    (ops : List Edit.Op) (hadm : Edit.Admissible P lt {} ops) (q : SM.Path) (n : String) (key : Key) (v v' : Val)
    (h1 : Edit.answer P (Edit.run P {} ops) q n key = some (.ok v))
    (h2 : Edit.answer P (Edit.run P {} (Edit.noEvals ops)) q n key = some (.ok v')) : v = v' := by
  have hr0 : RgNoInputs ({} : Edit.W).ex := fun e he => nomatch he
  obtain ⟨hs, c1, c2, hwf⟩ := Edit.run_sim ho ops {} {} (Edit.wf_empty P lt) (Edit.ciw_empty P lt)
    (Edit.ciw_empty P lt) hr0 hr0 ⟨rfl, rfl, rfl⟩ hadm
  exact Edit.answer_eq_of_sim hs hwf.noCatch c1.ci.good c2.ci.good q n key v v' h1 h2

/-- **What a cells of the machine computes**: in every reachable state the formula of the cells member
`(q, n)` – defined in `q` or derived into it – is the source its entry carries (for a derived member the
payload of its FIRST definer, `C03.mech_derived_from_first_definer`) resolved in the namespace of `q`
itself; the machine has no model-level references, its namespace is `SM.nsOf`, and the formula is the one
`SM.structEnv` assigns (`C03.derived_cells_formula_is_definers_source_in_sub_space`). -/
theorem machine_formula_is_source_in_own_space (P : Edit.Params) (lt : Node → Node → Prop) (ho : StrictOrder lt)
    (ops : List Edit.Op) (hadm : Edit.Admissible P lt {} ops) (q : SM.Path) (n : String) (m : SM.Member)
    (hm : (Edit.run P {} ops).sm.mem .cells q n = some m) (key : Key) :
    ((Edit.run P {} ops).env P).formula ((Edit.run P {} ops).tabs.cid q n, key) =
      resolve (Edit.nsAt (Edit.run P {} ops).tabs (Edit.run P {} ops).sm q) (P.srcOf m.payload key) ∧
    (∀ gid, Edit.nsAt (Edit.run P {} ops).tabs (Edit.run P {} ops).sm q =
      SM.nsOf ⟨(Edit.run P {} ops).tabs.cid, (Edit.run P {} ops).tabs.rid, gid⟩ (Edit.run P {} ops).sm q) ∧
    (∀ (se : SEnv) (D : SM.Dec) (gid : String → RefId),
      D.cellOf ((Edit.run P {} ops).tabs.cid q n) = (q, n) → D.pathOf (D.num q) = q →
      ((Edit.run P {} ops).env P).formula ((Edit.run P {} ops).tabs.cid q n, key) =
        (SM.structEnv se ⟨(Edit.run P {} ops).tabs.cid, (Edit.run P {} ops).tabs.rid, gid⟩ D P.srcOf P.valOf
          (Edit.run P {} ops).sm).toEnv.formula ((Edit.run P {} ops).tabs.cid q n, key)) := by
  have h := (machine_reachable_ci P lt ho ops hadm).1
  have hg := h.noglob
  have hpl : ∀ x, Edit.qualOf (Edit.run P {} ops).tabs q x = none :=
    fun x => Edit.qualOf_none_of_no_slots _ (Edit.tabs_run P ops {} Edit.allocOK_empty).2 q x
  exact ⟨Edit.envOf_formula_member P _ _ h.alloc q n m hm key,
    fun gid => Edit.nsAt_eq_nsOf _ _ hg gid q hpl,
    fun se D gid hdec hnum => Edit.envOf_agrees_with_structEnv P _ _ h.alloc hg se D gid q n m hm key hdec hnum hpl⟩

/-- **The inputs after a structural edit** are the inputs before minus those of the cells the clearing
removed as objects (`clear_obj`, deletion of the space): notifications and
`clear_attr_referrers` keep every input. -/
theorem inputs_after_structural_clearing (env : Env) (lt : Node → Node → Prop) (hw : WF env lt) (s : St)
    (h : CI env lt s) (hr : RgNoInputs s) (cl : List Edit.Clear) (m : Node) :
    inpOf (Edit.doClears env s cl) m = if Edit.clearedBy cl m.1 = true then none else inpOf s m :=
  (Edit.inpOf_doClears hw.scoping hw.noCatch cl s h hr).1 m

/-- **How the regime is guaranteed**: for every structural state, `NoCatchEnv` and `Scoped` of the
resolved definitions follow from the SOURCES – `NsNoCatch`: resolved in any namespace the source
turns no failure into a value; `NsScoped`: its by-name reads are of what the namespace binds
(`SProg.readN` / `SProg.callN`: `LOAD_GLOBAL`, then use) – `Ranked` (termination) remains a
hypothesis about the structure, free for sources that call nothing (`Edit.ranked_envOf_noCalls`). -/
theorem structure_regime_from_sources (P : Edit.Params) (t : Edit.Tabs) (st : SM.St) (lt : Node → Node → Prop)
    (ha : Edit.AllocOK t st) (hs : t.slots = []) (hnc : ∀ v key, Edit.NsNoCatch (P.srcOf v key))
    (hsc : ∀ v key, Edit.NsScoped (P.srcOf v key)) (hr : Ranked (Edit.envOf P t st) lt) :
    WF (Edit.envOf P t st) lt :=
  Edit.wf_envOf P t st lt ha hs hnc hsc hr

/-- …and then EVERY history is admissible -/
theorem histories_admissible_from_sources (P : Edit.Params) (lt : Node → Node → Prop)
    (hnc : ∀ v key, Edit.NsNoCatch (P.srcOf v key)) (hsc : ∀ v key, Edit.NsScoped (P.srcOf v key))
    (hcalls : ∀ v key, Edit.NsNoCalls (P.srcOf v key)) (ops : List Edit.Op) : Edit.Admissible P lt {} ops :=
  Edit.admissible_of_sources P lt hnc hsc hcalls ops {} Edit.allocOK_empty rfl

/-! Non-vacuity (`Proofs/EditMachineExamples.lean`): `Base.f = y * 2`, `Base.y = 1`, `Sub(Base)` with
its own `y = 10`.  `Sub.f()` – the DERIVED cells, `y` resolved in `Sub` – is 20 and `Base.f()` is 2.
`Base.f` is redefined as `y * 3`: `set_cells_property` clears `Base.f` AND its derived copy `Sub.f`
(nothing is held any more); `Sub.f()` is 30.  The history is admissible, the invariant holds at
its end, the model that only saw the edits answers 30 too. -/
example : Edit.CIW Edit.eP idLt (Edit.run Edit.eP {} Edit.eOps) :=
  (machine_reachable_ci Edit.eP idLt idLt_strict Edit.eOps Edit.eOps_admissible).1

example : Edit.answer Edit.eP (Edit.run Edit.eP {} (Edit.eOps.take 5)) ["Sub"] "f" [] = some (.ok (.int 20)) ∧
    Edit.answer Edit.eP (Edit.run Edit.eP {} (Edit.eOps.take 5)) ["Base"] "f" [] = some (.ok (.int 2)) ∧
    (Edit.run Edit.eP {} (Edit.eOps.take 7)).ex.data = [((0, []), .int 2), ((1, []), .int 20)] ∧
    (Edit.run Edit.eP {} (Edit.eOps.take 8)).ex.data = [] ∧
    Edit.answer Edit.eP (Edit.run Edit.eP {} Edit.eOps) ["Sub"] "f" [] = some (.ok (.int 30)) ∧
    Edit.answer Edit.eP (Edit.run Edit.eP {} (Edit.noEvals Edit.eOps)) ["Sub"] "f" [] = some (.ok (.int 30)) := by
  decide +kernel

/-- what `set_cells_property` of `Base.f` clears in that state: the cells (identity 0) and its
derived copy in `Sub` (identity 1) – and the check agrees with the theorem -/
example : Edit.clearing [] (Edit.run Edit.eP {} (Edit.eOps.take 7)).tabs (Edit.run Edit.eP {} (Edit.eOps.take 7)).sm
      (Edit.run Edit.eP {} (Edit.eOps.take 8)).sm (.setFormula ["Base"] "f" 1) = [.obj 0, .obj 1] ∧
    Edit.stepCovered Edit.eP (Edit.run Edit.eP {} (Edit.eOps.take 7)) (.struct (.setFormula ["Base"] "f" 1)) = true := by
  decide +kernel

example (v v' : Val) (h1 : Edit.answer Edit.eP (Edit.run Edit.eP {} Edit.eOps) ["Base"] "f" [] = some (.ok v))
    (h2 : Edit.answer Edit.eP (Edit.run Edit.eP {} (Edit.noEvals Edit.eOps)) ["Base"] "f" [] = some (.ok v')) : v = v' :=
  live_equals_edits_only Edit.eP idLt idLt_strict Edit.eOps Edit.eOps_admissible ["Base"] "f" [] v v' h1 h2

example : Edit.noEvals Edit.eOps = [
    .struct (.newSpace [] "Base" [] []), .struct (.newCells ["Base"] "f" "f" 0), .struct (.setRef ["Base"] "y" 1),
    .struct (.newSpace [] "Sub" [["Base"]] []), .struct (.setRef ["Sub"] "y" 10),
    .struct (.setFormula ["Base"] "f" 1)] := rfl

/-- the reference a behaviour reads first by name, if that is what it starts with -/
def firstNameRead : Prog → Option RefId
  | .read false r _ => some r
  | _ => none

/-- the derived `Sub.f` (identity 1) reads the reference `y` OF `Sub` (identity 1), `Base.f` the one of `Base` -/
example : firstNameRead (((Edit.run Edit.eP {} (Edit.eOps.take 5)).env Edit.eP).formula (1, [])) = some 1 ∧
    firstNameRead (((Edit.run Edit.eP {} (Edit.eOps.take 5)).env Edit.eP).formula (0, [])) = some 0 ∧
    (Edit.run Edit.eP {} (Edit.eOps.take 5)).tabs.cid ["Sub"] "f" = 1 ∧
    (Edit.run Edit.eP {} (Edit.eOps.take 5)).tabs.rid ["Sub"] "y" = 1 ∧
    (Edit.run Edit.eP {} (Edit.eOps.take 5)).sm.mem .cells ["Sub"] "f" = some ⟨true, 0⟩ := by
  decide +kernel

/-- the sources of the example are in the regime, in every structure -/
example (ops : List Edit.Op) : Edit.Admissible Edit.eP idLt {} ops :=
  histories_admissible_from_sources Edit.eP idLt Edit.eP_noCatch Edit.eP_scoped Edit.eP_noCalls ops

/-- a reference edit in the base reaches the sub space that derives the reference: `Base.y := 5` in a
model where `Sub2(Base)` does NOT override `y`: `Sub2.f()` goes from 2 to 10 -/
example :
    let ops : List Edit.Op := [
      .struct (.newSpace [] "Base" [] []), .struct (.newCells ["Base"] "f" "f" 0), .struct (.setRef ["Base"] "y" 1),
      .struct (.newSpace [] "Sub2" [["Base"]] []), .eval ["Sub2"] "f" [], .struct (.setRef ["Base"] "y" 5)]
    Edit.answer Edit.eP (Edit.run Edit.eP {} (ops.take 5)) ["Sub2"] "f" [] = some (.ok (.int 2)) ∧
    (Edit.run Edit.eP {} (ops.take 5)).ex.data = [((1, []), .int 2)] ∧
    (Edit.run Edit.eP {} ops).ex.data = [] ∧
    Edit.answer Edit.eP (Edit.run Edit.eP {} ops) ["Sub2"] "f" [] = some (.ok (.int 10)) ∧
    Edit.stepCovered Edit.eP (Edit.run Edit.eP {} (ops.take 5)) (.struct (.setRef ["Base"] "y" 5)) = true := by
  decide +kernel

/-! ## Structural edits with MODEL-LEVEL REFERENCES (`Edit.OpG` / `Edit.stepG`)

The machine of the section above plus `model.x = v` / `del model.x` and the shadowing of model-level
references: a reference is identified by the ATTRIBUTE SLOT `(space, name)` it is reached through
(`Edit.refPay`: the own / derived reference of the space, otherwise – no cells of the name – the model-level
one); sources may read declared slots through attribute paths (`S.x`, `_space.x`: `Edit.Tabs.slots`).
`Edit.clearingG = clearing ++ shadowClears` (the `clear_attr_referrers(global_refs[name])` of
`on_create_ref` and of `UserSpaceImpl.on_inherit`, /repo 5b95fbf and cdc3def), `Edit.globalClearing`
(`ModelImpl.new_ref / change_ref / del_ref`).  `Edit.CIG` = `Edit.CIW` without "no model-level reference".

A slot `(S, x)` that shows the model-level `x` when the space `S` is DELETED: `BaseSpaceImpl.on_delete`
clears the attribute readers of every model-level reference the space does not hide (/repo 40cbe69:
`Edit.orphanClears`); with the clearing of the code before that repair this is the one obligation that fails
(`coverage_fails_without_on_delete_global_clearing`). -/

/-- **`model.x = v` / `del model.x`: the clearing covers** – every cells of every space is notified, every
slot through which the model-level reference was seen is reader-free.  No hypothesis. -/
theorem global_edit_clearing_covers (t : Edit.Tabs) (st : SM.St) (x : String) :
    Edit.CoversGlobal t st x (Edit.globalClearing t st x) :=
  Edit.coversGlobal_globalClearing t st x

/-- the Boolean `Edit.coveredGlobal` (evaluated by the driver at every `set_mref` / `del_mref`) says the same -/
theorem coveredGlobal_check_sound (t : Edit.Tabs) (st : SM.St) (x : String) (cl : List Edit.Clear)
    (h : Edit.coveredGlobal t st x cl = true) : Edit.CoversGlobal t st x cl :=
  Edit.coveredGlobal_sound t st x cl h

/-- **The clearing reaches every change, model-level references and declared slots present** – for all ten
structural operations, from the structural invariant alone.  `Edit.CoversG`: the clauses of `Edit.Covers`
(namespaces, entries of cells) and the SLOT clauses: a slot `(q, x)` that denotes another reference / value
than before – a reference or a cells `x` appears in or vanishes from `q` over a model-level `x`, a
reference entry changes, `q` is deleted – has the cells of `q` notified and, if it denoted something, its
recorded readers cleared (`clear_attr_referrers`). -/
theorem clearing_covers_every_change_with_globals (P : Edit.Params) (w : Edit.W) (o : SM.Op) (hi : SM.Inv w.sm)
    (ha : Edit.AllocOK w.tabs w.sm) (hsup : Edit.supported o = true)
    (st' : SM.St) (hop : w.sm.apply P.kw o = some st') :
    Edit.CoversG (w.tabs.grow st') w.sm st' (Edit.clearingG P.kw (w.tabs.grow st') w.sm st' o) :=
  Edit.coversG_clearingG P.kw _ o hi hsup hop (Edit.gslots_grow ha st')

/-- **`machineG_keeps_ci`: every operation of the machine with model-level references keeps the
invariant** – the ten structural operations with `clearingG`, `model.x = v`, `del model.x`, evaluations,
assignments, clearings – for the definitions of the NEW structure. -/
theorem machineG_keeps_ci (P : Edit.Params) (lt : Node → Node → Prop) (ho : StrictOrder lt) (w : Edit.W)
    (op : Edit.OpG) (hw : WF (w.env P) lt) (h : Edit.CIG P lt w) :
    Edit.CIG P lt (Edit.stepG P w op) :=
  Edit.stepG_cig ho w op hw h

/-- the two operations on model-level references need no hypothesis beyond the regime -/
theorem global_edits_keep_ci (P : Edit.Params) (lt : Node → Node → Prop) (w : Edit.W) (x : String) (v : Nat)
    (hw : WF (w.env P) lt) (h : Edit.CIG P lt w) :
    Edit.CIG P lt (Edit.stepG P w (.setGlobal x v)) ∧ Edit.CIG P lt (Edit.stepG P w (.delGlobal x)) :=
  ⟨Edit.stepG_setGlobal_cig w x v hw h, Edit.stepG_delGlobal_cig w x hw h⟩

/-- every state reached from the empty model with the declared slots `slots` -/
theorem machineG_reachable_ci (P : Edit.Params) (lt : Node → Node → Prop) (ho : StrictOrder lt)
    (slots : List (SM.Path × String)) (ops : List Edit.OpG) (hadm : Edit.AdmissibleG P lt (Edit.W.init slots) ops) :
    Edit.CIG P lt (Edit.runG P (Edit.W.init slots) ops) ∧ WF ((Edit.runG P (Edit.W.init slots) ops).env P) lt :=
  Edit.runG_cig ho ops _ (Edit.wf_init P lt slots) (Edit.cig_init P lt slots) hadm

/-- **C02 for histories with model-level references: every value held in any reachable state is the
denotation under the CURRENT structure and the CURRENT model-level references** – whatever was
evaluated before the edits, through whatever spelling (`x`, `_space.x`, `S.x`). -/
theorem no_stale_value_after_any_history_with_globals (P : Edit.Params) (lt : Node → Node → Prop)
    (ho : StrictOrder lt) (slots : List (SM.Path × String)) (ops : List Edit.OpG)
    (hadm : Edit.AdmissibleG P lt (Edit.W.init slots) ops) :
    Good ((Edit.runG P (Edit.W.init slots) ops).env P) (inpOf (Edit.runG P (Edit.W.init slots) ops).ex)
      (Edit.runG P (Edit.W.init slots) ops).ex :=
  (machineG_reachable_ci P lt ho slots ops hadm).1.ci.good

/-- **The headline with model-level references**: the value a later call returns equals the value
returned by the model that ran the same history with every evaluation removed.  Hypotheses about the live
run only. -/
theorem live_equals_edits_only_with_globals (P : Edit.Params) (lt : Node → Node → Prop) (ho : StrictOrder lt)
    (slots : List (SM.Path × String)) (ops : List Edit.OpG) (hadm : Edit.AdmissibleG P lt (Edit.W.init slots) ops)
    (q : SM.Path) (n : String) (key : Key) (v v' : Val)
    (h1 : Edit.answer P (Edit.runG P (Edit.W.init slots) ops) q n key = some (.ok v))
    (h2 : Edit.answer P (Edit.runG P (Edit.W.init slots) (Edit.noEvalsG ops)) q n key = some (.ok v')) : v = v' := by
  have hr0 : RgNoInputs (Edit.W.init slots).ex := fun e he => nomatch he
  obtain ⟨hs, c1, c2, hwf⟩ := Edit.runG_sim ho ops _ _ (Edit.wf_init P lt slots) (Edit.cig_init P lt slots)
    (Edit.cig_init P lt slots) hr0 hr0 ⟨rfl, rfl, rfl⟩ hadm
  exact Edit.answer_eq_of_sim hs hwf.noCatch c1.ci.good c2.ci.good q n key v v' h1 h2

/-- how the regime is guaranteed: for sources that read references through attribute paths only, call
nothing and catch nothing EVERY history is admissible -/
theorem histories_admissibleG_from_sources (P : Edit.Params) (lt : Node → Node → Prop)
    (hnc : ∀ v key, Edit.NsNoCatch (P.srcOf v key)) (hao : ∀ v key, Edit.NsAttrOnly (P.srcOf v key))
    (hcalls : ∀ v key, Edit.NsNoCalls (P.srcOf v key)) (slots : List (SM.Path × String)) (ops : List Edit.OpG) :
    Edit.AdmissibleG P lt (Edit.W.init slots) ops :=
  Edit.admissibleG_of_sources P lt hnc hao hcalls ops _

/-! Non-vacuity (`Proofs/EditMachineGlobalsExamples.lean`, `Edit.gOps`): `m.x = 1`; `B.x = 5`; `T.c` is
`lambda: S.x` (the declared slot `(S, x)`); `T.c()` is 1 and is held; `S.add_bases(B)`: `S.x` is now the
reference derived from `B` – `UserSpaceImpl.on_inherit` clears the readers of the model-level `x`
(`shadowClears`: identities 0 = slot `(S, x)` and 2 = slot `(T, x)`), nothing is held; `T.c()` is 5, and so
answers the model that only saw the edits.  The history is admissible, the invariant holds at its end. -/
example : Edit.CIG Edit.gP idLt (Edit.runG Edit.gP (Edit.W.init Edit.gSlots) Edit.gOps) :=
  (machineG_reachable_ci Edit.gP idLt idLt_strict Edit.gSlots Edit.gOps Edit.gOps_admissible).1

example : Good ((Edit.runG Edit.gP (Edit.W.init Edit.gSlots) Edit.gOps).env Edit.gP)
    (inpOf (Edit.runG Edit.gP (Edit.W.init Edit.gSlots) Edit.gOps).ex) (Edit.runG Edit.gP (Edit.W.init Edit.gSlots) Edit.gOps).ex :=
  no_stale_value_after_any_history_with_globals Edit.gP idLt idLt_strict Edit.gSlots Edit.gOps Edit.gOps_admissible

example : Edit.answer Edit.gP (Edit.runG Edit.gP (Edit.W.init Edit.gSlots) (Edit.gOps.take 6)) ["T"] "c" [] = some (.ok (.int 1)) ∧
    (Edit.runG Edit.gP (Edit.W.init Edit.gSlots) (Edit.gOps.take 7)).ex.data = [((0, []), .int 1)] ∧
    Edit.clearingG [] (Edit.runG Edit.gP (Edit.W.init Edit.gSlots) (Edit.gOps.take 8)).tabs
      (Edit.runG Edit.gP (Edit.W.init Edit.gSlots) (Edit.gOps.take 7)).sm
      (Edit.runG Edit.gP (Edit.W.init Edit.gSlots) (Edit.gOps.take 8)).sm (.addBases ["S"] [["B"]]) =
        [.ns [], .attr 0, .attr 2] ∧
    (Edit.runG Edit.gP (Edit.W.init Edit.gSlots) (Edit.gOps.take 8)).ex.data = [] ∧
    Edit.answer Edit.gP (Edit.runG Edit.gP (Edit.W.init Edit.gSlots) Edit.gOps) ["T"] "c" [] = some (.ok (.int 5)) ∧
    Edit.answer Edit.gP (Edit.runG Edit.gP (Edit.W.init Edit.gSlots) (Edit.noEvalsG Edit.gOps)) ["T"] "c" [] =
      some (.ok (.int 5)) := by
  decide +kernel

example (v v' : Val)
    (h1 : Edit.answer Edit.gP (Edit.runG Edit.gP (Edit.W.init Edit.gSlots) Edit.gOps) ["T"] "c" [] = some (.ok v))
    (h2 : Edit.answer Edit.gP (Edit.runG Edit.gP (Edit.W.init Edit.gSlots) (Edit.noEvalsG Edit.gOps)) ["T"] "c" [] =
      some (.ok v')) : v = v' :=
  live_equals_edits_only_with_globals Edit.gP idLt idLt_strict Edit.gSlots Edit.gOps Edit.gOps_admissible
    ["T"] "c" [] v v' h1 h2

/-- the decidable checks agree with the theorems on that history: `model.x = 1` and the `add_bases` step -/
example : Edit.stepCoveredG Edit.gP (Edit.W.init Edit.gSlots) (.setGlobal "x" 1) = true ∧
    Edit.stepCoveredG Edit.gP (Edit.runG Edit.gP (Edit.W.init Edit.gSlots) (Edit.gOps.take 7))
      (.op (.struct (.addBases ["S"] [["B"]]))) = true := by
  decide +kernel

/-- **The negative witness** (kernel-checked): WITHOUT the clearing `UserSpaceImpl.on_inherit` performs
since /repo 5b95fbf (`Edit.clearingPre`: only `on_create_ref` clears the readers of a shadowed model-level
reference) the coverage obligation FAILS on that history at the `add_bases` step – exactly where the
defect was – and the machine with that clearing keeps the stale 1 for `T.c()` although the slot `(S, x)`
now denotes 5. -/
theorem coverage_fails_without_on_inherit_shadow_clearing :
    Edit.stepCoveredPre Edit.gP (Edit.runG Edit.gP (Edit.W.init Edit.gSlots) (Edit.gOps.take 7))
      (.addBases ["S"] [["B"]]) = false ∧
    (Edit.stepPre Edit.gP (Edit.runG Edit.gP (Edit.W.init Edit.gSlots) (Edit.gOps.take 7))
      (.addBases ["S"] [["B"]])).ex.data = [((0, []), .int 1)] ∧
    Edit.answer Edit.gP (Edit.runG Edit.gP (Edit.W.init Edit.gSlots) Edit.gOps) ["T"] "c" [] = some (.ok (.int 5)) := by
  decide +kernel

/-! The deletion of a space through which a model-level reference was read (`Edit.hOps`): `m.x = 1`;
`T.c = lambda: S.x`; `T.c()` is 1 and held; `del m.S`: `on_delete` clears the readers of `x`
(`Edit.orphanClears`), nothing is held; `T.c()` fails (the slot denotes nothing), as in the model that only
saw the edits. -/
example : Edit.CIG Edit.gP idLt (Edit.runG Edit.gP (Edit.W.init Edit.gSlots) Edit.hOps) :=
  (machineG_reachable_ci Edit.gP idLt idLt_strict Edit.gSlots Edit.hOps Edit.hOps_admissible).1

example : Edit.answer Edit.gP (Edit.runG Edit.gP (Edit.W.init Edit.gSlots) (Edit.hOps.take 4)) ["T"] "c" [] = some (.ok (.int 1)) ∧
    (Edit.runG Edit.gP (Edit.W.init Edit.gSlots) (Edit.hOps.take 5)).ex.data = [((0, []), .int 1)] ∧
    (Edit.runG Edit.gP (Edit.W.init Edit.gSlots) (Edit.hOps.take 6)).ex.data = [] ∧
    Edit.stepCoveredG Edit.gP (Edit.runG Edit.gP (Edit.W.init Edit.gSlots) (Edit.hOps.take 5))
      (.op (.struct (.delSpace ["S"]))) = true ∧
    (Edit.runG Edit.gP (Edit.W.init Edit.gSlots) Edit.hOps).ex.data = [] := by
  decide +kernel

/-- **The negative witness for /repo 40cbe69** (kernel-checked): with the clearing of the code before it
(`Edit.clearingPre40`: `on_delete` clears the readers of the deleted space's OWN references only) the
coverage obligation FAILS at the `del m.S` step of that history, and the machine with that clearing keeps the
stale 1 for `T.c()` although the slot `(S, x)` denotes nothing any more. -/
theorem coverage_fails_without_on_delete_global_clearing :
    Edit.stepCoveredPre40 Edit.gP (Edit.runG Edit.gP (Edit.W.init Edit.gSlots) (Edit.hOps.take 5))
      (.delSpace ["S"]) = false ∧
    (Edit.stepPre40 Edit.gP (Edit.runG Edit.gP (Edit.W.init Edit.gSlots) (Edit.hOps.take 5))
      (.delSpace ["S"])).ex.data = [((0, []), .int 1)] := by
  decide +kernel

/-! ### a member that starts to hide a model-level reference (`Edit.shadowClears`; /repo 5b95fbf, cdc3def)

The two concrete histories below are the regression inputs of the two repairs: the clearing WITH the
`clear_attr_referrers(global_refs[name])` of `UserSpaceImpl.on_inherit` covers what the edit changes (the
decidable `Edit.covered`, evaluated by the driver at every step), the clearing WITHOUT it (`Edit.clearing`
alone: the code before the repairs) does not – the slot `S.r` stops denoting the model-level reference and
its recorded readers keep their values. -/

/-- `B.r` a cells (`cells := true`) / a reference; THEN `model.r = 1`; `S`; the slot `S.r` is read from elsewhere -/
def shOps (cells : Bool) : List SM.Op :=
  [.newSpace [] "B" [] [], if cells then .newCells ["B"] "r" "r" 0 else .setRef ["B"] "r" 5, .setGlobal "r",
   .newSpace [] "S" [] [], .newSpace [] "T" [] []]
def shSt (cells : Bool) : SM.St := (shOps cells).foldl (fun st o => (st.apply [] o).getD st) {}
/-- `S.add_bases(B)`: `r` is derived into `S` -/
def shOp : SM.Op := .addBases ["S"] [["B"]]
def shSt' (cells : Bool) : SM.St := ((shSt cells).apply [] shOp).getD (shSt cells)
def shTabs (cells : Bool) : Edit.Tabs :=
  (({ rtab := [(["S"], "r")], slots := [(["S"], "r")], gv := [("r", 1)] } : Edit.Tabs).grow (shSt cells)).grow (shSt' cells)

/-- **a CELLS derived into `S` hides the model-level reference read as `S.r`** (cdc3def): before the edit the
slot denotes the model-level reference, afterwards nothing (the name is a cells); the machine's clearing
covers the step, the clearing without `shadowClears` does not -/
theorem derived_cells_hiding_a_global_is_covered_only_with_shadow_clears :
    Edit.refPay (shTabs true) (shSt true) ["S"] "r" = some 1 ∧ Edit.refPay (shTabs true) (shSt' true) ["S"] "r" = none ∧
    ((shSt' true).mem .cells ["S"] "r").isSome = true ∧
    Edit.covered (shTabs true) (shSt true) (shSt' true) (Edit.clearingG [] (shTabs true) (shSt true) (shSt' true) shOp) = true ∧
    Edit.covered (shTabs true) (shSt true) (shSt' true) (Edit.clearing [] (shTabs true) (shSt true) (shSt' true) shOp) = false := by
  decide +kernel

/-- the same for a derived REFERENCE (5b95fbf): the slot goes from the model-level value to the base's -/
theorem derived_ref_shadowing_a_global_is_covered_only_with_shadow_clears :
    Edit.refPay (shTabs false) (shSt false) ["S"] "r" = some 1 ∧ Edit.refPay (shTabs false) (shSt' false) ["S"] "r" = some 5 ∧
    Edit.covered (shTabs false) (shSt false) (shSt' false) (Edit.clearingG [] (shTabs false) (shSt false) (shSt' false) shOp) = true ∧
    Edit.covered (shTabs false) (shSt false) (shSt' false) (Edit.clearing [] (shTabs false) (shSt false) (shSt' false) shOp) = false := by
  decide +kernel

/-! ### `space.rename(new)` in the combined machine (`Edit/MachineRename.lean`: `OpR` / `stepR`)

`SpaceManager.rename_space` + `UserSpaceImpl.on_rename`: the structure is relabelled (`SM.St.renameSpace`), the
identities of the members follow (the cells OBJECTS survive a rename), and every cells of the renamed space and
of every space below it loses ALL values INCLUDING its inputs (`clear_all_cells(clear_input=True,
recursive=True)`; an uncached one is cleared as an object: /repo d7248bc), then the parent's namespace notifies.

What a rename changes, as far as `SProg` over `Ns` can express it: NOTHING (`rename_changes_no_definition`) – a
child space binds to no value in the parent's namespace before (old name) and after (new name, which was free:
`_can_add`), every other binding is an identity and identities are kept.  What a formula can read outside this
language is the NAME of its space (`_space.name`, `fullname`); the coverage demanded of the clearing is therefore
"every cells of every renamed space is cleared as an object, the parent's cells are notified" (`renameCovered`).

A DECLARED attribute slot keeps its spelling through the rename (`Edit.Tabs.spell`): a formula elsewhere that
spells `S.x` reaches the space through an object-valued reference, which follows the OBJECT; `_space.x` follows
the space.  So there is no side condition on slots. -/

/-- **An accepted rename changes no definition the executor sees**: formula of every cells (source resolved in
the namespace of its space), flags, value of every reference, observers – equal as `Env`s, for every identity. -/
theorem rename_changes_no_definition (P : Edit.Params) (t : Edit.Tabs) (st st' : SM.St) (h : SM.Inv st)
    (p : SM.Path) (new : String) (hop : st.renameSpace P.kw p new = .ok st') :
    Edit.envOf P (t.mapPaths (Edit.renameMap p new)) st' = Edit.envOf P t st :=
  Edit.envOf_renameSpace P t st st' h p new hop

/-- **Coverage for the rename**: the clearing the code performs clears every cells of the renamed space and of
every space below it as an object and notifies the cells of the parent (no hypothesis); and a clearing that does
leaves no node, no value computed through them and NO INPUT of those cells – the inputs of the renamed tree are
DISCARDED by the code, so the model discards them. -/
theorem rename_clearing_covers (t : Edit.Tabs) (st : SM.St) (p : SM.Path) :
    Edit.renameCovered t st p (Edit.renameClearing t st p) = true :=
  Edit.renameCovered_renameClearing t st p

theorem covered_rename_leaves_nothing_of_the_renamed_spaces (env : Env) (lt : Node → Node → Prop)
    (hsc : Scoped env) (hnc : NoCatchEnv env)
    (t : Edit.Tabs) (st : SM.St) (p : SM.Path) (cl : List Edit.Clear) (s : Exec.St) (hci : CI env lt s)
    (hr : RgNoInputs s) (hcov : Edit.renameCovered t st p cl = true) :
    (∀ r ∈ Edit.renamed st p, ∀ c ∈ Edit.cellsOf t st r, Edit.NoNodes (Edit.doClears env s cl) c ∧
      ∀ key, inpOf (Edit.doClears env s cl) (c, key) = none) ∧
    (∀ c ∈ Edit.cellsOf t st p.dropLast, Edit.Clean (Edit.doClears env s cl) c) :=
  Edit.renameCovered_sound env hsc hnc t st p cl s hci hr hcov

/-- **Every operation of the machine with renames keeps the invariant** – for the definitions of the NEW
structure under the NEW paths. -/
theorem machineR_keeps_ci (P : Edit.Params) (lt : Node → Node → Prop) (ho : StrictOrder lt) (w : Edit.W)
    (op : Edit.OpR) (hw : WF (w.env P) lt) (h : Edit.CIG P lt w) :
    Edit.CIG P lt (Edit.stepR P w op) :=
  Edit.stepR_cig ho w op hw h

theorem machineR_reachable_ci (P : Edit.Params) (lt : Node → Node → Prop) (ho : StrictOrder lt)
    (slots : List (SM.Path × String)) (ops : List Edit.OpR) (hadm : Edit.AdmissibleR P lt (Edit.W.init slots) ops) :
    Edit.CIG P lt (Edit.runR P (Edit.W.init slots) ops) ∧ WF ((Edit.runR P (Edit.W.init slots) ops).env P) lt :=
  Edit.runR_cig ho ops _ (Edit.wf_init P lt slots) (Edit.cig_init P lt slots) hadm

/-- after any history of structural edits, model-level references, value operations AND renames of spaces every
held value is the denotation under the current structure -/
theorem no_stale_value_after_any_history_with_renames (P : Edit.Params) (lt : Node → Node → Prop)
    (ho : StrictOrder lt) (slots : List (SM.Path × String)) (ops : List Edit.OpR)
    (hadm : Edit.AdmissibleR P lt (Edit.W.init slots) ops) :
    Good ((Edit.runR P (Edit.W.init slots) ops).env P) (inpOf (Edit.runR P (Edit.W.init slots) ops).ex)
      (Edit.runR P (Edit.W.init slots) ops).ex :=
  (machineR_reachable_ci P lt ho slots ops hadm).1.ci.good

/-- **The headline with renames**: the value a later call returns equals the value returned by the model that
ran the same history with every evaluation removed – "the same inputs" meaning: the edits-only model discards
the inputs of a renamed tree too, as the code does (`Edit.stepR`).  Hypotheses about the live run only. -/
theorem live_equals_edits_only_with_renames (P : Edit.Params) (lt : Node → Node → Prop) (ho : StrictOrder lt)
    (slots : List (SM.Path × String)) (ops : List Edit.OpR) (hadm : Edit.AdmissibleR P lt (Edit.W.init slots) ops)
    (q : SM.Path) (n : String) (key : Key) (v v' : Val)
    (h1 : Edit.answer P (Edit.runR P (Edit.W.init slots) ops) q n key = some (.ok v))
    (h2 : Edit.answer P (Edit.runR P (Edit.W.init slots) (Edit.noEvalsR ops)) q n key = some (.ok v')) : v = v' := by
  have hr0 : RgNoInputs (Edit.W.init slots).ex := fun e he => nomatch he
  obtain ⟨hs, c1, c2, hwf⟩ := Edit.runR_sim ho ops _ _ (Edit.wf_init P lt slots) (Edit.cig_init P lt slots)
    (Edit.cig_init P lt slots) hr0 hr0 ⟨rfl, rfl, rfl⟩ hadm
  exact Edit.answer_eq_of_sim hs hwf.noCatch c1.ci.good c2.ci.good q n key v v' h1 h2

/-- how the hypotheses are guaranteed: no declared slot, sources that catch nothing, read plain names and call
nothing ⇒ EVERY history with renames is admissible -/
theorem histories_admissibleR_from_sources (P : Edit.Params) (lt : Node → Node → Prop) (ho : StrictOrder lt)
    (hnc : ∀ v key, Edit.NsNoCatch (P.srcOf v key)) (hsc : ∀ v key, Edit.NsScoped (P.srcOf v key))
    (hcalls : ∀ v key, Edit.NsNoCalls (P.srcOf v key)) (ops : List Edit.OpR) :
    Edit.AdmissibleR P lt (Edit.W.init []) ops :=
  Edit.admissibleR_of_sources P lt ho hnc hsc hcalls ops _ (Edit.cig_init P lt []) (Edit.wf_init P lt []) rfl

/-- the same for sources that read references through attribute paths only (declared slots – in renamed spaces
too), call nothing and catch nothing -/
theorem histories_admissibleR_from_attr_sources (P : Edit.Params) (lt : Node → Node → Prop)
    (hnc : ∀ v key, Edit.NsNoCatch (P.srcOf v key)) (hao : ∀ v key, Edit.NsAttrOnly (P.srcOf v key))
    (hcalls : ∀ v key, Edit.NsNoCalls (P.srcOf v key)) (slots : List (SM.Path × String)) (ops : List Edit.OpR) :
    Edit.AdmissibleR P lt (Edit.W.init slots) ops :=
  Edit.admissibleR_of_attr_sources P lt hnc hao hcalls ops _

/-! A slot in a renamed space (`Edit.sOps`; every cells is `lambda: S.x`, slot `(S, x)`): `m.x = 1`; `T.c() = 1`;
`S.rename("Z")`: `T.c` keeps 1 (nothing it depends on changed), the slot is now `(Z, x)`, still spelled `S.x`;
`Z.x = 5` clears the reader through the same slot identity; `T.c() = 5`. -/
example : Edit.CIG Edit.gP idLt (Edit.runR Edit.gP (Edit.W.init Edit.gSlots) Edit.sOps) :=
  (machineR_reachable_ci Edit.gP idLt idLt_strict Edit.gSlots Edit.sOps Edit.sOps_admissible).1

example :
    (Edit.runR Edit.gP (Edit.W.init Edit.gSlots) (Edit.sOps.take 6)).ex.data = [((0, []), .int 1)] ∧
    (Edit.runR Edit.gP (Edit.W.init Edit.gSlots) (Edit.sOps.take 6)).tabs.slots = [(["Z"], "x")] ∧
    (Edit.runR Edit.gP (Edit.W.init Edit.gSlots) (Edit.sOps.take 6)).tabs.spell = [(["Z"], ["S"])] ∧
    (Edit.runR Edit.gP (Edit.W.init Edit.gSlots) (Edit.sOps.take 8)).ex.data = [] ∧
    Edit.answer Edit.gP (Edit.runR Edit.gP (Edit.W.init Edit.gSlots) Edit.sOps) ["T"] "c" [] = some (.ok (.int 5)) := by
  decide +kernel

/-! Non-vacuity (`Edit.rOps`, sources `y * 2`): `A` (`f`, `y = 1`) with child `A.Ch` (`g`, `y = 2`), `T(A)`;
`A.f() = 2`, `A.Ch.g() = 4`, `T.f() = 2`, `A.f[1] = 7` (an input); `A.rename("Z")` is covered, discards everything
`A` and `A.Ch` hold – the input too – and keeps what the sub space `T` holds; the identities now live under the
new paths; `Z.f() = 2`, `Z.Ch.g() = 4`, there is no `A.f`; the edits-only model answers the same. -/
example : Edit.CIG Edit.eP idLt (Edit.runR Edit.eP (Edit.W.init []) Edit.rOps) :=
  (machineR_reachable_ci Edit.eP idLt idLt_strict [] Edit.rOps Edit.rOps_admissible).1

example :
    (Edit.runR Edit.eP (Edit.W.init []) (Edit.rOps.take 11)).ex.data =
      [((0, [.int 1]), .int 7), ((2, []), .int 2), ((1, []), .int 4), ((0, []), .int 2)] ∧
    (Edit.runR Edit.eP (Edit.W.init []) (Edit.rOps.take 11)).ex.inputs = [(0, [.int 1])] ∧
    Edit.stepCoveredR Edit.eP (Edit.runR Edit.eP (Edit.W.init []) (Edit.rOps.take 11)) (.renameSpace ["A"] "Z") = true ∧
    (Edit.runR Edit.eP (Edit.W.init []) (Edit.rOps.take 12)).ex.data = [((2, []), .int 2)] ∧
    (Edit.runR Edit.eP (Edit.W.init []) (Edit.rOps.take 12)).ex.inputs = [] ∧
    (Edit.runR Edit.eP (Edit.W.init []) (Edit.rOps.take 12)).tabs.ctab = [(["Z"], "f"), (["Z", "Ch"], "g"), (["T"], "f")] ∧
    Edit.answer Edit.eP (Edit.runR Edit.eP (Edit.W.init []) Edit.rOps) ["Z"] "f" [] = some (.ok (.int 2)) ∧
    Edit.answer Edit.eP (Edit.runR Edit.eP (Edit.W.init []) Edit.rOps) ["Z", "Ch"] "g" [] = some (.ok (.int 4)) ∧
    Edit.answer Edit.eP (Edit.runR Edit.eP (Edit.W.init []) Edit.rOps) ["A"] "f" [] = none ∧
    Edit.answer Edit.eP (Edit.runR Edit.eP (Edit.W.init []) (Edit.noEvalsR Edit.rOps)) ["Z"] "f" [] = some (.ok (.int 2)) := by
  decide +kernel

example (v' : Val)
    (h2 : Edit.answer Edit.eP (Edit.runR Edit.eP (Edit.W.init []) (Edit.noEvalsR Edit.rOps)) ["Z"] "f" [] = some (.ok v')) :
    Val.int 2 = v' :=
  live_equals_edits_only_with_renames Edit.eP idLt idLt_strict [] Edit.rOps Edit.rOps_admissible ["Z"] "f" [] _ _
    (by decide +kernel) h2

/-- **The negative witness for /repo d7248bc** (kernel-checked).  `A.u` UNCACHED, `A.f = lambda: u()`, `A.f()`;
`A.rename("Z")`.  The clearing of the code covers the rename and leaves no node; with the clearing of the code
before d7248bc (`Edit.renameClearingPre`: `clear_all_values` only, which does nothing for an uncached cells) the
coverage check FAILS and the node of `u` – through which values elsewhere may have been computed – stays in the
trace graph. -/
theorem coverage_fails_without_clear_obj_of_uncached_cells_on_rename :
    (Edit.runR Edit.uP (Edit.W.init []) Edit.uOps).ex.data = [((1, []), .int 5)] ∧
    Edit.stepCoveredR Edit.uP (Edit.runR Edit.uP (Edit.W.init []) Edit.uOps) (.renameSpace ["A"] "Z") = true ∧
    (Edit.stepR Edit.uP (Edit.runR Edit.uP (Edit.W.init []) Edit.uOps) (.renameSpace ["A"] "Z")).ex.gn = [] ∧
    Edit.renameCovered (Edit.runR Edit.uP (Edit.W.init []) Edit.uOps).tabs (Edit.runR Edit.uP (Edit.W.init []) Edit.uOps).sm
      ["A"] (Edit.renameClearingPre Edit.uP (Edit.runR Edit.uP (Edit.W.init []) Edit.uOps).tabs
        (Edit.runR Edit.uP (Edit.W.init []) Edit.uOps).sm ["A"]) = false ∧
    (Edit.stepRPre Edit.uP (Edit.runR Edit.uP (Edit.W.init []) Edit.uOps) (.renameSpace ["A"] "Z")).ex.gn = [.obj 0] := by
  decide +kernel

end MxModel.C02
