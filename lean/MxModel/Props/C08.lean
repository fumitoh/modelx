import MxModel.Proofs.ExecGraphOps
import MxModel.Proofs.ExprRanked
import MxModel.Proofs.ExecCertRunOps
import MxModel.Proofs.ExecCertExamples
import MxModel.Exec.Expr
/-!
# C08 – graph and cache agree; the graph is acyclic

Regime: terminating programs (`Ranked env lt` for a strict order `lt` on elements – every
call a formula can make goes to a lower element), any formula behaviour otherwise, including
handled and unhandled failures, cached and uncached cells, the depth limit.  Histories: any
interleaving of top-level evaluations (hits and misses), value assignments, `clear_at`,
`clear`, `clear_all` and `clear_obj`, from the empty model.

**Predecessors = the calls made** (`edges_are_exactly_the_calls`, regime `C02.WF`: additionally
`NoCatch` and static scoping): in every state with certificates – hence every reachable state of the
thirteen-operation language – a held computed element has a replayable trace of its formula, and
the sources of the edges INTO it are exactly the recorded calls: the cached elements it (or an
uncached callee on its behalf, at any nesting depth) called, and the object nodes of the uncached
cells it went through.  For formulas that handle failures the statement is decided by the
call-recording oracle of the check (a handled failure leaves no record: C02-caught-failure-untracked).
-/
namespace MxModel.C08
open MxModel.Exec

/-- **Every reachable state satisfies the graph invariant**: after any finite history of
evaluations, cache hits, value edits and failed evaluations. -/
theorem reachable_inv (env : Env) (lt : Node → Node → Prop) (ho : StrictOrder lt) (hr : Ranked env lt)
    (ops : List Op) : GI env lt (run env {} ops) ∧ Idle (run env {} ops) :=
  foldl_keeps (fun s => GI env lt s ∧ Idle s) (fun s op _ h => step_inv env lt ho hr s op h.1 h.2)
    ⟨GI.empty env lt, rfl, rfl⟩

/-- **The elements present in the dependency graph are exactly the elements holding a
value** (at every reachable state). -/
theorem graph_nodes_eq_held (env : Env) (lt : Node → Node → Prop) (ho : StrictOrder lt)
    (hr : Ranked env lt) (ops : List Op) (m : Node) :
    GNode.elem m ∈ (run env {} ops).gn ↔ (lookup (run env {} ops).data m).isSome := by
  obtain ⟨g, hi⟩ := reachable_inv env lt ho hr ops
  exact ⟨g.nodeHeld hi.1, fun h => (g.heldNodes m h).1⟩

/-- **The graph never mentions a cleared or deleted element**: both ends of every edge are
nodes of the graph, hence (previous theorem) held elements or uncached cells' object nodes. -/
theorem edges_between_nodes (env : Env) (lt : Node → Node → Prop) (ho : StrictOrder lt)
    (hr : Ranked env lt) (ops : List Op) (a b : GNode) (h : (a, b) ∈ (run env {} ops).ge) :
    a ∈ (run env {} ops).gn ∧ b ∈ (run env {} ops).gn :=
  (reachable_inv env lt ho hr ops).1.edgeNodes a b h

inductive Path (ge : List (GNode × GNode)) : GNode → GNode → Prop
  | single {a b} : (a, b) ∈ ge → Path ge a b
  | cons {a b c} : (a, b) ∈ ge → Path ge b c → Path ge a c

theorem path_ordered {env : Env} {lt : Node → Node → Prop} (ho : StrictOrder lt) {s : St}
    (g : GI env lt s) {a c : GNode} (p : Path s.ge a c) :
    ∃ u, c = .elem u ∧ ((∃ m, a = .elem m ∧ lt m u) ∨ (∃ c', a = .obj c')) := by
  induction p with
  | single h => exact g.edgesOrd _ _ h
  | cons h _ ih =>
    obtain ⟨t, hb, ha⟩ := g.edgesOrd _ _ h
    obtain ⟨u, hc, hbu⟩ := ih
    refine ⟨u, hc, ?_⟩
    subst hb
    rcases hbu with ⟨m, hm, hlt⟩ | ⟨c', hc'⟩
    · cases hm
      rcases ha with ⟨m', hm', hlt'⟩ | ⟨c', hc'⟩
      · exact Or.inl ⟨m', hm', ho.trans _ _ _ hlt' hlt⟩
      · exact Or.inr ⟨c', hc'⟩
    · cases hc'

/-- **The graph is acyclic.** -/
theorem graph_acyclic (env : Env) (lt : Node → Node → Prop) (ho : StrictOrder lt)
    (hr : Ranked env lt) (ops : List Op) (a : GNode) : ¬ Path (run env {} ops).ge a a :=
  fun p => below_irrefl ho (path_ordered ho (reachable_inv env lt ho hr ops).1 p)

/-- **User inputs have no predecessors.** -/
theorem inputs_have_no_preds (env : Env) (lt : Node → Node → Prop) (ho : StrictOrder lt)
    (hr : Ranked env lt) (ops : List Op) (a : GNode) (m : Node)
    (h : (a, GNode.elem m) ∈ (run env {} ops).ge) : m ∉ (run env {} ops).inputs :=
  (reachable_inv env lt ho hr ops).1.inputsNoPreds a m h

/-- **Uncached cells hold no values.** -/
theorem uncached_holds_nothing (env : Env) (lt : Node → Node → Prop) (ho : StrictOrder lt)
    (hr : Ranked env lt) (ops : List Op) (m : Node) (hc : env.cached m.1 = false) :
    lookup (run env {} ops).data m = none := by
  cases h : lookup (run env {} ops).data m with
  | none => rfl
  | some v =>
    have := ((reachable_inv env lt ho hr ops).1.heldNodes m (by rw [h]; rfl)).2
    rw [hc] at this; cases this


/-! Non-vacuity: a concrete program (a cached cells calling an uncached one that calls a cached
one and reads a reference by attribute path; a failing cells; a handler) is `Ranked`, and a
history with a hit, a failure and a value edit reaches a state with object-node edges. -/
def gCells : CellId → Option Expr
  | 0 => some (.add (.param 0) (.readA 0))
  | 1 => some (.call 0 [.param 0])
  | 2 => some (.raise kValue)
  | 3 => some (.add (.call 1 [.lit 1]) (.try_ (.call 2 []) .all (.lit 0)))
  | _ => none

def gAr : CellId → Option Nat
  | 0 => some 1 | 1 => some 1 | 2 => some 0 | 3 => some 0 | _ => none

def gEnv : Env where
  formula := fun n => match gCells n.1 with
    | some e => formulaOf gAr e n.2
    | none => .raise (.user kName)
  cached := fun c => c != 1
  allowNone := fun _ => false
  refs := fun _ => some (.int 10)
  maxdepth := 20

theorem gEnv_ranked : Ranked gEnv idLt :=
  ranked_of_table gCells gAr gEnv (fun _ => rfl) (by
    intro i e h
    match i, h with
    | 0, h => cases h; rfl
    | 1, h => cases h; rfl
    | 2, h => cases h; rfl
    | 3, h => cases h; rfl)

def gOps : List Op := [.eval (3, []), .eval (2, []), .set (0, [.int 5]) (.int 1), .eval (3, [])]

example : (run gEnv {} gOps).ge =
    [(.elem (0, [.int 1]), .elem (3, [])), (.obj 1, .elem (3, []))] := by decide +kernel

example (a : GNode) : ¬ Path (run gEnv {} gOps).ge a a :=
  graph_acyclic gEnv idLt idLt_strict gEnv_ranked gOps a

/-! ### `Ranked` is needed – or the depth limit must not be caught

Every theorem above assumes terminating programs (`Ranked`).  Without it the statements are false of
the model AND of modelx when a formula catches `DeepReferenceError`: `c0 = try: c1() except: 0`,
`c1 = c0()` under a limit of three frames.  The recursion `c0 → c1 → c0 → c1` hits the limit in the
innermost `c0`; that `c0` handles it and returns `0`, is STORED while the outer `c0` is still
executing, `c1` completes (edge `c0 → c1`), the outer `c0` completes and overwrites itself (edge
`c1 → c0`): the dependency graph is cyclic, an executing element held a value, `c0` was executed and
stored twice.  Real modelx (`notes/EXECP-repro_cycle_caught_deep.py`): edges `[(c0, c1), (c1, c0)]`,
`nx.is_directed_acyclic_graph` is `False`.  Recorded as known finding C08-cycle-after-caught-deep (variant
of C01-caught-deep: same cause, a handled depth error).  For programs that do not catch the depth
error the recursion ends in an uncaught `DeepReferenceError` and everything is rolled back
(`ranked_or_limit_needed` second part). -/

def cyCells : CellId → Option Expr
  | 0 => some (.try_ (.call 1 []) .all (.lit 0))
  | 1 => some (.call 0 [])
  | _ => none

def cyEnv : Env where
  formula := fun n => match cyCells n.1 with
    | some e => formulaOf (fun c => (cyCells c).map (fun _ => 0)) e n.2
    | none => .raise (.user kName)
  cached := fun _ => true
  allowNone := fun _ => false
  refs := fun _ => none
  maxdepth := 3

/-- the same two cells without the handler: `c0 = c1()`, `c1 = c0()` -/
def cyCells' : CellId → Option Expr
  | 0 => some (.call 1 [])
  | 1 => some (.call 0 [])
  | _ => none

def cyEnv' : Env := { cyEnv with formula := fun n => match cyCells' n.1 with
    | some e => formulaOf (fun c => (cyCells' c).map (fun _ => 0)) e n.2
    | none => .raise (.user kName) }

/-- **The graph statements are false without `Ranked` when the depth error is caught** – the graph
has a cycle, and an element was executed twice in one evaluation –; when it is not caught the
non-terminating recursion ends in `DeepReferenceError` and leaves nothing behind. -/
theorem ranked_or_limit_needed :
    (¬ ∀ (env : Env) (ops : List Op) (a : GNode), ¬ Path (run env {} ops).ge a a) ∧
    (run cyEnv {} [.eval (0, [])]).log = [(1, []), (0, []), (1, []), (0, [])] ∧
    (evalTop cyEnv' (0, []) {}).1 = .formulaError .deep [(0, []), (1, []), (0, []), (1, [])] ∧
    (evalTop cyEnv' (0, []) {}).2.gn = [] ∧ (evalTop cyEnv' (0, []) {}).2.data = [] := by
  refine ⟨?_, by decide +kernel, by decide +kernel, by decide +kernel, by decide +kernel⟩
  intro h
  refine h cyEnv [.eval (0, [])] (.elem (0, [])) (Path.cons (b := .elem (1, [])) ?_ (Path.single ?_))
  · decide +kernel
  · decide +kernel

example : (run cyEnv {} [.eval (0, [])]).ge =
    [(.elem (0, []), .elem (1, [])), (.elem (1, []), .elem (0, []))] := by decide +kernel

/-! ## Histories that also edit the definitions

The value-layer language above keeps the definitions fixed.  Here an operation may also change
them: a reference is set (created or changed) or deleted, a cells gets another formula, the
`is_cached` flag of a cells is switched – in either direction – each with the clearing modelx
performs for it (`St.setRef`, `St.delRef`, `St.setFormula` = `clear_obj`; the setter of
`is_cached` returns at once when the flag already has the value).  The only hypothesis is that
the definitions stay terminating (`Ranked`) – formulas may handle failures, cells may be
uncached, the depth limit may be hit. -/

/-- **Every reachable state satisfies the graph invariant – also across edits of the
definitions**: after any finite history of evaluations, cache hits, failed evaluations, value
edits, reference edits (create, change, delete), formula edits and switches of `is_cached` in
either direction, from the empty model. -/
theorem reachable_inv_edits (lt : Node → Node → Prop) (ho : StrictOrder lt) (env0 : Env)
    (hr0 : Ranked env0 lt) (ops : List EOp) (hadm : StaysRanked lt (env0, {}) ops) :
    GI (erun (env0, {}) ops).1 lt (erun (env0, {}) ops).2 ∧ Idle (erun (env0, {}) ops).2 :=
  (foldl_inv estep (StaysRanked lt) (fun st => Ranked st.1 lt) (fun st => GI st.1 lt st.2 ∧ Idle st.2)
    (fun _ _ _ ha => ha) (fun st op hr h => estep_inv lt ho st op hr h.1 h.2)
    ops (env0, {}) hr0 ⟨GI.empty env0 lt, rfl, rfl⟩ hadm).1

/-- **Graph element nodes = held elements, after any history with edits** (in particular right
after a switch of `is_cached`: nothing of the cells' old mode is left as an element node, and
every element node belongs to a cells that is cached NOW). -/
theorem graph_nodes_eq_held_edits (lt : Node → Node → Prop) (ho : StrictOrder lt) (env0 : Env)
    (hr0 : Ranked env0 lt) (ops : List EOp) (hadm : StaysRanked lt (env0, {}) ops) (m : Node) :
    (GNode.elem m ∈ (erun (env0, {}) ops).2.gn ↔ (lookup (erun (env0, {}) ops).2.data m).isSome) ∧
    (GNode.elem m ∈ (erun (env0, {}) ops).2.gn → (erun (env0, {}) ops).1.cached m.1 = true) := by
  obtain ⟨g, hi⟩ := reachable_inv_edits lt ho env0 hr0 ops hadm
  exact ⟨⟨g.nodeHeld hi.1, fun h => (g.heldNodes m h).1⟩, g.elemCached m⟩

/-- **The graph stays acyclic across edits.** -/
theorem graph_acyclic_edits (lt : Node → Node → Prop) (ho : StrictOrder lt) (env0 : Env)
    (hr0 : Ranked env0 lt) (ops : List EOp) (hadm : StaysRanked lt (env0, {}) ops) (a : GNode) :
    ¬ Path (erun (env0, {}) ops).2.ge a a :=
  fun p => below_irrefl ho (path_ordered ho (reachable_inv_edits lt ho env0 hr0 ops hadm).1 p)

/-! ### object nodes

The key-less node `(cells,)` stands for an uncached cells.  It is legitimate only while the cells
IS uncached: switching the flag on must remove it together with everything calculated through
the cells (`clear_obj`).  No hypothesis on the programs beyond `Ranked` (which gives `GI`, needed
for the closure facts of the clearing routines). -/

/-- **An object node is in the graph only for a cells that is uncached NOW** – in every state
reachable by evaluations, failed evaluations, value edits, reference edits, formula edits and
switches of `is_cached` in either direction.  With `graph_nodes_eq_held_edits`: the nodes of the
graph are exactly the held elements (all of cached cells) and object nodes of uncached cells. -/
theorem object_nodes_only_for_uncached (lt : Node → Node → Prop) (ho : StrictOrder lt) (env0 : Env)
    (hr0 : Ranked env0 lt) (ops : List EOp) (hadm : StaysRanked lt (env0, {}) ops) (c : CellId)
    (h : GNode.obj c ∈ (erun (env0, {}) ops).2.gn) : (erun (env0, {}) ops).1.cached c = false :=
  (foldl_inv estep (StaysRanked lt) (fun st => Ranked st.1 lt)
    (fun st => (GI st.1 lt st.2 ∧ Idle st.2) ∧ ObjOK st.1 st.2) (fun _ _ _ ha => ha)
    (fun st op hr h => ⟨estep_inv lt ho st op hr h.1.1 h.1.2, estep_obj lt st op h.1.1 h.1.2 h.2⟩)
    ops (env0, {}) hr0 ⟨⟨GI.empty env0 lt, rfl, rfl⟩, fun _ hc => nomatch hc⟩ hadm).1.2 c h

/-! Non-vacuity (the history of the seeded change C08-mutD): `top` (c2) is calculated through the
uncached `mid` (c1) over `base` (c0); then caching is switched ON for `mid`.  The object node of
`mid`, `top(1)` and their edges are gone; after the next query the graph is that of a model that
had `mid` cached from the start; assigning `mid(1)` invalidates `top(1)`. -/
def hCells : CellId → Option Expr
  | 0 => some (.mul (.param 0) (.lit 10))
  | 1 => some (.add (.call 0 [.param 0]) (.lit 1))
  | 2 => some (.mul (.call 1 [.param 0]) (.lit 2))
  | _ => none

def hAr : CellId → Option Nat
  | 0 => some 1 | 1 => some 1 | 2 => some 1 | _ => none

def hEnv : Env where
  formula := fun n => match hCells n.1 with
    | some e => formulaOf hAr e n.2
    | none => .raise (.user kName)
  cached := fun c => c != 1
  allowNone := fun _ => false
  refs := fun _ => none
  maxdepth := 20

theorem hEnv_ranked : Ranked hEnv idLt :=
  ranked_of_table hCells hAr hEnv (fun _ => rfl) (by
    intro i e h
    match i, h with
    | 0, h => cases h; rfl
    | 1, h => cases h; rfl
    | 2, h => cases h; rfl)

def k1 : Key := [.int 1]

example : (erun (hEnv, {}) [.eval (2, k1)]).2.ge =
    [(.elem (0, k1), .elem (2, k1)), (.obj 1, .elem (2, k1))] := by decide +kernel

example : (erun (hEnv, {}) [.eval (2, k1), .setCached 1 true]).2.gn = [.elem (0, k1)] ∧
    (erun (hEnv, {}) [.eval (2, k1), .setCached 1 true]).2.ge = [] := by decide +kernel

example : (erun (hEnv, {}) [.eval (2, k1), .setCached 1 true, .eval (2, k1)]).2.ge =
    [(.elem (0, k1), .elem (1, k1)), (.elem (1, k1), .elem (2, k1))] := by decide +kernel

example : (evalTop (withCached hEnv 1 true) (2, k1)
    (erun (hEnv, {}) [.eval (2, k1), .setCached 1 true, .eval (2, k1), .set (1, k1) (.int 100)]).2).1
    = .ok (.int 200) := by decide +kernel

example : StaysRanked idLt (hEnv, {}) [.eval (2, k1), .setCached 1 true, .eval (2, k1)] :=
  ⟨hEnv_ranked, ranked_withCached hEnv_ranked 1 true, ranked_withCached hEnv_ranked 1 true, trivial⟩

/-! ## The full edit language

`C02.Op` is the union of the edit languages of the executor family – thirteen operations:
evaluations (hits, misses, failed, stopped by the limit), value assignment, `clear_at`, `clear`,
`clear_all`, reference set / delete, formula edit, `is_cached` switch, cells deleted, cells created,
`set_recursion`, administrative calls.  Every reachable state has the certificate invariant
(`C02.reachable_ci`), whose first component is `GI`; the graph statements follow for every reachable
state of THAT language – in the regime `C02.WF` (terminating, `NoCatch`, statically scoped), which
`C02.Admissible` keeps across formula edits and cells creation. -/

theorem reachable_inv_full (lt : Node → Node → Prop) (ho : StrictOrder lt) (env0 : Env)
    (hw0 : C02.WF env0 lt) (ops : List C02.Op) (hadm : C02.Admissible lt (env0, {}) ops) :
    GI (C02.run (env0, {}) ops).1 lt (C02.run (env0, {}) ops).2 ∧ Idle (C02.run (env0, {}) ops).2 :=
  have h := (C02.run_ci lt ho ops (env0, {}) hw0 (CI.empty env0 lt) hadm).1
  ⟨h.gi, h.quiet.idle⟩

/-- **Graph element nodes = held elements**, all of cells that are cached NOW and exist NOW. -/
theorem graph_nodes_eq_held_full (lt : Node → Node → Prop) (ho : StrictOrder lt) (env0 : Env)
    (hw0 : C02.WF env0 lt) (ops : List C02.Op) (hadm : C02.Admissible lt (env0, {}) ops) (m : Node) :
    (GNode.elem m ∈ (C02.run (env0, {}) ops).2.gn ↔ (lookup (C02.run (env0, {}) ops).2.data m).isSome) ∧
    (GNode.elem m ∈ (C02.run (env0, {}) ops).2.gn →
      (C02.run (env0, {}) ops).1.cached m.1 = true ∧ (C02.run (env0, {}) ops).1.alive m.1 = true) := by
  have h := (C02.run_ci lt ho ops (env0, {}) hw0 (CI.empty env0 lt) hadm).1
  exact ⟨⟨h.nodeHeld, fun hm => (h.gi.heldNodes m hm).1⟩,
    fun hm => ⟨h.gi.elemCached m hm, h.alive.nodes _ hm⟩⟩

/-- **The graph never mentions a cleared or deleted element**: both ends of every edge are nodes. -/
theorem edges_between_nodes_full (lt : Node → Node → Prop) (ho : StrictOrder lt) (env0 : Env)
    (hw0 : C02.WF env0 lt) (ops : List C02.Op) (hadm : C02.Admissible lt (env0, {}) ops) (a b : GNode)
    (h : (a, b) ∈ (C02.run (env0, {}) ops).2.ge) :
    a ∈ (C02.run (env0, {}) ops).2.gn ∧ b ∈ (C02.run (env0, {}) ops).2.gn :=
  (reachable_inv_full lt ho env0 hw0 ops hadm).1.edgeNodes a b h

/-- **The graph is acyclic** after any history of the full language. -/
theorem graph_acyclic_full (lt : Node → Node → Prop) (ho : StrictOrder lt) (env0 : Env)
    (hw0 : C02.WF env0 lt) (ops : List C02.Op) (hadm : C02.Admissible lt (env0, {}) ops) (a : GNode) :
    ¬ Path (C02.run (env0, {}) ops).2.ge a a :=
  fun p => below_irrefl ho (path_ordered ho (reachable_inv_full lt ho env0 hw0 ops hadm).1 p)

theorem inputs_have_no_preds_full (lt : Node → Node → Prop) (ho : StrictOrder lt) (env0 : Env)
    (hw0 : C02.WF env0 lt) (ops : List C02.Op) (hadm : C02.Admissible lt (env0, {}) ops) (a : GNode) (m : Node)
    (h : (a, GNode.elem m) ∈ (C02.run (env0, {}) ops).2.ge) : m ∉ (C02.run (env0, {}) ops).2.inputs :=
  (reachable_inv_full lt ho env0 hw0 ops hadm).1.inputsNoPreds a m h

/-- **Uncached cells hold no values** – whatever flag flips, formula edits, deletions and
re-creations the history contains: the flag that counts is the one in force NOW. -/
theorem uncached_holds_nothing_full (lt : Node → Node → Prop) (ho : StrictOrder lt) (env0 : Env)
    (hw0 : C02.WF env0 lt) (ops : List C02.Op) (hadm : C02.Admissible lt (env0, {}) ops) (m : Node)
    (hc : (C02.run (env0, {}) ops).1.cached m.1 = false) :
    lookup (C02.run (env0, {}) ops).2.data m = none := by
  cases h : lookup (C02.run (env0, {}) ops).2.data m with
  | none => rfl
  | some v =>
    have := ((reachable_inv_full lt ho env0 hw0 ops hadm).1.heldNodes m (by rw [h]; rfl)).2
    rw [hc] at this; cases this

/-- **An object node is in the graph only for a cells that is uncached NOW and exists NOW.** -/
theorem object_nodes_only_for_uncached_full (lt : Node → Node → Prop) (ho : StrictOrder lt) (env0 : Env)
    (hw0 : C02.WF env0 lt) (ops : List C02.Op) (hadm : C02.Admissible lt (env0, {}) ops) (c : CellId)
    (h : GNode.obj c ∈ (C02.run (env0, {}) ops).2.gn) :
    (C02.run (env0, {}) ops).1.cached c = false ∧ (C02.run (env0, {}) ops).1.alive c = true :=
  have hci := (C02.run_ci lt ho ops (env0, {}) hw0 (CI.empty env0 lt) hadm).1
  ⟨hci.alive.objs c h, hci.alive.nodes _ h⟩

/-- **Reported dependencies are exactly the calls made**: for an element `n` holding a computed value
there is a trace `tr` of its formula – the formula, fed the recorded answers, asks exactly the
recorded questions and returns the held value (`Replay`); every recorded cached callee holds the
recorded value now – such that the predecessors of `n` in the dependency graph are exactly the
recorded callees: `a → n` is an edge iff `a` is a cached element recorded as called (by `n`'s formula
or, flattened by the `idx` rule, by an uncached callee's formula inside it) or the object node of an
uncached cells recorded as called. -/
theorem edges_are_exactly_the_calls {env : Env} {lt : Node → Node → Prop} {s : St} (h : CI env lt s)
    (n : Node) (v : Val) (hl : lookup s.data n = some v) (hin : n ∉ s.inputs) :
    ∃ tr, Replay env tr (env.formula n) v ∧
      (∀ m w, FEv.call m w ∈ flat n.1 tr → lookup s.data m = some w) ∧
      ∀ a, (a, GNode.elem n) ∈ s.ge ↔
        (∃ m w, a = .elem m ∧ FEv.call m w ∈ flat n.1 tr) ∨ (∃ m, a = .obj m.1 ∧ FEv.ucall m ∈ flat n.1 tr) := by
  obtain ⟨tr, hc⟩ := h.certs n v hl hin
  refine ⟨tr, hc.replay, fun m w hm => (hc.events _ hm).1, fun a => ⟨hc.just a, ?_⟩⟩
  rintro (⟨m, w, rfl, hm⟩ | ⟨m, rfl, hm⟩)
  · exact (hc.events _ hm).2.2
  · exact hc.events _ hm

/-- …in every reachable state of the full edit language; user inputs have no predecessors
(`inputs_have_no_preds_full`). -/
theorem reachable_edges_are_exactly_the_calls (lt : Node → Node → Prop) (ho : StrictOrder lt) (env0 : Env)
    (hw0 : C02.WF env0 lt) (ops : List C02.Op) (hadm : C02.Admissible lt (env0, {}) ops) (n : Node) (v : Val)
    (hl : lookup (C02.run (env0, {}) ops).2.data n = some v) (hin : n ∉ (C02.run (env0, {}) ops).2.inputs) :
    ∃ tr, Replay (C02.run (env0, {}) ops).1 tr ((C02.run (env0, {}) ops).1.formula n) v ∧
      (∀ m w, FEv.call m w ∈ flat n.1 tr → lookup (C02.run (env0, {}) ops).2.data m = some w) ∧
      ∀ a, (a, GNode.elem n) ∈ (C02.run (env0, {}) ops).2.ge ↔
        (∃ m w, a = .elem m ∧ FEv.call m w ∈ flat n.1 tr) ∨ (∃ m, a = .obj m.1 ∧ FEv.ucall m ∈ flat n.1 tr) :=
  edges_are_exactly_the_calls (C02.run_ci lt ho ops (env0, {}) hw0 (CI.empty env0 lt) hadm).1 n v hl hin

/-! Non-vacuity: after `c3()` in the program of C02, `c2(1)` – computed through the uncached `c1` – has
the predecessors `c0(1)` (called by `c1` on its behalf) and the object node of `c1`; the theorem gives
a trace of `c2`'s formula in which exactly these are the recorded calls. -/
example : (C02.run (C02.xEnv, {}) [.eval (3, [])]).2.ge =
    [(.elem (0, [.int 1]), .elem (2, [.int 1])), (.obj 1, .elem (2, [.int 1])),
     (.elem (2, [.int 1]), .elem (3, []))] := by decide +kernel

example : ∃ tr, Replay C02.xEnv tr (C02.xEnv.formula (2, [.int 1])) (.int 26) ∧
    ∀ a, (a, GNode.elem (2, [.int 1])) ∈ (C02.run (C02.xEnv, {}) [.eval (3, [])]).2.ge ↔
      (∃ m w, a = .elem m ∧ FEv.call m w ∈ flat 2 tr) ∨ (∃ m, a = .obj m.1 ∧ FEv.ucall m ∈ flat 2 tr) := by
  obtain ⟨tr, h1, _, h3⟩ := reachable_edges_are_exactly_the_calls idLt idLt_strict C02.xEnv C02.xEnv_wf
    [.eval (3, [])] ⟨C02.xEnv_wf, trivial⟩ (2, [.int 1]) (.int 26) (by decide +kernel) (by decide +kernel)
  exact ⟨tr, h1, h3⟩

/-! Non-vacuity: the history `C02.yOps` (evaluations, an assignment, the deletion and re-creation of a
cells, in the four-cells / two-spaces program with an uncached cells) is admissible; its graph. -/
example (a : GNode) : ¬ Path (C02.run (C02.xEnv, {}) C02.yOps).2.ge a a :=
  graph_acyclic_full idLt idLt_strict C02.xEnv C02.xEnv_wf C02.yOps C02.yOps_admissible a

example : (C02.run (C02.xEnv, {}) C02.yOps).2.ge =
    [(.elem (0, [.int 1]), .elem (2, [.int 1])), (.obj 1, .elem (2, [.int 1])),
     (.elem (2, [.int 1]), .elem (3, []))] := by decide +kernel

end MxModel.C08
