import MxModel.Proofs.Reach
import MxModel.Props.C08
import MxModel.Props.C01
import MxModel.Proofs.ExecKeep
import MxModel.Proofs.ExecInputsRun
import MxModel.Proofs.ExecCertExamples
import MxModel.Proofs.ExecRecalc
import MxModel.Proofs.ExecCertRecalcOp
/-!
# C06 – a value edit discards exactly its dependents; inputs persist

`Reach s.ge (.elem n) (.elem m)`: `m` is `n` or was computed, directly or transitively, from a
value returned by `n` (edges of the trace graph go from callee to caller).  `St.descsWith` –
the model of `nx.descendants` – is proved to be exactly this closure (`descs_iff`), so the
statements below are about *exactly* the dependents.  Regime: the reachable states of C08
(terminating programs).  The recalculation option: last section (`St.setValueRecalc`, tied to the code by
the exec correspondence of C06 run with `recalc on`).
-/
namespace MxModel.C06
open MxModel.Exec MxModel.C08
open Classical

variable {env : Env} {lt : Node → Node → Prop}

theorem reach_from_non_node {s : St} (g : GI env lt s) (a x : GNode) (ha : a ∉ s.gn)
    (h : Reach s.ge a x) : x = a := by
  induction h with
  | refl => rfl
  | step _ he ih => subst ih; exact absurd (g.edgeNodes _ _ he).1 ha

/-- `clear_with_descs(n)`: exactly the dependents of `n` lose their values -/
theorem clearWithDescs_lookup {s : St} (g : GI env lt s) (n m : Node) :
    lookup (s.clearWithDescs n).data m =
      if GNode.elem n ∈ s.gn ∧ Reach s.ge (.elem n) (.elem m) then none else lookup s.data m := by
  obtain ⟨R, hc, hR⟩ := clears_clearWithDescs s (fun _ => False) g.edgeOK n
  rw [hc.lookup]
  by_cases hr : GNode.elem n ∈ s.gn ∧ Reach s.ge (.elem n) (.elem m)
  · rw [if_pos hr, if_pos ((hR _).mpr ⟨_, rfl, hr⟩)]
  · rw [if_neg hr, if_neg (fun hm => let ⟨_, ha, hgn, hrm⟩ := (hR _).mp hm; hr (ha ▸ ⟨hgn, hrm⟩))]

/-- **`clear_at` discards exactly the element and its dependents.** -/
theorem clear_at_exact {s : St} (g : GI env lt s) (hi : Idle s) (n m : Node) :
    lookup (s.clearValueAt n true).data m =
      if (lookup s.data n).isSome ∧ Reach s.ge (.elem n) (.elem m) then none else lookup s.data m := by
  rw [clearValueAt_eq]
  by_cases hheld : (lookup s.data n).isSome = true
  · rw [if_pos ⟨hheld, Or.inl rfl⟩, clearWithDescs_lookup g]
    simp only [(g.heldNodes n hheld).1, hheld, true_and]
  · rw [if_neg (fun h => hheld h.1), if_neg (fun h => hheld h.1)]

/-- a user input is never a dependent of another element -/
theorem input_not_dependent {s : St} (g : GI env lt s) (a : GNode) (m : Node) (hin : m ∈ s.inputs)
    (hne : a ≠ .elem m) : ¬ Reach s.ge a (.elem m) :=
  not_reach_input g.inputsNoPreds a m hin hne

/-- **Assigning or overwriting the value of element `n` discards precisely the held values
computed directly or transitively from it; every other held value stays** – and `n` holds the
assigned value. -/
theorem set_value_exact {s : St} (g : GI env lt s) (hi : Idle s) (n m : Node) (v : Val)
    (hv : ¬ (v = .none ∧ env.allowNone n.1 = false)) :
    lookup (s.setValue env n v).1.data m =
      if m = n then some v
      else if Reach s.ge (.elem n) (.elem m) then none
      else lookup s.data m := by
  rw [(setValue_assigned s n v hv).data, lookup_insert]
  by_cases hmn : m = n
  · rw [if_pos hmn.symm, if_pos hmn]
  · rw [if_neg (fun h => hmn h.symm), if_neg hmn, clear_at_exact g hi n m]
    by_cases hr : Reach s.ge (.elem n) (.elem m)
    · rw [if_pos hr]
      by_cases hheld : (lookup s.data n).isSome = true
      · exact if_pos ⟨hheld, hr⟩
      · -- `n` has no node, so it reaches nothing but itself
        have hnot : GNode.elem n ∉ s.gn := fun h => hheld (g.nodeHeld hi.1 h)
        cases reach_from_non_node g _ _ hnot hr
        exact absurd rfl hmn
    · rw [if_neg hr]; exact if_neg (fun h => hr h.2)

/-- the middle branch alone: a dependent of `n` other than `n` holds nothing afterwards -/
theorem set_value_exact_idle {s : St} (g : GI env lt s) (hi : Idle s) (n m : Node) (v : Val)
    (hv : ¬ (v = .none ∧ env.allowNone n.1 = false)) (hmn : m ≠ n)
    (hr : Reach s.ge (.elem n) (.elem m)) : lookup (s.setValue env n v).1.data m = none := by
  rw [set_value_exact g hi n m v hv]; simp [hmn, hr]

/-- **Values assigned by the user survive edits of other elements**: assigning to `n ≠ m`
leaves the input `m` an input with its value. -/
theorem input_survives_set {s : St} (g : GI env lt s) (hi : Idle s) (n m : Node) (v w : Val)
    (hv : ¬ (v = .none ∧ env.allowNone n.1 = false)) (hmn : m ≠ n)
    (hin : m ∈ s.inputs) (hl : lookup s.data m = some w) :
    lookup (s.setValue env n v).1.data m = some w := by
  rw [set_value_exact g hi n m v hv]
  have : ¬ Reach s.ge (.elem n) (.elem m) :=
    input_not_dependent g _ m hin (by intro h; cases h; exact hmn rfl)
  simp [hmn, this, hl]

/-- **…and survive `clear()`** (which discards calculated values only): every step of
`clear_all_values(clear_input=False)` leaves every input of the model in place. -/
theorem input_survives_clear_step {s : St} (g : GI env lt s) (k m : Node) (w : Val)
    (hin : m ∈ s.inputs) (hl : lookup s.data m = some w) :
    lookup (s.clearValueAt k false).data m = some w ∧ m ∈ (s.clearValueAt k false).inputs :=
  have k' := (clears_clearValueAt s (fun _ => False) g.edgeOK k false).kept (x := .elem m) (fun _ ⟨ha, _, hc⟩ =>
    input_not_dependent g _ m hin (by intro h'; cases ha.symm.trans h'; exact hc.elim (fun hf => nomatch hf) (fun hk => hk hin)))
  ⟨(k'.data m rfl).1.trans hl, (k'.data m rfl).2.mpr hin⟩

theorem input_survives_clear {s : St} (g : GI env lt s) (hi : Idle s) (c : CellId) (m : Node) (w : Val)
    (hin : m ∈ s.inputs) (hl : lookup s.data m = some w) :
    lookup (s.clearAllValues c false).data m = some w ∧ m ∈ (s.clearAllValues c false).inputs :=
  have k' := (clears_clearAllValues s (fun _ => False) g.edgeOK c false).kept (x := .elem m) (fun _ ⟨n, ha, _, _, hc⟩ =>
    input_not_dependent g _ m hin (by intro h'; cases ha.symm.trans h'; exact hc.elim (fun hf => nomatch hf) (fun hk => hk hin)))
  ⟨(k'.data m rfl).1.trans hl, (k'.data m rfl).2.mpr hin⟩

/-- **Evaluations never touch held values or inputs** (no entry is overwritten, the input set
is unchanged). -/
theorem eval_keeps_held (ho : StrictOrder lt) (hr : Ranked env lt) {s : St} (g : GI env lt s)
    (hi : Idle s) (n m : Node) (w : Val) (hl : lookup s.data m = some w) :
    lookup (evalTop env n s).2.data m = some w ∧ (evalTop env n s).2.inputs = s.inputs :=
  ⟨(g.topCall ho hr hi.1 hi.2 n).2.2.2 m w hl, (evalTop_keeps env n s).2⟩

/-- **An assigned value is what the cells returns for those arguments regardless of its
formula**, and it is served without running any formula. -/
theorem assigned_value_returned {s : St} (g : GI env lt s) (hi : Idle s) (n : Node) (v : Val)
    (hc : env.cached n.1 = true) (hv : ¬ (v = .none ∧ env.allowNone n.1 = false)) :
    evalTop env n (s.setValue env n v).1 = (.ok v, (s.setValue env n v).1) := by
  apply C01.held_never_reexecuted_top env n _ v hc
  rw [set_value_exact g hi n n v hv]; simp

/-- **Every other held value is served without its formula running again.** -/
theorem survivor_served_without_running {s : St} (g : GI env lt s) (hi : Idle s) (n m : Node) (v w : Val)
    (hc : env.cached m.1 = true) (hv : ¬ (v = .none ∧ env.allowNone n.1 = false)) (hmn : m ≠ n)
    (hnr : ¬ Reach s.ge (.elem n) (.elem m)) (hl : lookup s.data m = some w) :
    evalTop env m (s.setValue env n v).1 = (.ok w, (s.setValue env n v).1) := by
  apply C01.held_never_reexecuted_top env m _ w hc
  rw [set_value_exact g hi n m v hv]; simp [hmn, hnr, hl]

/-! ### inputs survive reference changes, formula edits and deletions of OTHER cells

The facts above are about value edits.  For the edits of the definitions the supporting invariant is
`RgNoInputs`: **no element holding an assigned value is a reader in the reference graph** – so
`clear_attr_referrers`, which every reference edit performs, cannot reach it (the defect class of the
repair 87e96f6) – together with `inputs_have_no_preds` (C08): an input is a dependent of nothing.
`reachable_inputs_not_readers`: the invariant holds in every reachable state of the thirteen-operation
language of C02. -/

theorem reachable_inputs_not_readers (lt : Node → Node → Prop) (ho : StrictOrder lt) (env0 : Env)
    (hw0 : C02.WF env0 lt) (ops : List C02.Op) (hadm : C02.Admissible lt (env0, {}) ops) :
    RgNoInputs (C02.run (env0, {}) ops).2 :=
  C02.run_rgNoInputs lt ho ops (env0, {}) hw0 (CI.empty env0 lt) (fun e he => by simp at he) hadm

/-- **Values assigned by the user survive reference changes**: setting a reference (creating or
changing it) – namespace notification of the observer cells, `clear_attr_referrers` – leaves every
input an input with its value. -/
theorem input_survives_ref_edit {s : St} (h : CI env lt s) (hr : RgNoInputs s) (r : RefId) (m : Node) (w : Val)
    (hin : m ∈ s.inputs) (hl : lookup s.data m = some w) :
    lookup (s.setRef env r).data m = some w ∧ m ∈ (s.setRef env r).inputs :=
  have k := (kept_input_setRef (InpInv.of_ci h hr) r m hin).data m rfl
  ⟨k.1.trans hl, k.2.mpr hin⟩

/-- …and the deletion of a reference. -/
theorem input_survives_ref_delete {s : St} (h : CI env lt s) (hr : RgNoInputs s) (r : RefId) (m : Node) (w : Val)
    (hin : m ∈ s.inputs) (hl : lookup s.data m = some w) :
    lookup (s.delRef env r).data m = some w ∧ m ∈ (s.delRef env r).inputs :=
  have k := (kept_input_delRef (InpInv.of_ci h hr) r m hin).data m rfl
  ⟨k.1.trans hl, k.2.mpr hin⟩

/-- **…survive a formula or cache-flag edit of another cells** (`clear_obj` of that cells). -/
theorem input_survives_formula_edit_of_other_cells {s : St} (h : CI env lt s) (hr : RgNoInputs s) (c : CellId)
    (m : Node) (w : Val) (hne : m.1 ≠ c) (hin : m ∈ s.inputs) (hl : lookup s.data m = some w) :
    lookup (s.setFormula c).data m = some w ∧ m ∈ (s.setFormula c).inputs :=
  have k := (kept_input_clearObj (InpInv.of_ci h hr) c m hin hne).data m rfl
  ⟨k.1.trans hl, k.2.mpr hin⟩

/-- **…survive the deletion of another cells** – also of a cells of the same space (the namespace
notification keeps inputs). -/
theorem input_survives_cell_delete_of_other_cells {s : St} (h : CI env lt s) (hr : RgNoInputs s) (c : CellId)
    (m : Node) (w : Val) (hne : m.1 ≠ c) (hin : m ∈ s.inputs) (hl : lookup s.data m = some w) :
    lookup (s.delCell env c).data m = some w ∧ m ∈ (s.delCell env c).inputs :=
  have k := (kept_input_delCell (InpInv.of_ci h hr) c m hin hne).data m rfl
  ⟨k.1.trans hl, k.2.mpr hin⟩

/-- **…and the creation of any cells.** -/
theorem input_survives_cell_create {s : St} (h : CI env lt s) (hr : RgNoInputs s) (c : CellId)
    (m : Node) (w : Val) (hin : m ∈ s.inputs) (hl : lookup s.data m = some w) :
    lookup (s.newCell env c).data m = some w ∧ m ∈ (s.newCell env c).inputs :=
  have k := (kept_input_newCell (InpInv.of_ci h hr) c m hin).data m rfl
  ⟨k.1.trans hl, k.2.mpr hin⟩

/-- **An input is dropped only by its own clear / overwrite, by `clear_all` of its cells, or by a
formula / flag edit or the deletion of its cells** (`C02.Touches m op`: `setValue m`, `clearAt m`,
`clearAll m.1`, `setFormula m.1`, `setCached m.1`, `delCell m.1`): every OTHER operation of the
thirteen-operation language – evaluations (returned or failed), assignments to and clears of other
elements, `clear()` of any cells, reference edits, formula / flag edits, deletion and creation of
other cells, limit changes, administrative calls – leaves it an input with its value.  (`h`, `hr`:
true of every reachable state, `C02.reachable_ci`, `reachable_inputs_not_readers`.) -/
theorem input_dropped_only_by_own_ops (ho : StrictOrder lt) (hw : C02.WF env lt) {s : St} (h : CI env lt s)
    (hr : RgNoInputs s) (op : C02.Op) (m : Node) (w : Val) (hop : ¬ C02.Touches m op)
    (hin : m ∈ s.inputs) (hl : lookup s.data m = some w) :
    lookup (C02.step (env, s) op).2.data m = some w ∧ m ∈ (C02.step (env, s) op).2.inputs :=
  C02.step_keeps_input ho hw h hr op m w hop hin hl

/-- **The inputs are a function of the edits**: after any operation, which elements hold an assigned
value and which value is determined by the definitions, the inputs before and the operation
(`C02.inpStep`) – no evaluation, no reference edit, no `clear()`, no edit of another cells changes
them. -/
theorem inputs_depend_on_edits_only (ho : StrictOrder lt) (hw : C02.WF env lt) {s : St} (h : CI env lt s)
    (hr : RgNoInputs s) (op : C02.Op) :
    inpOf (C02.step (env, s) op).2 = C02.inpStep env (inpOf s) op :=
  C02.inpOf_step ho hw h hr op

/-! ### "exactly the dependents": the graph against the calls the formulas made

`set_value_exact` / `clear_at_exact` are exact relative to the trace graph.  That the graph contains
every call is a theorem in the regime of C02 (`NoCatch`): in a state with certificates, a held
computed element has a replayable trace of its formula (the calls it made, with the values they
returned; calls made inside uncached callees flattened into it), and EVERY recorded call has its
edge – so a value edit discards at least everything computed from the edited element – and every
edge into it stems from a recorded call (`edges_stem_from_calls`; both directions together:
`C08.edges_are_exactly_the_calls`), so nothing else is discarded: the descendants of `n` in the graph
are exactly the elements whose recorded computation used, directly or transitively, a value
returned by `n`. -/

/-- **every call a held element's formula made has an edge in the trace graph** -/
theorem calls_have_edges {s : St} (h : CI env lt s) (n : Node) (v : Val) (hl : lookup s.data n = some v)
    (hin : n ∉ s.inputs) :
    ∃ tr, Replay env tr (env.formula n) v ∧
      (∀ m w, FEv.call m w ∈ flat n.1 tr → lookup s.data m = some w ∧ (GNode.elem m, GNode.elem n) ∈ s.ge) ∧
      (∀ m, FEv.ucall m ∈ flat n.1 tr → (GNode.obj m.1, GNode.elem n) ∈ s.ge) := by
  obtain ⟨tr, hc⟩ := h.certs n v hl hin
  exact ⟨tr, hc.replay, fun m w hm => ⟨(hc.events _ hm).1, (hc.events _ hm).2.2⟩, fun m hm => hc.events _ hm⟩

/-- **every edge into a held computed element stems from a call its computation made** -/
theorem edges_stem_from_calls {s : St} (n : Node) (v : Val) (tr : Tr) (hc : Cert env s n v tr) (a : GNode)
    (he : (a, GNode.elem n) ∈ s.ge) :
    (∃ m w, a = .elem m ∧ FEv.call m w ∈ flat n.1 tr) ∨ (∃ m, a = .obj m.1 ∧ FEv.ucall m ∈ flat n.1 tr) :=
  hc.just a he

/-- …hence **assigning to (or clearing) an element discards every value whose computation called
it** – directly or from inside uncached callees. -/
theorem callers_are_discarded {s : St} (h : CI env lt s) (n m : Node) (v w v' : Val)
    (hl : lookup s.data n = some v) (hin : n ∉ s.inputs) (tr : Tr) (hc : Cert env s n v tr)
    (hcall : FEv.call m w ∈ flat n.1 tr) (hv : ¬ (v' = .none ∧ env.allowNone m.1 = false)) :
    lookup (s.setValue env m v').1.data n = none := by
  have hedge := (hc.events _ hcall).2.2
  have hrk := (hc.events _ hcall).2.1
  have hne : n ≠ m := by intro h'; subst h'; omega
  rw [set_value_exact h.gi h.quiet.idle m n v' hv, if_neg hne,
    if_pos (Reach.step Reach.refl hedge)]

/-! Non-vacuity: in the program of C02 (`C02.xEnv`: `c3()` reads `r0` by attribute path, `c0` reads it
by name) `c3()` is evaluated and then ASSIGNED; the reference graph no longer mentions it, and a
change of `r0` – which clears the computed `c0(5)` and would clear a computed `c3()` – leaves the
input in place. -/
def iOps : List C02.Op :=
  [.eval (3, []), .eval (0, [.int 5]), .setValue (3, []) (.int 77), .setRef 0 (.int 20)]

example : (C02.run (C02.xEnv, {}) (iOps.take 2)).2.rg = [(1, (2, [.int 1])), (0, (3, []))] ∧
    (C02.run (C02.xEnv, {}) (iOps.take 3)).2.rg = [(1, (2, [.int 1]))] ∧
    (C02.run (C02.xEnv, {}) iOps).2.inputs = [(3, [])] ∧
    lookup (C02.run (C02.xEnv, {}) iOps).2.data (3, []) = some (.int 77) ∧
    lookup (C02.run (C02.xEnv, {}) iOps).2.data (0, [.int 5]) = none := by decide +kernel

/-! Non-vacuity on the program of C08: after evaluating `c3()` (which depends on `c0(1)` through
the uncached `c1`), assigning `c0(1)` discards `c3()` and nothing else. -/
example : (lookup (run gEnv {} [.eval (3, []), .eval (0, [.int 7]), .set (0, [.int 1]) (.int 100)]).data
    (3, [])) = none ∧
    (lookup (run gEnv {} [.eval (3, []), .eval (0, [.int 7]), .set (0, [.int 1]) (.int 100)]).data
    (0, [.int 7])) = some (.int 17) := by decide +kernel

/-! ### the recalculation option (`mx.set_recalc(True)`)

`St.setValueRecalc` (Exec/Mech.lean) is `set_value_from_key` with `System._recalc_dependents = True`:
`targets = get_startnodes_from(node)` BEFORE the clearing, the assignment as with the option off, then
`for trg in targets: trg[OBJ].get_value_from_key(trg[KEY])` (`St.recalcTargets`; a failing recomputation
raises out of the loop, the remaining targets are not evaluated).  Regime of the value statements: `CI`
states and `C02.WF` (`Ranked`, `NoCatch`, `Scoped`) – every reachable state of the thirteen-operation
language, and of the fourteen-operation language with the recalculating assignment itself among the
operations (`C02.reachable_ci_with_recalc`).  State-level two-run form: `recalc_state_is_lazy_run`. -/

/-- **Recalculation = the lazy assignment, then evaluate the former leaf dependents** (the definition of
the model, made explicit): an accepted assignment is `St.setValue` followed by the loop over
`St.startNodesFrom` of the state BEFORE the assignment; a refused one (`None` where it is not allowed)
changes nothing; the loop is one top-level evaluation per target, in order, stopping at the first
failure. -/
theorem recalc_is_lazy_then_evaluate (s : St) (n : Node) (v : Val) :
    (¬ (v = .none ∧ env.allowNone n.1 = false) →
      s.setValueRecalc env n v =
        ((St.recalcTargets env (s.startNodesFrom n) (s.setValue env n v).1).2,
         (St.recalcTargets env (s.startNodesFrom n) (s.setValue env n v).1).1)) ∧
    ((v = .none ∧ env.allowNone n.1 = false) → s.setValueRecalc env n v = (s, .refused .noneNotAllowed)) ∧
    (∀ s', St.recalcTargets env [] s' = (.ok, s')) ∧
    (∀ t ts s', St.recalcTargets env (t :: ts) s' =
      match (evalTop env t s').1 with
      | .ok _ => St.recalcTargets env ts (evalTop env t s').2
      | .formulaError e tb => (.failed t e tb, (evalTop env t s').2)) :=
  ⟨setValueRecalc_eq s n v, setValueRecalc_refused s n v, fun _ => rfl, fun _ _ _ => rfl⟩

/-- **which elements are recomputed at once**: the former leaf dependents – the elements computed,
directly or transitively, from `n` (other than `n`) from which nothing else was computed; each of them
held a value, of a cached cells that exists -/
theorem recalc_targets_are_former_leaf_dependents {s : St} (h : CI env lt s) (n t : Node) :
    (t ∈ s.startNodesFrom n ↔
      GNode.elem n ∈ s.gn ∧ Reach s.ge (.elem n) (.elem t) ∧ t ≠ n ∧ ∀ y, (GNode.elem t, y) ∉ s.ge) ∧
    (t ∈ s.startNodesFrom n → env.alive t.1 = true ∧ env.cached t.1 = true ∧ (lookup s.data t).isSome = true) :=
  ⟨mem_startNodesFrom (fun x y hxy => (h.gi.edgeNodes x y hxy).2) n t, startNodes_alive h n t⟩

/-- **Every value held after the recalculating assignment is the value lazy recomputation gives**: the
state has certificates (`CI`), its inputs – elements and values – are those of the lazy assignment, and
every held value is the denotation under these inputs (`Good`: `no_stale_after_value_edit` for the
assignment, `eval_keeps_certificates` for every recomputation – whether it returned or failed). -/
theorem recalc_values_are_lazy_values (ho : StrictOrder lt) (hw : C02.WF env lt) {s : St} (h : CI env lt s)
    (n : Node) (v : Val) (hc : env.cached n.1 = true) (hn : env.alive n.1 = true) :
    CI env lt (s.setValueRecalc env n v).1 ∧
    inpOf (s.setValueRecalc env n v).1 = inpOf (s.setValue env n v).1 ∧
    Good env (inpOf (s.setValue env n v).1) (s.setValueRecalc env n v).1 := by
  have h1 := setValue_ci h n v hc hn
  by_cases hv : v = .none ∧ env.allowNone n.1 = false
  · rw [setValueRecalc_refused s n v hv, setValue_refused s n v hv]
    exact ⟨h, rfl, h.good⟩
  · rw [setValueRecalc_eq s n v hv]
    have hal : ∀ t ∈ s.startNodesFrom n, env.alive t.1 = true := fun t ht => (startNodes_alive h n t ht).1
    have h2 := (recalcTargets_ci ho hw.ranked hw.noCatch (s.startNodesFrom n) _ hal h1).1
    have h3 := inpOf_recalcTargets ho hw.ranked hw.noCatch (s.startNodesFrom n) hal h1
    refine ⟨h2, h3, ?_⟩
    have := h2.good
    rw [h3] at this
    exact this

/-- … read element by element: a value `w` held for `m` after the recalculating assignment is what the
LAZY model – the same assignment with the option off – returns when `m` is asked for afterwards: any
value it returns is `w`, and when that evaluation stays within the recursion limit it does return `w`. -/
theorem recalc_value_equals_lazy_value (ho : StrictOrder lt) (hw : C02.WF env lt) {s : St} (h : CI env lt s)
    (n : Node) (v : Val) (hc : env.cached n.1 = true) (hn : env.alive n.1 = true) (m : Node) (w : Val)
    (hl : lookup (s.setValueRecalc env n v).1.data m = some w) :
    (∀ w', (evalTop env m (s.setValue env n v).1).1 = .ok w' → w' = w) ∧
    (LimitNotCaughtInThisCall env m (s.setValue env n v).1 → (evalTop env m (s.setValue env n v).1).1 = .ok w) := by
  obtain ⟨h2, _, hg⟩ := recalc_values_are_lazy_values ho hw h n v hc hn
  have hcm : env.cached m.1 = true := (h2.gi.heldNodes m (by rw [hl]; rfl)).2
  have hden := hg.sound m w hcm hl
  have hg1 := (setValue_ci h n v hc hn).good
  constructor
  · intro w' hw'
    have := (C01.eval_value_is_denotation_nocatch_partial env _ hw.noCatch m _ hg1).1 w' hw'
    have := Den_det env _ m _ _ this hden
    cases this; rfl
  · intro hlim
    obtain ⟨a, b, _⟩ := C01.eval_value_is_denotation_partial env _ m _ hg1 hlim
    cases hr : (evalTop env m (s.setValue env n v).1).1 with
    | ok w' =>
      have := Den_det env _ m _ _ (a w' hr) hden
      cases this; rfl
    | formulaError e tb =>
      have := Den_det env _ m _ _ (b e tb hr) hden
      cases this

/-- **When no recomputation fails, every former leaf dependent holds a value again** (and with it, by the
certificates of the resulting state – `calls_have_edges` –, every element its recomputation called; a
former dependent that is NOT a leaf is recomputed exactly when some leaf's new computation calls it: see the
example `kEnv` below, where `c1()` stays empty).  No hypothesis on the formulas is needed for this half. -/
theorem recalc_recomputes_former_leaves {s : St} (h : CI env lt s) (n : Node) (v : Val)
    (hok : (s.setValueRecalc env n v).2 = .ok) (t : Node) (ht : t ∈ s.startNodesFrom n) :
    (lookup (s.setValueRecalc env n v).1.data t).isSome = true := by
  by_cases hv : v = .none ∧ env.allowNone n.1 = false
  · rw [setValueRecalc_refused s n v hv] at hok; cases hok
  · rw [setValueRecalc_eq s n v hv] at hok ⊢
    exact recalcTargets_held env _ _ hok t ht (startNodes_alive h n t ht).2.1

/-- **A failing recomputation raises out of the assignment, which is made all the same**: the element
holds the assigned value and is an input; the failure is the `FormulaError` of the top-level evaluation
of one former leaf dependent `t`, the targets before it (in the model's order) were recomputed, those
after it were not evaluated. -/
theorem recalc_failure_leaves_assignment_made (ho : StrictOrder lt) (hw : C02.WF env lt) {s : St} (h : CI env lt s)
    (n : Node) (v : Val) (hc : env.cached n.1 = true) (hn : env.alive n.1 = true)
    (hv : ¬ (v = .none ∧ env.allowNone n.1 = false)) :
    lookup (s.setValueRecalc env n v).1.data n = some v ∧ n ∈ (s.setValueRecalc env n v).1.inputs ∧
    ∀ t e tb, (s.setValueRecalc env n v).2 = .failed t e tb →
      ∃ pre post, s.startNodesFrom n = pre ++ t :: post ∧
        (St.recalcTargets env pre (s.setValue env n v).1).1 = .ok ∧
        (evalTop env t (St.recalcTargets env pre (s.setValue env n v).1).2).1 = .formulaError e tb ∧
        (s.setValueRecalc env n v).1 = (evalTop env t (St.recalcTargets env pre (s.setValue env n v).1).2).2 := by
  have h1 := setValue_ci h n v hc hn
  have hal : ∀ t ∈ s.startNodesFrom n, env.alive t.1 = true := fun t ht => (startNodes_alive h n t ht).1
  rw [setValueRecalc_eq s n v hv]
  have hx := (recalcTargets_ci ho hw.ranked hw.noCatch (s.startNodesFrom n) _ hal h1).2.1
  have hset : lookup (s.setValue env n v).1.data n = some v := by
    rw [set_value_exact h.gi h.quiet.idle n n v hv]; simp
  have hin : n ∈ (s.setValue env n v).1.inputs := setValue_mem_inputs s n v hv
  refine ⟨hx n v hset, ?_, ?_⟩
  · rw [(recalcTargets_keeps env _ _).2]; exact hin
  · intro t e tb hf
    obtain ⟨pre, post, s0, e1, e2, e3, e4, e5⟩ := recalcTargets_failed env _ _ t e tb hf
    subst e3
    exact ⟨pre, post, e1, e2, e4, e5⟩

/-- **Nothing else is touched**: an element that was held and is not a dependent of `n` keeps its value
and is not executed – neither by the clearing nor by any recomputation (`new`: the formula executions the
whole assignment adds to the log); `n` itself holds the assigned value and is not executed either. -/
theorem recalc_touches_nothing_else (ho : StrictOrder lt) (hw : C02.WF env lt) {s : St} (h : CI env lt s)
    (n : Node) (v : Val) (hc : env.cached n.1 = true) (hn : env.alive n.1 = true)
    (hv : ¬ (v = .none ∧ env.allowNone n.1 = false)) :
    ∃ new, (s.setValueRecalc env n v).1.log = new ++ s.log ∧ n ∉ new ∧
      ∀ m w, m ≠ n → ¬ Reach s.ge (.elem n) (.elem m) → lookup s.data m = some w →
        lookup (s.setValueRecalc env n v).1.data m = some w ∧ m ∉ new := by
  have h1 := setValue_ci h n v hc hn
  have hal : ∀ t ∈ s.startNodesFrom n, env.alive t.1 = true := fun t ht => (startNodes_alive h n t ht).1
  rw [setValueRecalc_eq s n v hv]
  obtain ⟨_, hx, new, hlog, hnew⟩ := recalcTargets_ci ho hw.ranked hw.noCatch (s.startNodesFrom n) _ hal h1
  refine ⟨new, by rw [hlog, setValue_log], ?_, ?_⟩
  · intro hmem
    have := hnew n hmem hc
    rw [set_value_exact h.gi h.quiet.idle n n v hv] at this
    simp at this
  · intro m w hmn hnr hl
    have hl1 : lookup (s.setValue env n v).1.data m = some w := by
      rw [set_value_exact h.gi h.quiet.idle n m v hv]; simp [hmn, hnr, hl]
    refine ⟨hx m w hl1, fun hmem => ?_⟩
    have := hnew m hmem (h.gi.heldNodes m (by rw [hl]; rfl)).2
    rw [hl1] at this; cases this

/-- **The two-run form: the STATE after the recalculating assignment IS the state of the lazy run.**
Run 1: the recalculating assignment `s.setValueRecalc env n v` (option on).  Run 2 (option off), from the
same state: the lazy assignment `.setValue n v` followed by the evaluations `.eval t` of the former leaf
dependents (`C02.expandOp`, a history of the thirteen-operation language `C02.Op` run by `C02.run`).  The two
runs end in the same definitions and the same mechanism state – every held value, the inputs, the trace
graph, the reference graph, the execution log.  Which evaluations: `s.startNodesFrom n`, taken BEFORE the
assignment – all of them when no recomputation fails; those up to and including the failing one when one
fails (the others are not evaluated by either run); none when the assignment is refused (`None` where it
is not allowed: neither run changes anything).  With `recalc_values_are_lazy_values`: the values both runs
hold are the denotations under the inputs of the lazy assignment. -/
theorem recalc_state_is_lazy_run {s : St} (h : CI env lt s) (n : Node) (v : Val)
    (hc : env.cached n.1 = true) (hn : env.alive n.1 = true) :
    (env, (s.setValueRecalc env n v).1) = C02.run (env, s) (C02.expandOp (env, s) (.setValueRecalc n v)) ∧
    (¬ (v = .none ∧ env.allowNone n.1 = false) →
      C02.expandOp (env, s) (.setValueRecalc n v) =
        .setValue n v :: (C02.evaluatedTargets env (s.startNodesFrom n) (s.setValue env n v).1).map C02.Op.eval) ∧
    ((s.setValueRecalc env n v).2 = .ok →
      C02.evaluatedTargets env (s.startNodesFrom n) (s.setValue env n v).1 = s.startNodesFrom n) ∧
    (∀ t e tb, (s.setValueRecalc env n v).2 = .failed t e tb →
      ∃ pre post, s.startNodesFrom n = pre ++ t :: post ∧
        C02.evaluatedTargets env (s.startNodesFrom n) (s.setValue env n v).1 = pre ++ [t]) ∧
    ((v = .none ∧ env.allowNone n.1 = false) →
      C02.expandOp (env, s) (.setValueRecalc n v) = [.setValue n v] ∧
      C02.run (env, s) [.setValue n v] = (env, s)) := by
  have hg : (env.cached n.1 && env.alive n.1) = true := by rw [hc, hn]; rfl
  refine ⟨?_, ?_, ?_, ?_, ?_⟩
  · have := C02.stepR_eq_run (lt := lt) (env, s) (.setValueRecalc n v) h
    simp only [C02.stepR, hg, if_true] at this
    exact this
  · intro hv
    simp only [C02.expandOp, hg, if_true, setValue_accepted s n v hv]
  · intro hok
    by_cases hv : v = .none ∧ env.allowNone n.1 = false
    · rw [setValueRecalc_refused s n v hv] at hok; cases hok
    · rw [setValueRecalc_eq s n v hv] at hok
      exact C02.evaluatedTargets_ok env _ _ hok
  · intro t e tb hf
    by_cases hv : v = .none ∧ env.allowNone n.1 = false
    · rw [setValueRecalc_refused s n v hv] at hf; cases hf
    · rw [setValueRecalc_eq s n v hv] at hf
      exact C02.evaluatedTargets_failed env _ _ t e tb hf
  · intro hv
    refine ⟨?_, ?_⟩
    · simp only [C02.expandOp, hg, if_true, setValue_refused s n v hv]
    · simp only [C02.run, List.foldl_cons, List.foldl_nil, C02.step, hg, if_true, setValue_refused s n v hv]

/-! Non-vacuity, with numbers.  `c0 = 1`, `c1 = c0() * 10`, `c2 = c1() + 1 if c0() < 5 else 0`,
`c3 = c1() + 100`, `c4 = 7`, `c5 = 1 if c0() < 5 else raise ValueError`, `c6 = c0() + 100`.

* `kS`: `c2()`, `c3()`, `c4()` evaluated (11, 110, 7).  The former leaf dependents of `c0()` are `c2()`,
  `c3()` (`c1()` is a dependent with dependents).  `c0 = 2` with the option on: `c1()`, `c2()`, `c3()`
  hold 20, 21, 120 at once; the executions are those three; `c4()` keeps 7 and is not executed.
* `kT`: only `c2()` evaluated.  `c0 = 9` with the option on: `c2()` is recomputed to 0 WITHOUT calling
  `c1()`: the former dependent `c1()`, which is not a leaf, holds nothing – as after lazy recomputation
  of `c2()`.
* `kU`: `c5()`, then `c3()` evaluated; targets in the model's order `c5()`, `c3()`.  `c0 = 9`: the
  recomputation of `c5()` fails; the error comes out of the assignment (`.failed`), `c0()` holds 9 as an
  input, the remaining target `c3()` was not evaluated (it holds nothing, as after the lazy assignment).
  `kV`: `c6()`, then `c5()` evaluated; targets `c6()`, `c5()`: `c6()` is recomputed (109) before `c5()` fails. -/
def kCells : CellId → Option Expr
  | 0 => some (.lit 1)
  | 1 => some (.mul (.call 0 []) (.lit 10))
  | 2 => some (.ite (.lt (.call 0 []) (.lit 5)) (.add (.call 1 []) (.lit 1)) (.lit 0))
  | 3 => some (.add (.call 1 []) (.lit 100))
  | 4 => some (.lit 7)
  | 5 => some (.ite (.lt (.call 0 []) (.lit 5)) (.lit 1) (.raise kValue))
  | 6 => some (.add (.call 0 []) (.lit 100))
  | _ => none

def kAr : CellId → Option Nat := fun c => (kCells c).map (fun _ => 0)

def kEnv : Env :=
  C02.tableEnv kCells kAr [0, 1, 2, 3, 4, 5, 6] (fun _ => true) (fun _ => false) (fun _ => 0) (fun _ => 0)
    (fun _ => none) 50

theorem kEnv_wf : C02.WF kEnv idLt :=
  C02.tableEnv_wf_aux _ _ _ _ _ _ _ _ _ _ _
    (by intro i e h
        match i, h with
        | 0, _ => simp
        | 1, _ => simp
        | 2, _ => simp
        | 3, _ => simp
        | 4, _ => simp
        | 5, _ => simp
        | 6, _ => simp)
    (by intro i e h
        match i, h with
        | 0, h => cases h; exact ⟨rfl, rfl⟩
        | 1, h => cases h; exact ⟨rfl, rfl⟩
        | 2, h => cases h; exact ⟨rfl, rfl⟩
        | 3, h => cases h; exact ⟨rfl, rfl⟩
        | 4, h => cases h; exact ⟨rfl, rfl⟩
        | 5, h => cases h; exact ⟨rfl, rfl⟩
        | 6, h => cases h; exact ⟨rfl, rfl⟩)

def kS : St := (evalTop kEnv (4, []) (evalTop kEnv (3, []) (evalTop kEnv (2, []) {}).2).2).2
def kT : St := (evalTop kEnv (2, []) {}).2
def kU : St := (evalTop kEnv (3, []) (evalTop kEnv (5, []) {}).2).2
def kV : St := (evalTop kEnv (5, []) (evalTop kEnv (6, []) {}).2).2

theorem kS_ci : CI kEnv idLt kS :=
  evalTop_ci idLt_strict kEnv_wf.ranked kEnv_wf.noCatch _ rfl
    (evalTop_ci idLt_strict kEnv_wf.ranked kEnv_wf.noCatch _ rfl
      (evalTop_ci idLt_strict kEnv_wf.ranked kEnv_wf.noCatch _ rfl (CI.empty kEnv idLt)))

example : kS.startNodesFrom (0, []) = [(2, []), (3, [])] ∧
    (kS.setValueRecalc kEnv (0, []) (.int 2)).2 = .ok ∧
    lookup (kS.setValueRecalc kEnv (0, []) (.int 2)).1.data (1, []) = some (.int 20) ∧
    lookup (kS.setValueRecalc kEnv (0, []) (.int 2)).1.data (2, []) = some (.int 21) ∧
    lookup (kS.setValueRecalc kEnv (0, []) (.int 2)).1.data (3, []) = some (.int 120) ∧
    lookup (kS.setValueRecalc kEnv (0, []) (.int 2)).1.data (4, []) = some (.int 7) ∧
    (kS.setValueRecalc kEnv (0, []) (.int 2)).1.inputs = [(0, [])] ∧
    (kS.setValueRecalc kEnv (0, []) (.int 2)).1.log = [(3, []), (1, []), (2, [])] ++ kS.log ∧
    -- the lazy assignment holds none of the three; asked for afterwards it gives the same values
    lookup (kS.setValue kEnv (0, []) (.int 2)).1.data (2, []) = none ∧
    (evalTop kEnv (2, []) (kS.setValue kEnv (0, []) (.int 2)).1).1 = .ok (.int 21) ∧
    (evalTop kEnv (3, []) (kS.setValue kEnv (0, []) (.int 2)).1).1 = .ok (.int 120) := by decide +kernel

-- the theorems apply to `kS` (hypotheses met), e.g.:
example : Good kEnv (inpOf (kS.setValue kEnv (0, []) (.int 2)).1) (kS.setValueRecalc kEnv (0, []) (.int 2)).1 :=
  (recalc_values_are_lazy_values idLt_strict kEnv_wf kS_ci (0, []) (.int 2) rfl rfl).2.2

example : (lookup (kS.setValueRecalc kEnv (0, []) (.int 2)).1.data (3, [])).isSome = true :=
  recalc_recomputes_former_leaves kS_ci (0, []) (.int 2) (by decide +kernel) (3, []) (by decide +kernel)

example : ∃ new, (kS.setValueRecalc kEnv (0, []) (.int 2)).1.log = new ++ kS.log ∧ (0, []) ∉ new ∧
    ∀ m w, m ≠ (0, []) → ¬ Reach kS.ge (.elem (0, [])) (.elem m) → lookup kS.data m = some w →
      lookup (kS.setValueRecalc kEnv (0, []) (.int 2)).1.data m = some w ∧ m ∉ new :=
  recalc_touches_nothing_else idLt_strict kEnv_wf kS_ci (0, []) (.int 2) rfl rfl (fun h => by cases h.1)

example : (evalTop kEnv (3, []) (kS.setValue kEnv (0, []) (.int 2)).1).1 = .ok (.int 120) :=
  (recalc_value_equals_lazy_value idLt_strict kEnv_wf kS_ci (0, []) (.int 2) rfl rfl (3, []) (.int 120) (by decide +kernel)).2
    (by unfold LimitNotCaughtInThisCall; decide +kernel)

example : kT.startNodesFrom (0, []) = [(2, [])] ∧
    (kT.setValueRecalc kEnv (0, []) (.int 9)).2 = .ok ∧
    lookup (kT.setValueRecalc kEnv (0, []) (.int 9)).1.data (2, []) = some (.int 0) ∧
    lookup kT.data (1, []) = some (.int 10) ∧
    lookup (kT.setValueRecalc kEnv (0, []) (.int 9)).1.data (1, []) = none ∧
    lookup (evalTop kEnv (2, []) (kT.setValue kEnv (0, []) (.int 9)).1).2.data (1, []) = none := by decide +kernel

example : kU.startNodesFrom (0, []) = [(5, []), (3, [])] ∧
    (kU.setValueRecalc kEnv (0, []) (.int 9)).2 = .failed (5, []) (.user kValue) [(5, [])] ∧
    lookup (kU.setValueRecalc kEnv (0, []) (.int 9)).1.data (0, []) = some (.int 9) ∧
    (kU.setValueRecalc kEnv (0, []) (.int 9)).1.inputs = [(0, [])] ∧
    lookup (kU.setValueRecalc kEnv (0, []) (.int 9)).1.data (3, []) = none ∧
    lookup (kU.setValueRecalc kEnv (0, []) (.int 9)).1.data (5, []) = none ∧
    kV.startNodesFrom (0, []) = [(6, []), (5, [])] ∧
    (kV.setValueRecalc kEnv (0, []) (.int 9)).2 = .failed (5, []) (.user kValue) [(5, [])] ∧
    lookup (kV.setValueRecalc kEnv (0, []) (.int 9)).1.data (6, []) = some (.int 109) ∧
    lookup (kV.setValueRecalc kEnv (0, []) (.int 9)).1.data (5, []) = none := by decide +kernel

/-! The two-run form on the examples: on `kS` (both targets recomputed), on `kT`, on `kU` (the first target
fails: one evaluation in the lazy run) and on `kV` (the second fails: two evaluations) the recalculating
assignment and the lazy run end in the same state – compared as whole states: values, inputs, graphs, log. -/
theorem kT_ci : CI kEnv idLt kT :=
  evalTop_ci idLt_strict kEnv_wf.ranked kEnv_wf.noCatch _ rfl (CI.empty kEnv idLt)

theorem kU_ci : CI kEnv idLt kU :=
  evalTop_ci idLt_strict kEnv_wf.ranked kEnv_wf.noCatch _ rfl
    (evalTop_ci idLt_strict kEnv_wf.ranked kEnv_wf.noCatch _ rfl (CI.empty kEnv idLt))

theorem kV_ci : CI kEnv idLt kV :=
  evalTop_ci idLt_strict kEnv_wf.ranked kEnv_wf.noCatch _ rfl
    (evalTop_ci idLt_strict kEnv_wf.ranked kEnv_wf.noCatch _ rfl (CI.empty kEnv idLt))

example : (kS.setValueRecalc kEnv (0, []) (.int 2)).1 =
      (C02.run (kEnv, kS) [.setValue (0, []) (.int 2), .eval (2, []), .eval (3, [])]).2 ∧
    (kT.setValueRecalc kEnv (0, []) (.int 9)).1 =
      (C02.run (kEnv, kT) [.setValue (0, []) (.int 9), .eval (2, [])]).2 ∧
    (kU.setValueRecalc kEnv (0, []) (.int 9)).1 =
      (C02.run (kEnv, kU) [.setValue (0, []) (.int 9), .eval (5, [])]).2 ∧
    (kV.setValueRecalc kEnv (0, []) (.int 9)).1 =
      (C02.run (kEnv, kV) [.setValue (0, []) (.int 9), .eval (6, []), .eval (5, [])]).2 ∧
    -- and the lazy assignment alone does NOT end there
    (kS.setValueRecalc kEnv (0, []) (.int 2)).1 ≠ (C02.run (kEnv, kS) [.setValue (0, []) (.int 2)]).2 := by
  decide +kernel

-- the evaluations of the lazy run are the ones `expandOp` names
example : C02.evaluatedTargets kEnv (kS.startNodesFrom (0, [])) (kS.setValue kEnv (0, []) (.int 2)).1 = [(2, []), (3, [])] ∧
    C02.evaluatedTargets kEnv (kU.startNodesFrom (0, [])) (kU.setValue kEnv (0, []) (.int 9)).1 = [(5, [])] ∧
    C02.evaluatedTargets kEnv (kV.startNodesFrom (0, [])) (kV.setValue kEnv (0, []) (.int 9)).1 = [(6, []), (5, [])] := by
  decide +kernel

-- the theorem applies to them (hypotheses met)
example : (kEnv, (kU.setValueRecalc kEnv (0, []) (.int 9)).1) =
    C02.run (kEnv, kU) (C02.expandOp (kEnv, kU) (.setValueRecalc (0, []) (.int 9))) :=
  (recalc_state_is_lazy_run kU_ci (0, []) (.int 9) rfl rfl).1

end MxModel.C06
