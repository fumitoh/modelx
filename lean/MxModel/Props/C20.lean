import MxModel.Proofs.Capture
import MxModel.Kernels.DocQuote
/-!
# C20 – Formula capture is faithful and idempotent; rename and doc edits are inert

The property theorems and their non-vacuity examples (lemmas: `Proofs/Capture.lean`; model:
`Kernels/Capture.lean`).

`render f` is the text of a definition of the grammar (`FuncDef`: any indentation, leading
comment lines, decorators incl. multi-line ones, gap lines, `def` spacing, an opaque
signature over one or several lines, a one-line or block body with or without a docstring
literal in any quote style and over one or several lines, opaque body lines – nested
defs/classes with their own decorators live there –, trailing lines).  The functions
`dedent`, `removeDecorator`, `replaceFuncname`, `replaceDocstring`, `extractLambda` are
modelx's text rewriting (`modelx/core/formula.py`); they take the token positions from a
parser.  The theorems hold for EVERY parser `parse` that reports, for the (at most three)
texts it is actually asked about, the layout `layoutOf` says the rendering has – that
CPython/asttokens is such a parser is what the correspondence check compares.

Documentation texts are arbitrary character lists: `quote_docstring_faithful` (every string
reads back) and `doc_inert` need no hypothesis on the characters; `lexTriple`/`readBack` is the
model of CPython's reading of a triple-quoted literal.

What is NOT a theorem: that the captured text, compiled by CPython, behaves like the original
function (sampled by the check's oracle; known finding `C20-dedent-in-string`).  The lines of the
grammar hold no form feed / U+2028-like character (at which `str.splitlines` would cut: finding
`C20-splitlines-in-body`, repaired by 067a1c5).
-/
namespace MxModel.C20
open MxModel.Capture

/-- `parse` reports for the text of `f` the layout of `f` -/
def Parses (parse : Text → Layout) (f : FuncDef) : Prop := parse (render f) = layoutOf f

/-! ## Capture -/

/-- WHAT the specification `captureS` says, field by field (true by definition of `captureS` – this
theorem documents the specification, it proves nothing about modelx; the content is
`capture_text_agrees`: modelx's text algorithm computes this): the same definition – signature,
parameter names, body, comments – with the indentation gone, whitespace-only lines emptied, no
decorators, under the cells' name. -/
theorem capture_spec (f : FuncDef) (n : Line) :
    (captureS f (some n)).pre = [] ∧ (captureS f (some n)).decos = []
      ∧ (captureS f (some n)).name = n
      ∧ (captureS f (some n)).lead = f.lead.map normBlank
      ∧ (captureS f (some n)).gap = f.gap.map normBlank
      ∧ (captureS f (some n)).defkw = f.defkw ∧ (captureS f (some n)).sig = f.sig
      ∧ (captureS f (some n)).body = f.body.norm
      ∧ (captureS f (some n)).trail = f.trail.map normBlank
      ∧ (captureS f (some n)).pnames = f.pnames :=
  ⟨rfl, rfl, rfl, rfl, rfl, rfl, rfl, rfl, rfl, rfl⟩

/-- modelx's text algorithm (`Formula._init_from_funcdef`: `dedent`, `remove_decorator`,
`replace_funcname`) applied to the text of ANY well-formed definition of the grammar yields
the text of the specified structure. -/
theorem capture_text_agrees (parse : Text → Layout) (f : FuncDef) (n : Option Line)
    (hwf : f.wf = true) (h1 : Parses parse (dedentS f))
    (h2 : Parses parse (undecorate (dedentS f))) :
    captureText parse (render f) n = render (captureS f n) :=
  captureText_render parse f n hwf h1 h2

/-- `dedent` alone is exact on every well-formed definition: precisely the indentation of
the `def` line is removed from every non-blank line (this is the step that also reaches into
string literals – see the negative example at the end). -/
theorem dedent_exact (f : FuncDef) (hwf : f.wf = true) :
    dedent (render f) = render (dedentS f) :=
  dedent_render f hwf

/-- Capturing a captured definition under the same name changes nothing (on the specification:
`captureS` is idempotent – `Body.norm`, `normBlank` are; the statement about modelx's text
algorithm is `capture_idempotent_text`). -/
theorem capture_idempotent (f : FuncDef) (n : Line) :
    captureS (captureS f (some n)) (some n) = captureS f (some n) := by
  rw [captureS_captureS]; rfl

/-- `formula.source` is self-contained: creating a cells from it under the same name
reproduces the same text. -/
theorem capture_idempotent_text (parse : Text → Layout) (f : FuncDef) (n : Line)
    (hwf : f.wf = true) (h1 : Parses parse (dedentS f))
    (h2 : Parses parse (undecorate (dedentS f))) (h3 : Parses parse (captureS f (some n))) :
    captureText parse (captureText parse (render f) (some n)) (some n)
      = captureText parse (render f) (some n) := by
  rw [capture_text_agrees parse f (some n) hwf h1 h2,
    captureText_captureS parse f (some n) (some n) hwf h3, capture_idempotent]

/-! ## Rename -/

/-- Renaming a cells (`on_rename`: `Formula(self.formula, name=new)`) changes the name field
and nothing else (on the specification; for modelx's text algorithm: `rename_inert_text`). -/
theorem rename_inert (f : FuncDef) (n m : Line) :
    captureS (captureS f (some n)) (some m) = { captureS f (some n) with name := m } := by
  rw [captureS_captureS]; rfl

/-- the same for modelx's text algorithm: `Formula(formula.source, name=new)` yields the text of the same
definition under the new name; the parser is asked about `formula.source` only. -/
theorem rename_inert_text (parse : Text → Layout) (f : FuncDef) (n m : Line)
    (hwf : f.wf = true) (h3 : Parses parse (captureS f (some n))) :
    captureText parse (render (captureS f (some n))) (some m)
      = render { captureS f (some n) with name := m } := by
  rw [captureText_captureS parse f (some n) (some m) hwf h3, rename_inert]

/-- …so renaming back restores the original formula exactly (specification). -/
theorem rename_round_trip (f : FuncDef) (n m : Line) :
    captureS (captureS (captureS f (some n)) (some m)) (some n) = captureS f (some n) := by
  rw [captureS_captureS, captureS_captureS]; rfl

/-- **Rename there and back, on the text**: modelx's text algorithm applied to `formula.source`
under another name and then under the old one gives `formula.source` back, character by
character – for every well-formed definition whose two texts the parser reads as the grammar says. -/
theorem rename_round_trip_text (parse : Text → Layout) (f : FuncDef) (n m : Line)
    (hwf : f.wf = true) (h3 : Parses parse (captureS f (some n)))
    (h4 : Parses parse { captureS f (some n) with name := m }) :
    captureText parse (captureText parse (render (captureS f (some n))) (some m)) (some n)
      = render (captureS f (some n)) := by
  rw [rename_inert_text parse f n m hwf h3]
  have e : { captureS f (some n) with name := m } = captureS (captureS f (some n)) (some m) :=
    (rename_inert f n m).symm
  rw [e] at h4 ⊢
  rw [captureText_captureS parse _ (some m) (some n) (wf_captureS f (some n) hwf) h4, rename_round_trip]

/-- **`formula.source` is a self-contained, dedented definition**: `textwrap.dedent` does nothing
to it any more (so a second capture starts from the same text), for every well-formed definition. -/
theorem capture_source_is_dedented (f : FuncDef) (n : Option Line) (hwf : f.wf = true) :
    dedent (render (captureS f n)) = render (captureS f n) := by
  rw [dedent_exact _ (wf_captureS f n hwf), dedentS_captureS]

/-- Renaming a cells that has the same-named cells in sub spaces (`rename_cells` loop):
every entry that is DEFINED in its space – the renamed cells itself and every cells that
overrides it further down – keeps its own formula, only under the new name; flags and the
stored lambda documentation are untouched. -/
theorem rename_chain_keeps_own (n : Line) (es : List Entry) (i : Nat) (e : Entry)
    (hi : es[i]? = some e) (hd : e.derived = false) :
    (renameChain n none es)[i]? = some { e with formula := renameFormula n e.formula } :=
  renameChain_defined n es none i e hi hd

/-- …and a derived entry shows the (renamed) formula of the entry it derives from. -/
theorem rename_chain_derived_follow (n : Line) (es : List Entry) (i : Nat) (e0 e : Entry)
    (f : FuncDef) (h0 : es[i]? = some e0) (hi : es[i + 1]? = some e) (hd : e.derived = true)
    (hf : e.formula = .fn f) :
    ((renameChain n none es)[i + 1]?).map (·.formula)
      = ((renameChain n none es)[i]?).map (·.formula) :=
  renameChain_derived n es none i e0 e f h0 hi hd hf

/-- the chain is as derivation leaves it: a derived cells with a `def` formula shows the formula of
the cells before it (`prev`), so the first cells of a chain is a defined one or a lambda -/
def ChainDerived : Option Formula → List Entry → Prop
  | _, [] => True
  | prev, e :: es =>
    (e.derived = true → (∃ f, e.formula = .fn f) → prev = some e.formula) ∧ ChainDerived (some e.formula) es

theorem renameChain_pointwise (n : Line) : ∀ (es : List Entry) (prev : Option Formula),
    ChainDerived prev es →
    renameChain n (prev.map (renameFormula n)) es =
      es.map (fun e => { e with formula := renameFormula n e.formula }) := by
  intro es
  induction es with
  | nil => intro _ _; rfl
  | cons e es ih =>
    intro prev h
    obtain ⟨h1, h2⟩ := h
    have ih' := ih (some e.formula) h2
    simp only [Option.map_some] at ih'
    simp only [renameChain, List.map_cons]
    cases hform : e.formula with
    | lam s p =>
      rw [hform] at ih'
      simp only [renameFormula] at ih' ⊢
      rw [ih']
    | fn f =>
      rw [hform] at ih'
      simp only [renameFormula] at ih' ⊢
      by_cases hd : e.derived = true
      · have hp := h1 hd ⟨f, hform⟩
        rw [hp, hform]
        simp only [Option.map_some, renameFormula, hd, if_true]
        rw [ih']
      · have hd' : e.derived = false := by simpa using hd
        simp only [hd', Bool.false_eq_true, if_false]
        rw [ih']

/-- **Renaming commutes with derivation.**  `rename_cells` walks down the chain of same-named cells
handing each derived cells the (renamed) formula of the cells before it; on a chain that is as
derivation leaves it, the result is the pointwise rename: EVERY cells of the chain – defined,
overriding, derived, lambda – shows exactly the formula it showed before, under the new name (a
lambda: unchanged), and nothing else of the entry changes. -/
theorem rename_chain_is_pointwise_rename (n : Line) (es : List Entry) (h : ChainDerived none es) :
    renameChain n none es = es.map (fun e => { e with formula := renameFormula n e.formula }) :=
  renameChain_pointwise n es none h

/-! ## Documentation -/

/-- the two Lean models of `quote_docstring` (`DocQuote.quoteDocstring`, used by C04 with a model of
CPython's tokenizer, and `Capture.quoteDocstring`, used here) are one function: both are the loop of
`quote_docstring` over the escape table read from the code -/
theorem quote_docstring_one_model (d : List Char) :
    MxModel.DocQuote.quoteDocstring d = quoteDocstring d := by
  have hb : ∀ (d : List Char) (q : Nat), MxModel.DocQuote.quoteBody q d = quoteChars q d := by
    intro d
    induction d with
    | nil => intro q; rfl
    | cons c cs ih =>
      intro q
      have he : docEscapes.lookup c = MxModel.DocQuote.escapeOf c := rfl
      simp only [MxModel.DocQuote.quoteBody, quoteChars, ih, escapeChar, he]
      cases MxModel.DocQuote.escapeOf c <;> rfl
  unfold MxModel.DocQuote.quoteDocstring quoteDocstring
  rw [hb]; rfl

/-- **`quote_docstring` is faithful, for every string**: the triple-quoted literal it builds
(`"""`, the text with backslashes, NUL, line boundaries other than the line feed, every third
quote of a run and a final quote escaped, `"""`) is read back by CPython's lexer as exactly
the text – no hypothesis on the text.  (Induction with the run-of-quotes invariant:
`lex_quoteChars`.) -/
theorem quote_docstring_faithful (d : List Char) : readBack (quoteDocstring d) = some d :=
  readBack_quoteDocstring d

/-- `replace_docstring` on the text of a captured definition is `replaceDocS` on the
structure, for every body shape (block or one-line, with or without a docstring, the old
docstring of any shape: one token or several, on one line or several), every new text and
`insert_indents`. -/
theorem replace_docstring_agrees (parse : Text → Layout) (f : FuncDef) (doc : List Char)
    (ii : Bool) (hp : f.pre = []) (h0 : Parses parse f) :
    replaceDocstring (parse (render f)) (render f) doc ii = render (replaceDocS f doc ii) := by
  rw [h0]; exact replaceDocstring_render f hp doc ii

/-- `set_doc` as a whole (replace, then re-capture under the cells' name). -/
theorem set_doc_text_agrees (parse : Text → Layout) (f : FuncDef) (doc : List Char) (ii : Bool)
    (hwf : f.wf = true) (hp : f.pre = []) (h0 : Parses parse f)
    (h1 : Parses parse (dedentS (replaceDocS f doc ii)))
    (h2 : Parses parse (undecorate (dedentS (replaceDocS f doc ii)))) :
    setDocText parse (render f) doc ii f.name = render (setDocS f doc ii) :=
  setDocText_render parse f doc ii hwf hp h0 h1 h2

/-- Replacing the documentation of a captured definition changes nothing but the docstring
statement: name, signature, parameter names, comments and every line of the body other than
the literal (and the `;` that ends its statement in a one-line body) are the same – for
every body shape, every text, with and without `insert_indents`. -/
theorem doc_changes_only_docstring (f : FuncDef) (n : Line) (doc : List Char) (ii : Bool)
    (hwf : f.wf = true) :
    let g := captureS f (some n)
    let g' := setDocS g doc ii
    g'.pre = g.pre ∧ g'.lead = g.lead ∧ g'.decos = g.decos ∧ g'.gap = g.gap
      ∧ g'.defkw = g.defkw ∧ g'.name = g.name ∧ g'.sig = g.sig ∧ g'.trail = g.trail
      ∧ g'.pnames = g.pnames ∧ g'.body.undoc = g.body.undoc := by
  intro g g'
  refine ⟨rfl, ?_, rfl, ?_, rfl, rfl, rfl, ?_, rfl, undoc_setDocS f n doc ii hwf⟩ <;>
    exact map_normBlank_idem _

/-- the literal `doc = d` writes (without `insert_indents`): the quoted text, with the
whitespace-only lines inside it emptied by the `dedent` of the re-capture -/
theorem doc_written (f : FuncDef) (n : Line) (doc : List Char) :
    (setDocS (captureS f (some n)) doc false).body.docLit = some (mkDoc (docSpan doc).norm) := by
  simp only [setDocS, captureS, withName, undecorate, dedentS, replaceDocS]
  cases f.body with
  | inline doc0 stmts => cases doc0 <;> simp [Body.norm, setDocBody, Body.docLit, DocLit.norm, mkDoc]
  | block sm cmts ind doc0 after rest =>
    generalize docSpan doc = d
    obtain ⟨first, more⟩ := d
    cases doc0 <;> cases more <;>
      simp [Body.norm, setDocBody, Body.docLit, DocLit.norm, mkDoc, blockDoc, Span.norm]

/-- **`doc = d` is inert**: for EVERY well-formed definition of the grammar (block or one-line
body, with or without a docstring of any shape) and EVERY text `d` without a whitespace-only
line strictly inside it – any characters: quotes, runs of quotes, a final quote, backslashes,
NUL, carriage returns and the other line boundaries –, after `set_doc` the docstring reads
back as exactly `d` and nothing of the body but the docstring statement has changed.
(The remaining hypothesis is the known finding `C20-dedent-in-string`: the rebuilt source is
dedented again, which empties whitespace-only lines also inside the literal.) -/
theorem doc_inert (f : FuncDef) (n : Line) (doc : List Char) (hwf : f.wf = true)
    (hclean : NoWsOnlyMiddle doc = true) :
    (setDocS (captureS f (some n)) doc false).body.undoc = (captureS f (some n)).body.undoc
      ∧ ((setDocS (captureS f (some n)) doc false).body.docLit.bind DocLit.value) = some doc := by
  refine ⟨undoc_setDocS f n doc false hwf, ?_⟩
  rw [doc_written, docSpan_norm doc hclean]
  exact value_mkDoc_docSpan doc

/-- the same for the text algorithm: what `set_doc` makes of `formula.source` is the text of a
definition that differs from the old one in the docstring statement only, and whose docstring
CPython reads as `d` -/
theorem doc_inert_text (parse : Text → Layout) (f : FuncDef) (n : Line) (doc : List Char)
    (hwf : f.wf = true) (hclean : NoWsOnlyMiddle doc = true)
    (h0 : Parses parse (captureS f (some n)))
    (h1 : Parses parse (dedentS (replaceDocS (captureS f (some n)) doc false)))
    (h2 : Parses parse (undecorate (dedentS (replaceDocS (captureS f (some n)) doc false)))) :
    ∃ g', setDocText parse (render (captureS f (some n))) doc false n = render g'
      ∧ g'.name = n ∧ g'.defkw = f.defkw ∧ g'.sig = f.sig ∧ g'.pnames = f.pnames
      ∧ g'.body.undoc = (captureS f (some n)).body.undoc
      ∧ (g'.body.docLit.bind DocLit.value) = some doc := by
  refine ⟨setDocS (captureS f (some n)) doc false, ?_, rfl, rfl, rfl, rfl, ?_⟩
  · exact set_doc_text_agrees parse (captureS f (some n)) doc false (wf_captureS f _ hwf) rfl h0 h1 h2
  · exact doc_inert f n doc hwf hclean

def s (x : String) : Line := x.toList

/-- `decide_text d₁ … dₙ` closes what `decide +kernel` closes, for a statement that holds texts written as string
literals (`s "…"`), also inside the definitions `dᵢ`: `s` and the `dᵢ` are unfolded, so that every literal stands in
the goal as `"…".toList`, and each is rewritten to the list of its characters before the kernel evaluates.  The
kernel decodes a literal of `n` characters in about `n²` steps; `String.toList_ofList` gives the characters at
once (`rw` sees a literal as `String.ofList _`, the index of `simp` does not).  A `dᵢ` left out costs time, not
the proof; one named costs the rewriting of all its literals, so `demo` is named where the evaluation reads its lines
and not where it needs next to nothing of them (`demo.wf`, `layoutOf`, a number of lines). -/
macro "decide_text" ds:(ppSpace colGt ident)* : tactic =>
  `(tactic| (delta $ds* s; (repeat rw [String.toList_ofList]); decide +kernel))

/-- `def foo(x):` / `    return x` -/
def plainDef : FuncDef :=
  { defkw := s "def ", name := s "foo", sig := s "(x):",
    body := .block [] [] (s "    ") none (s "return x") [], pnames := [s "x"] }

/-- The statement without the hypothesis still fails on the real code, and the model shows it:
a whitespace-only line inside the text is emptied (`doc = 'a\n   \nb'` reads back `'a\n\nb'`;
known finding `C20-dedent-in-string`). -/
theorem doc_full_statement_fails :
    ¬ ∀ (f : FuncDef) (n : Line) (doc : List Char), f.wf = true →
      ((setDocS (captureS f (some n)) doc false).body.docLit.bind DocLit.value) = some doc := by
  intro h
  have := h plainDef (s "foo") (s "a\n   \nb") (by decide_text plainDef)
  revert this
  decide_text plainDef

example : ((setDocS (captureS plainDef (s "foo")) (s "a\n   \nb") false).body.docLit.bind DocLit.value)
    = some (s "a\n\nb") := by decide_text plainDef

/-! The witness texts and layouts of the repairs 2b72506 (`quote_docstring`) and 35c2f08 (`replace_docstring`). -/

/-- what `quote_docstring` writes for the witnesses of the repaired finding C20-doc-unescaped -/
theorem quote_docstring_regression :
    quoteDocstring (s "ends with \"") = s "\"\"\"ends with \\\"\"\"\""
      ∧ quoteDocstring (s "has \"\"\" inside") = s "\"\"\"has \"\"\\\" inside\"\"\""
      ∧ quoteDocstring (s "back\\nslash") = s "\"\"\"back\\\\nslash\"\"\""
      ∧ quoteDocstring (s "cr\rhere") = s "\"\"\"cr\\rhere\"\"\""
      ∧ quoteDocstring ['n', 'u', 'l', Char.ofNat 0, Char.ofNat 0x2028] = s "\"\"\"nul\\x00\\u2028\"\"\""
      ∧ quoteDocstring (s "\"\"\"\"\"") = s "\"\"\"\"\"\\\"\"\\\"\"\"\"" := by
  decide_text

/-- …and they read back: instances of `doc_inert` -/
theorem doc_regression_texts :
    ∀ doc ∈ [s "ends with \"", s "has \"\"\" inside", s "back\\nslash", s "trailing\\",
              s "cr\rhere", s "\"\"\"", s "a\n\"", ['n', 'u', 'l', Char.ofNat 0]],
      ((setDocS (captureS plainDef (s "foo")) doc false).body.docLit.bind DocLit.value) = some doc := by
  intro doc hd
  have hclean : NoWsOnlyMiddle doc = true := by revert doc; decide_text
  exact (doc_inert plainDef (s "foo") doc (by decide_text plainDef) hclean).2

/-- `def f(x): return x` -/
def oneLineDef : FuncDef :=
  { defkw := s "def ", name := s "f", sig := s "(x): ", body := .inline none (s "return x") }

/-- a one-line body without a docstring: a `; ` separates the new literal from the statement
(without it `def f(x): """doc"""return x`, a SyntaxError: repaired finding C20-doc-oneline, 35c2f08) -/
theorem doc_one_line_body :
    render (replaceDocS oneLineDef (s "doc") false) = [s "def f(x): \"\"\"doc\"\"\"; return x"]
      ∧ (setDocS oneLineDef (s "doc") false).body.undoc = oneLineDef.body.undoc
      ∧ replaceDocstring (layoutOf oneLineDef) (render oneLineDef) (s "doc") false
          = [s "def f(x): \"\"\"doc\"\"\"; return x"] := by
  decide_text oneLineDef

/-- `def f(x):` / `    'a' 'b'  # c` / `    return x` – a docstring of two tokens (the grammar's
literal is whatever stands between the first and the last character of the statement) -/
def concatDocDef : FuncDef :=
  { defkw := s "def ", name := s "f", sig := s "(x):",
    body := .block [] [] (s "    ") (some { opn := s "'", txt := ⟨s "a' 'b", none⟩, cls := s "'" })
      (s "  # c") [s "    return x"] }

/-- `def f(x):` / `    ('a'` / `  'b')` / `    return x` -/
def parenDocDef : FuncDef :=
  { defkw := s "def ", name := s "f", sig := s "(x):",
    body := .block [] [] (s "    ") (some { opn := s "('", txt := ⟨s "a'", some ([], s "  'b")⟩, cls := s "')" })
      [] [s "    return x"] }

/-- a docstring written as several tokens is replaced as a whole (replacing its first token only, `'a' 'b'`
keeps its tail and `('a')` loses its parenthesis: repaired finding C20-doc-compound-literal, 35c2f08) -/
theorem doc_compound_literal :
    replaceDocstring (layoutOf concatDocDef) (render concatDocDef) (s "doc") false
        = [s "def f(x):", s "    \"\"\"doc\"\"\"  # c", s "    return x"]
      ∧ replaceDocstring (layoutOf parenDocDef) (render parenDocDef) (s "doc") false
        = [s "def f(x):", s "    \"\"\"doc\"\"\"", s "    return x"] := by
  decide_text concatDocDef parenDocDef

/-! ## Lambda expressions -/

/-- A lambda embedded in a longer, arbitrarily indented statement (from text:
`extract_lambda_from_source(dedent(src))`): the source is the lambda expression alone,
dedented. -/
theorem lambda_capture_spec (parse : Text → LamPos) (st : LamStmt) (hwf : st.wf = true)
    (h : parse st.dedentS.render = st.dedentS.layout) :
    captureLambdaText parse st.render = st.lam.norm.lines := by
  unfold captureLambdaText
  rw [st.dedent_render hwf, h, extractLambda_render]
  simp only [LamStmt.rawLam, LamStmt.dedentS, Span.lines, indAll_nil_pre, List.nil_append]

/-- A lambda object (`extract_lambda_from_func`): the lambda expression as it stands in the
file – continuation lines keep their indentation. -/
theorem lambda_object_capture_spec (parse : Text → LamPos) (st : LamStmt)
    (h : parse st.render = st.layout) :
    captureLambdaObj parse st.render = st.rawLam := by
  unfold captureLambdaObj
  rw [h, extractLambda_render]

/-- the lines of a lambda expression standing alone are the statement that consists of it -/
theorem lambda_alone_render (lam : Span) : ({ lam := lam } : LamStmt).render = lam.lines := by
  unfold LamStmt.render Span.lines
  cases lam.more with
  | none => simp
  | some p => obtain ⟨mid, last⟩ := p; simp

/-- the captured lambda text, given back as a source, is reproduced (for every lambda expression
whose whitespace-only lines are already empty – which is what capture leaves – and whose text the
parser reads as the grammar says) -/
theorem lambda_capture_idempotent (parse : Text → LamPos) (lam : Span)
    (hn : lam.norm = lam) (hwf : ({ lam := lam } : LamStmt).wf = true)
    (h : parse ({ lam := lam } : LamStmt).dedentS.render = ({ lam := lam } : LamStmt).dedentS.layout) :
    captureLambdaText parse lam.lines = lam.lines := by
  conv => lhs; rw [← lambda_alone_render lam]
  rw [lambda_capture_spec parse _ hwf h, hn]

/-! ## Non-vacuity: concrete layouts -/

/-- an indented, decorated definition with comments everywhere, a multi-line docstring with
a whitespace-only line, a decorated nested def and a last-line comment -/
def demo : FuncDef :=
  { pre := s "    ",
    lead := [s "# lead", s "  "],
    decos := [s "@deco", s "@deco2(1,", s "   2)  # c"],
    gap := [s ""],
    defkw := s "def  ", name := s "foo", sig := s "(x, y: int = 2) -> int:  # sig",
    body := .block [] [s "    # before"] (s "    ")
      (some { opn := s "'''", txt := ⟨s "Doc", some ([s "   ", s "      more"], s "    ")⟩,
              cls := s "'''" })
      (s "  # after")
      [s "    @inner_deco", s "    def g(v):", s "        return v + 1", s "",
       s "    return g(x) + y  # done"],
    trail := [s "    # trailing", s "# at def level"],
    pnames := [s "x", s "y"] }

/-- an honest parser for the three texts involved (a table) -/
def demoParse (t : Text) : Layout :=
  if t = render (dedentS demo) then layoutOf (dedentS demo)
  else if t = render (undecorate (dedentS demo)) then layoutOf (undecorate (dedentS demo))
  else layoutOf (captureS demo (some (s "bar")))

private theorem demo_wf : demo.wf = true := by decide +kernel

example : demo.wf = true := demo_wf

/-- the first entry of the table by its definition; the second because the decorated text is longer -/
private theorem demoParse_parses :
    Parses demoParse (dedentS demo) ∧ Parses demoParse (undecorate (dedentS demo)) :=
  ⟨if_pos rfl, (if_neg (render_undecorate_ne _ (by decide))).trans (if_pos rfl)⟩

/-- `formula.source` of the demo under the name `bar` -/
private theorem demo_source : render (captureS demo (some (s "bar"))) =
    [s "# lead", s "",
     s "",
     s "def  bar(x, y: int = 2) -> int:  # sig",
     s "    # before",
     s "    '''Doc", s "", s "      more", s "    '''  # after",
     s "    @inner_deco", s "    def g(v):", s "        return v + 1", s "",
     s "    return g(x) + y  # done",
     s "    # trailing", s "# at def level"] := by
  decide_text demo

example : captureText demoParse (render demo) (some (s "bar")) =
    [s "# lead", s "",
     s "",
     s "def  bar(x, y: int = 2) -> int:  # sig",
     s "    # before",
     s "    '''Doc", s "", s "      more", s "    '''  # after",
     s "    @inner_deco", s "    def g(v):", s "        return v + 1", s "",
     s "    return g(x) + y  # done",
     s "    # trailing", s "# at def level"] :=
  (capture_text_agrees demoParse demo _ demo_wf demoParse_parses.1 demoParse_parses.2).trans demo_source

example : captureText demoParse (render demo) (some (s "bar")) = render (captureS demo (some (s "bar"))) :=
  capture_text_agrees demoParse demo _ demo_wf demoParse_parses.1 demoParse_parses.2

/-- `set_doc` with `insert_indents` on the demo layout; the text has a whitespace-only line, a
backslash, a run of four quotes and a final quote -/
def demoDoc : List Char := s "new\n  \ntext \\ \"\"\"\" end\""

def demoDocParse (t : Text) : Layout :=
  if t = render (captureS demo (some (s "bar"))) then layoutOf (captureS demo (some (s "bar")))
  else layoutOf (setDocS (captureS demo (some (s "bar"))) demoDoc true)

/-- the text with the new docstring has a line less -/
private theorem demoDocParse_parses :
    Parses demoDocParse (dedentS (replaceDocS (captureS demo (some (s "bar"))) demoDoc true))
      ∧ Parses demoDocParse (undecorate (dedentS (replaceDocS (captureS demo (some (s "bar"))) demoDoc true))) := by
  have hlen : (render (setDocS (captureS demo (some (s "bar"))) demoDoc true)).length
      ≠ (render (captureS demo (some (s "bar")))).length := by decide_text demoDoc
  exact parses_setDoc rfl demoDoc true (if_neg fun e => hlen (congrArg List.length e))

example : setDocText demoDocParse (render (captureS demo (some (s "bar")))) demoDoc true (s "bar") =
    [s "# lead", s "",
     s "",
     s "def  bar(x, y: int = 2) -> int:  # sig",
     s "    # before",
     s "    \"\"\"new", s "", s "    text \\\\ \"\"\\\"\" end\\\"\"\"\"  # after",
     s "    @inner_deco", s "    def g(v):", s "        return v + 1", s "",
     s "    return g(x) + y  # done",
     s "    # trailing", s "# at def level"] := by
  refine (set_doc_text_agrees demoDocParse _ demoDoc true (wf_captureS demo _ demo_wf) rfl (if_pos rfl)
    demoDocParse_parses.1 demoDocParse_parses.2).trans ?_
  decide_text demo demoDoc

example : setDocText demoDocParse (render (captureS demo (some (s "bar")))) demoDoc true (s "bar")
    = render (setDocS (captureS demo (some (s "bar"))) demoDoc true) :=
  set_doc_text_agrees demoDocParse _ demoDoc true (wf_captureS demo _ demo_wf) rfl (if_pos rfl)
    demoDocParse_parses.1 demoDocParse_parses.2

example : replaceDocstring (demoDocParse (render (captureS demo (some (s "bar")))))
      (render (captureS demo (some (s "bar")))) demoDoc true
    = render (replaceDocS (captureS demo (some (s "bar"))) demoDoc true) :=
  replace_docstring_agrees demoDocParse _ demoDoc true rfl (if_pos rfl)

example : quoteDocstring demoDoc = s "\"\"\"new\n  \ntext \\\\ \"\"\\\"\" end\\\"\"\"\""
    ∧ readBack (quoteDocstring demoDoc) = some demoDoc :=
  ⟨by decide_text demoDoc, quote_docstring_faithful _⟩

example : (setDocS (captureS demo (some (s "bar"))) demoDoc true).body.undoc
    = (captureS demo (some (s "bar"))).body.undoc :=
  have ⟨_, _, _, _, _, _, _, _, _, h⟩ := doc_changes_only_docstring demo (s "bar") demoDoc true demo_wf
  h

example : (setDocS (captureS demo (some (s "bar"))) (s "x") false).body.docLit
    = some (mkDoc ⟨s "x", none⟩) := by
  rw [doc_written]; decide_text

/-- rename: only the token after `def` changes -/
example : captureText (fun _ => layoutOf (captureS demo (some (s "bar"))))
    (render (captureS demo (some (s "bar")))) (some (s "renamed")) =
    [s "# lead", s "", s "",
     s "def  renamed(x, y: int = 2) -> int:  # sig",
     s "    # before",
     s "    '''Doc", s "", s "      more", s "    '''  # after",
     s "    @inner_deco", s "    def g(v):", s "        return v + 1", s "",
     s "    return g(x) + y  # done",
     s "    # trailing", s "# at def level"] := by
  rw [demo_source]
  decide_text

/-- re-creating from the captured text reproduces it -/
example : captureText (fun _ => layoutOf (captureS demo (some (s "bar"))))
    (render (captureS demo (some (s "bar")))) (some (s "bar")) = render (captureS demo (some (s "bar"))) :=
  rename_inert_text _ demo (s "bar") (s "bar") demo_wf rfl

/-- a multi-line documentation text full of characters that need escaping reads back; the
body is untouched -/
def demoDoc2 : List Char := s "Summary \"quoted\".\n\n  details: \\n is not a newline\r\n\"\"\""

private theorem demoDoc2_clean : NoWsOnlyMiddle demoDoc2 = true := by
  decide_text demoDoc2

example : NoWsOnlyMiddle demoDoc2 = true := demoDoc2_clean

example : ((setDocS (captureS demo (some (s "bar"))) demoDoc2 false).body.docLit.bind DocLit.value)
    = some demoDoc2 :=
  (doc_inert demo (s "bar") _ demo_wf demoDoc2_clean).2

def demoDoc2Parse (t : Text) : Layout :=
  if t = render (captureS demo (some (s "bar"))) then layoutOf (captureS demo (some (s "bar")))
  else layoutOf (setDocS (captureS demo (some (s "bar"))) demoDoc2 false)

example : ∃ g', setDocText demoDoc2Parse
      (render (captureS demo (some (s "bar")))) demoDoc2 false (s "bar") = render g'
      ∧ (g'.body.docLit.bind DocLit.value) = some demoDoc2 := by
  have hne : render (setDocS (captureS demo (some (s "bar"))) demoDoc2 false) ≠ render (captureS demo (some (s "bar"))) := by
    rw [demo_source]; decide_text demo demoDoc2
  have h := parses_setDoc (parse := demoDoc2Parse) (g := captureS demo (some (s "bar"))) rfl demoDoc2 false
    (if_neg hne)
  obtain ⟨g', h1, _, _, _, _, _, h7⟩ := doc_inert_text demoDoc2Parse demo (s "bar") demoDoc2
    demo_wf demoDoc2_clean (if_pos rfl) h.1 h.2
  exact ⟨g', h1, h7⟩

/-- `    foo(1, lambda a: (a,` / `       2), 3)  # c` -/
def demoLam : LamStmt :=
  { pre := s "    ", lead := [s "# c"], pfx := s "foo(1, ", lam := ⟨s "lambda a: (a,", some ([s "  "], s "   2)")⟩,
    sfx := s ", 3)  # c" }

example : demoLam.wf = true := by decide_text demoLam
example : captureLambdaText (fun _ => demoLam.dedentS.layout) demoLam.render
    = [s "lambda a: (a,", s "", s "   2)"] := by decide_text demoLam
example : captureLambdaObj (fun _ => demoLam.layout) demoLam.render
    = [s "lambda a: (a,", s "  ", s "       2)"] := by decide_text demoLam

/-- non-vacuity of `lambda_capture_idempotent`: a two-line lambda whose middle line is empty -/
def lam1 : Span := ⟨s "lambda a: (a,", some ([s ""], s "   2)")⟩
example : captureLambdaText (fun _ => ({ lam := lam1 } : LamStmt).dedentS.layout) lam1.lines = lam1.lines :=
  lambda_capture_idempotent _ lam1 (by decide_text lam1) (by decide_text lam1) rfl
example : lam1.lines = [s "lambda a: (a,", s "", s "   2)"] := by decide_text lam1

/-- Base.foo, Sub overrides foo, SubSub derives from Sub; `Base.foo.rename('bar')` -/
def demoChain : List Entry :=
  [ { derived := false, formula := .fn plainDef },
    { derived := false, formula := .fn { plainDef with sig := s "(x, k=3):" } },
    { derived := true, formula := .fn { plainDef with sig := s "(x, k=3):" } } ]

example : (renameChain (s "bar") none demoChain).map (fun e => match e.formula with
      | .fn f => render f | .lam l _ => l) =
    [[s "def bar(x):", s "    return x"], [s "def bar(x, k=3):", s "    return x"],
     [s "def bar(x, k=3):", s "    return x"]] := by decide_text demoChain plainDef

theorem demoChain_derived : ChainDerived none demoChain := by
  simp [ChainDerived, demoChain]
example : renameChain (s "bar") none demoChain =
    demoChain.map (fun e => { e with formula := renameFormula (s "bar") e.formula }) :=
  rename_chain_is_pointwise_rename _ _ demoChain_derived
/-- without the hypothesis the statement is false: a chain whose first cells claims to be derived
keeps its old name -/
example : renameChain (s "bar") none [{ derived := true, formula := .fn plainDef }] ≠
    [{ derived := true, formula := renameFormula (s "bar") (.fn plainDef) }] := by decide_text plainDef

/-- the hypotheses of `rename_round_trip_text` are satisfiable, and the text comes back -/
example : captureText (fun t => if t = render (captureS demo (some (s "bar"))) then
        layoutOf (captureS demo (some (s "bar"))) else layoutOf { captureS demo (some (s "bar")) with name := s "baz" })
      (captureText (fun t => if t = render (captureS demo (some (s "bar"))) then
          layoutOf (captureS demo (some (s "bar"))) else layoutOf { captureS demo (some (s "bar")) with name := s "baz" })
        (render (captureS demo (some (s "bar")))) (some (s "baz"))) (some (s "bar"))
    = render (captureS demo (some (s "bar"))) := by
  have hne : s "baz" ≠ s "bar" := by decide_text
  exact rename_round_trip_text _ demo (s "bar") (s "baz") demo_wf (if_pos rfl)
    (if_neg fun e => hne (name_eq_of_render_eq e))
example : dedent (render (captureS demo (some (s "bar")))) = render (captureS demo (some (s "bar"))) :=
  capture_source_is_dedented demo _ demo_wf

/-- The model is bug-faithful about `dedent`: a whitespace-only line inside a string literal
of the body is emptied and continuation lines of a multi-line string lose the definition's
indentation – the text of the literal, hence the function's value, changes
(known finding `C20-dedent-in-string`). -/
example : dedent [s "    def f():", s "        return '''a", s "      ", s "        b'''"]
    = [s "def f():", s "    return '''a", s "", s "    b'''"] := by decide_text

end MxModel.C20
