import MxModel.Proofs.C3
import MxModel.Proofs.StructMechHistory
import MxModel.Proofs.StructMechLive
import MxModel.Proofs.StructMechRenameSpace
import MxModel.Proofs.ExecResolveDerived
import MxModel.Props.C02
/-!
# C03 – derived members equal re-derivation from defined members along the C3 order

`MxModel.C3.mro` is `SpaceGraph.get_mro` (the merge loop, the candidate rule, the failure
case) and `MxModel.Struct.derive` is the derivation from scratch the property names.  The
theorems characterise them for all inheritance graphs and all member tables; the check ties
modelx's *incrementally maintained* state to them after every operation (see
harness/mxh/props/c03.py): the derived members modelx holds must be exactly `derive` of its
own defined members, and `bases` must be `mro` of its own direct-base lists.
The incremental maintenance itself (`SpaceManager` / `SpaceUpdater` / `on_inherit`) is modelled
operation by operation in `Struct/Mech.lean` (`MxModel.SM`, tied to the code by the `smech`
correspondence: accept/refuse and the whole structural state after every edit).  For that mechanism
`mech_refines_derivation` proves, for every operation sequence without bound, that the member table
of every space of every reachable state *is* the derivation from scratch
(`Proofs/StructMech*.lean`: invariant `SM.Inv`, preserved by each of the twelve operations), and
`mech_with_renames_refines_derivation` the same for histories that also rename spaces.
Last section: **a derived cells evaluates with names resolved in the sub space** – the structural state
as a source of Exec definitions (`SM.structEnv`, `Proofs/ExecResolveDerived.lean`: the resolution layer
`Exec/Resolve.lean` with sources, homes and reference values read off the member tables).
-/
namespace MxModel.C03
open MxModel.C3 MxModel.Struct

variable {α : Type} [DecidableEq α]

/-- **Exactly the inherited, not locally defined names are derived**: `x` has a derived copy in
a space iff the space does not define `x` and some space of the tail of its linearisation does. -/
theorem derived_iff (tail : List α) (defs : α → List String) (own : List String) (x : String) :
    x ∈ (derive tail defs own).map (·.1) ↔ x ∉ own ∧ ∃ b ∈ tail, x ∈ defs b := by
  rw [derive_names, List.mem_filter, mem_derivedNames]
  refine ⟨fun h => h.1, fun h => ⟨h, ?_⟩⟩
  obtain ⟨b, hb⟩ := firstDefiner_some tail defs x h.2
  rw [hb]; rfl

/-- **It carries the formula (or value) of the first space in the linearisation that defines
the name**: the definer recorded for a derived name defines it, and no earlier space of the
linearisation does. -/
theorem derived_from_first_definer (tail : List α) (defs : α → List String) (own : List String)
    (x : String) (b : α) (h : (x, b) ∈ derive tail defs own) :
    x ∈ defs b ∧ ∃ pre post, tail = pre ++ b :: post ∧ ∀ b' ∈ pre, x ∉ defs b' := by
  obtain ⟨_, hf⟩ := (mem_derive tail defs own x b).mp h
  unfold firstDefiner at hf
  obtain ⟨pre, post, h2, h3⟩ := (List.find?_eq_some_iff_append.mp hf).2
  exact ⟨by simpa using List.find?_some hf, pre, post, h2, fun b' hb' => by simpa using h3 b' hb'⟩

/-- **Exactly one derived copy** of each name. -/
theorem derived_unique (tail : List α) (defs : α → List String) (own : List String) :
    ((derive tail defs own).map (·.1)).Nodup := by
  rw [derive_names]
  unfold derivedNames
  exact (List.Nodup.sublist List.filter_sublist (nodup_eraseDups _)).sublist List.filter_sublist

/-- **`bases` reports the linearisation**: it starts with the space itself … -/
theorem linearisation_starts_with_space (bases : α → List α) (d : Nat) (s : α) (l : List α)
    (h : mro bases d s = some l) : ∃ r, l = s :: r ∧ basesOf bases d s = some r := by
  obtain ⟨r, hr⟩ := mro_head bases d s l h
  exact ⟨r, hr, by simp [basesOf, h, hr]⟩

/-- … **keeps the declared order of the direct bases, and every direct base's own
linearisation is a subsequence of it** (local precedence and monotonicity, the defining
properties of C3) – for every inheritance graph for which modelx accepts the edit. -/
theorem linearisation_is_c3 (bases : α → List α) (d : Nat) (s : α) (r : List α)
    (h : mro bases (d + 1) s = some (s :: r)) :
    (bases s).Sublist r ∧ ∀ b ∈ bases s, ∃ lb, mro bases d b = some lb ∧ lb.Sublist r :=
  mro_sublist bases d s r h

/-- … and contains nothing but the space, its direct bases and members of their linearisations. -/
theorem linearisation_only_ancestors (bases : α → List α) (d : Nat) (s : α) (r : List α)
    (h : mro bases (d + 1) s = some (s :: r)) (x : α) (hx : x ∈ r) :
    x ∈ bases s ∨ ∃ b ∈ bases s, ∃ lb, mro bases d b = some lb ∧ x ∈ lb :=
  mro_tail_mem bases d s r h x hx

/-! Non-vacuity: the diamond `D(B, C), B(A), C(A)` with `f` defined in `A` and `C`, `g` in `B`;
an inconsistent hierarchy is rejected. -/
def dBases : String → List String
  | "D" => ["B", "C"] | "B" => ["A"] | "C" => ["A"] | "E" => ["A", "B"] | _ => []
def dCells : String → List String
  | "A" => ["f", "y"] | "B" => ["g"] | "C" => ["f"] | _ => []

example : mro dBases 5 "D" = some ["D", "B", "C", "A"] := by decide +kernel
example : derive ["B", "C", "A"] dCells [] = [("g", "B"), ("f", "C"), ("y", "A")] := by decide +kernel
example : mro dBases 5 "E" = none := by decide +kernel

/-! ## The incremental mechanism refines derivation from scratch -/

section mechanism
open MxModel.SM

/-- **Incremental maintenance always equals derivation from scratch.**  After any sequence of
operations of the mechanism model (creating and deleting spaces, cells and references, redefining,
renaming, adding and removing bases, model-level references; refused operations change nothing),
for every space `q`, kind `a` (cells / references) and name `n`: the space holds its own
definition of `n` if it has one; otherwise one derived copy carrying the payload (formula / value)
of the **first** space along the tail of `q`'s C3 linearisation that defines `n`; otherwise
nothing. -/
theorem mech_refines_derivation (kw : List String) (ops : List Op) (a : Attr) (q : Path) (n : String) :
    (St.run kw {} ops).mem a q n =
      match (St.run kw {} ops).defd a q n with
      | some v => some { derived := false, payload := v }
      | none => ((St.run kw {} ops).firstDef a ((St.run kw {} ops).tail q) n).map
          (fun d => { derived := true, payload := d.2 }) :=
  (run_inv kw ops).mem_eq_derivation a q n

/-- the two directions the property statement names: a derived member has a first definer in the
linearisation and carries its payload; a name the space does not have is defined nowhere along
its linearisation -/
theorem mech_derived_from_first_definer (kw : List String) (ops : List Op) (a : Attr) (q : Path)
    (n : String) :
    (∀ m, (St.run kw {} ops).mem a q n = some m → m.derived = true →
      ∃ b, (St.run kw {} ops).firstDef a ((St.run kw {} ops).tail q) n = some (b, m.payload)) ∧
    ((St.run kw {} ops).mem a q n = none →
      (St.run kw {} ops).firstDef a ((St.run kw {} ops).tail q) n = none) := by
  have hg := (run_inv kw ops).good a q n
  unfold Good1 at hg
  constructor
  · intro m hm hd
    rw [hm] at hg
    exact hg hd
  · intro hm
    rw [hm] at hg
    exact hg

/-- … and conversely **exactly one derived copy of every inherited, not locally defined name**:
the names under which a reachable space holds a derived member are the names `derive` (the
specification above) computes from the linearisation and the *defined* names. -/
theorem mech_derived_names_eq_derive (kw : List String) (ops : List Op) (a : Attr) (q : Path) (n : String) :
    n ∈ (derive ((St.run kw {} ops).tail q) ((St.run kw {} ops).definedNames a)
        ((St.run kw {} ops).definedNames a q)).map (·.1) ↔
      ∃ m, (St.run kw {} ops).mem a q n = some m ∧ m.derived = true := by
  have hinv := run_inv kw ops
  generalize St.run kw {} ops = st at hinv
  -- the table is the derivation: a derived member is there iff `q` has no definition and its tail has one
  rw [derived_iff, hinv.mem_eq_derivation a q n]
  simp only [mem_definedNames_iff hinv.wf.keys, ← firstDef_isSome_iff]
  cases st.defd a q n <;> cases st.firstDef a (st.tail q) n <;> simp

/-- **`bases` reports the linearisation** for the mechanism too: in every reachable state every
space has a C3 linearisation (`St.mro` is the kernel `C3.mro` on the direct-base lists, depth bound
= number of spaces + 1), and it starts with the space. -/
theorem mech_linearisation_exists (kw : List String) (ops : List Op) (q : Path) :
    (St.run kw {} ops).mro q = some (q :: (St.run kw {} ops).tail q) :=
  (run_inv kw ops).wf.mro_all q

/-! ### what the accepted operations do (functional correctness)

`mech_refines_derivation` says that the member table is a function of the *definitions* and the direct
bases; a mechanism that refuses everything, or accepts and does nothing, satisfies it.  The following
theorems say which operations are accepted and what an accepted one does to the definitions, the spaces
and the bases - and so, with `mech_refines_derivation`, to the whole state. -/

/-- **when an operation is accepted**: the explicit criterion `SM.St.accepts` (one per operation,
`Proofs/StructMechEffect.lean`), for every state -/
theorem mech_accepted_iff (kw : List String) (st : St) (op : Op) :
    (st.apply kw op).isSome = st.accepts kw op := apply_isSome kw st op

/-- **what an accepted operation does**, in every reachable state (`SM.Effect`): `newCells` / `setFormula` /
`setRef` define exactly that name in exactly that space (`newCells` under the name the cells gets) and change
no other definition; `delCells` / `delRef` remove exactly that definition; `addBases` / `removeBases`
change the direct bases of exactly that space exactly so and no definition; `newSpace` adds exactly that
space with these bases, defining the references handed to it and nothing else; `delSpace` removes
exactly the spaces at and below the path, the definitions of the others stay; `renameCells` changes no
definition under another name; `setGlobal` / `delGlobal` do not touch the spaces. -/
theorem mech_accepted_effect (kw : List String) (ops : List Op) (op : Op) (st' : St)
    (hop : (St.run kw {} ops).apply kw op = some st') : Effect kw (St.run kw {} ops) st' op :=
  apply_spec kw _ st' (run_inv kw ops).wf.keys op hop

/-- … hence the whole member table after an accepted `newCells` (as an instance): every space holds under
every name its own definition - the new one in `p` under the name the cells got, the old ones elsewhere -
or the derived copy of the first definition along its (unchanged) linearisation -/
theorem mech_state_after_newCells (kw : List String) (ops : List Op) (p : Path) (name fname : String) (v : Nat)
    (st' : St) (hop : (St.run kw {} ops).apply kw (.newCells p name fname v) = some st')
    (a : Attr) (q : Path) (n : String) :
    let st := St.run kw {} ops
    let d : Attr → Path → String → Option Nat := fun a' q' n' =>
      if q' = p ∧ a' = .cells ∧ n' = st.cellsName kw p name fname then some v else st.defd a' q' n'
    st'.mem a q n =
      match d a q n with
      | some w => some { derived := false, payload := w }
      | none => ((st.tail q).findSome? (fun b => (d a b n).map (fun w => (b, w)))).map
          (fun e => { derived := true, payload := e.2 }) := by
  intro st d
  have hi' : Inv st' := inv_apply kw st st' _ (run_inv kw ops) hop
  obtain ⟨hs, hd⟩ := mech_accepted_effect kw ops _ st' hop
  rw [hi'.mem_eq_derivation a q n, hs.tail]
  have hdd : ∀ a' q' n', st'.defd a' q' n' = d a' q' n' := hd
  rw [hdd]
  unfold St.firstDef
  have : (fun b => (st'.defd a b n).map (fun w => (b, w))) = (fun b => (d a b n).map (fun w => (b, w))) := by
    funext b; rw [hdd]
  rw [this]
  rfl

/-- **the definitions of a reachable state are exactly those the accepted operations of the history made
and no later accepted operation removed** - for every history of the twelve operations (`SM.specDefs`: a
fold over the history that consults the mechanism's state for accept/refuse, for the name an unnamed cells
gets, and - for `renameCells` only - for which spaces hold a copy of the renamed cells).  With
`mech_refines_derivation` and the base lists (`mech_accepted_effect`) the whole reachable state is a
function of the history. -/
theorem mech_definitions_from_history (kw : List String) (ops : List Op) (a : Attr) (q : Path) (n : String) :
    (St.run kw {} ops).defd a q n = specDefs kw {} (fun _ _ _ => none) ops a q n :=
  defd_run kw ops a q n

/-- **what an accepted `renameCells` does to the definitions**, completely (`SM.renameCells_full`) -/
theorem mech_rename_effect (kw : List String) (ops : List Op) (p : Path) (old new : String) (st' : St)
    (hop : (St.run kw {} ops).renameCells kw p old new = some st') (a : Attr) (q : Path) (n : String) :
    st'.defd a q n =
      if a = .cells ∧ q ∈ (St.run kw {} ops).renameTargets p old then renamedDef (St.run kw {} ops) old new q n
      else (St.run kw {} ops).defd a q n :=
  (renameCells_full kw _ st' (run_inv kw ops) p old new hop).2 a q n

/-- **liveness of the plain case**: in every reachable state a cells under a valid name that is used for
nothing can be created in every existing space, and is then defined there -/
theorem mech_fresh_cells_accepted (kw : List String) (ops : List Op) (p : Path) (n : String) (v : Nat)
    (hp : p ∈ (St.run kw {} ops).ids) (hv : Names.isValidName kw n = true) (hu : Unused (St.run kw {} ops) n) :
    ∃ st', (St.run kw {} ops).apply kw (.newCells p n n v) = some st' ∧ st'.defd .cells p n = some v := by
  obtain ⟨st', h1, h2⟩ := newCells_accepted_of_unused kw (St.run kw {} ops) p n v hp hv hu
  refine ⟨st', ?_, h2⟩
  simp only [St.apply, St.newCellsNamed, hv, if_true]
  exact h1

/-- … and a space without bases under a fresh valid name, at top level or inside an existing space -/
theorem mech_fresh_space_accepted (kw : List String) (ops : List Op) (parent : Path) (n : String)
    (hp : parent = [] ∨ parent ∈ (St.run kw {} ops).ids) (hv : Names.isValidName kw n = true)
    (hu : Unused (St.run kw {} ops) n) :
    ∃ st', (St.run kw {} ops).apply kw (.newSpace parent n [] []) = some st' := by
  obtain ⟨st', h1⟩ := newSpace_accepted_of_unused kw (St.run kw {} ops) parent n hp hv hu
  exact ⟨st', by simp [St.apply, St.newSpaceRefs, h1, St.setRefs]⟩

/-! Non-vacuity: the diamond `D(B, C)`, `B(A)`, `C(A)`, `f` defined in `A` and redefined in `C`:
`D.f` is the derived copy of `C.f`; after `C.f` is deleted it is the copy of `A.f`; after `A.f` is deleted
instead, `B` has no `f` and `D.f` stays the copy of `C.f`.  Then: a fresh name is accepted, the definitions
read off the history (`specDefs`), a rename of `A.f`, a refused operation. -/
def diamondOps : List Op := [
  .newSpace [] "A" [] [], .newCells ["A"] "f" "f" 1, .newSpace [] "B" [["A"]] [], .newSpace [] "C" [["A"]] [],
  .setFormula ["C"] "f" 2, .newSpace [] "D" [["B"], ["C"]] []]

private theorem diamond_run : St.run [] {} diamondOps =
    { spaces := [
        { id := ["A"], bases := [], cells := [("f", { derived := false, payload := 1 })], refs := [] },
        { id := ["B"], bases := [["A"]], cells := [("f", { derived := true, payload := 1 })], refs := [] },
        { id := ["C"], bases := [["A"]], cells := [("f", { derived := false, payload := 2 })], refs := [] },
        { id := ["D"], bases := [["B"], ["C"]], cells := [("f", { derived := true, payload := 2 })], refs := [] }],
      globals := [], namers := [] } := by decide +kernel

example : (St.run [] {} diamondOps).mem .cells ["D"] "f" = some { derived := true, payload := 2 } := by
  rw [diamond_run]; decide +kernel
example : (St.run [] {} diamondOps).tail ["D"] = [["B"], ["C"], ["A"]] := by rw [diamond_run]; decide +kernel
example : (St.run [] {} (diamondOps ++ [.delCells ["C"] "f"])).mem .cells ["D"] "f"
    = some { derived := true, payload := 1 } := by rw [St.run_append, diamond_run]; decide +kernel
example : (St.run [] {} (diamondOps ++ [.delCells ["A"] "f"])).mem .cells ["B"] "f" = none := by
  rw [St.run_append, diamond_run]; decide +kernel
example : (St.run [] {} (diamondOps ++ [.delCells ["A"] "f"])).mem .cells ["D"] "f"
    = some { derived := true, payload := 2 } := by rw [St.run_append, diamond_run]; decide +kernel
example : Unused (St.run [] {} diamondOps) "g" ∧ ((St.run [] {} diamondOps).accepts [] (.newCells ["B"] "g" "g" 3)) = true := by
  -- the quantifiers over all paths come down to the four spaces there are
  have hfin : (∀ q ∈ (St.run [] {} diamondOps).ids, (St.run [] {} diamondOps).mem .cells q "g" = none ∧
        (St.run [] {} diamondOps).mem .refs q "g" = none ∧ q.getLast? ≠ some "g") ∧
      "g" ∉ (St.run [] {} diamondOps).globals ∧
      ((St.run [] {} diamondOps).accepts [] (.newCells ["B"] "g" "g" 3)) = true := by rw [diamond_run]; decide +kernel
  obtain ⟨hids, hglob, hacc⟩ := hfin
  refine ⟨⟨?_, ?_, hglob⟩, hacc⟩
  · intro a q
    by_cases hq : q ∈ (St.run [] {} diamondOps).ids
    · cases a
      · exact (hids q hq).1
      · exact (hids q hq).2.1
    · exact St.mem_of_not_mem _ a q "g" hq
  · intro q hn
    rw [mem_childNames] at hn
    exact (hids _ hn).2.2 (by simp)
example : specDefs [] {} (fun _ _ _ => none) (diamondOps ++ [.delCells ["A"] "f", .delCells ["D"] "f"]) .cells ["C"] "f"
    = some 2 := by decide +kernel
example : specDefs [] {} (fun _ _ _ => none) (diamondOps ++ [.delCells ["A"] "f", .delCells ["D"] "f"]) .cells ["A"] "f"
    = none := by decide +kernel
-- renaming `A.f` to `g`: the derived copy in `B` follows, `C` keeps its own definition under the new name too
-- (`D` derives `f` from `C`, not from `A`: it is not renamed but re-derived)
example : (St.run [] {} diamondOps).renameTargets ["A"] "f" = [["A"], ["B"], ["C"]] := by
  rw [diamond_run]; decide +kernel
example : (St.run [] {} (diamondOps ++ [.renameCells ["A"] "f" "g"])).mem .cells ["D"] "g"
    = some { derived := true, payload := 2 } := by rw [St.run_append, diamond_run]; decide +kernel
example : specDefs [] {} (fun _ _ _ => none) (diamondOps ++ [.renameCells ["A"] "f" "g"]) .cells ["C"] "g" = some 2 := by decide +kernel
example : specDefs [] {} (fun _ _ _ => none) (diamondOps ++ [.renameCells ["A"] "f" "g"]) .cells ["A"] "f" = none := by decide +kernel
-- an operation that is refused (`E(A, B)` has no linearisation)
example : ((St.run [] {} diamondOps).step [] (.newSpace [] "E" [["A"], ["B"]] [])).2 = false := by
  rw [diamond_run]; decide +kernel

/-! ### `rename_space`

`SM.St.renameSpace` (Struct/MechRename.lean, line `renamespace` of the `smech` correspondence) is one
relabelling `ρ = SM.relabel p new` of every path the state holds.  Histories: `SM.OpR` = the twelve
operations and renames, `SM.St.runR`. -/

/-- **incremental maintenance equals derivation from scratch, renames included**: after every history of
the twelve operations and renames of spaces the member table of every space is the derivation from
scratch, and every space has a linearisation -/
theorem mech_with_renames_refines_derivation (kw : List String) (ops : List OpR) (a : Attr) (q : Path) (n : String) :
    (St.runR kw {} ops).mem a q n =
      (match (St.runR kw {} ops).defd a q n with
      | some v => some { derived := false, payload := v }
      | none => ((St.runR kw {} ops).firstDef a ((St.runR kw {} ops).tail q) n).map
          (fun d => { derived := true, payload := d.2 })) ∧
    (St.runR kw {} ops).mro q = some (q :: (St.runR kw {} ops).tail q) :=
  ⟨(runR_inv kw ops).mem_eq_derivation a q n, (runR_inv kw ops).wf.mro_all q⟩

/-- **`rename_space` commutes with derivation**: an accepted rename in a reachable state is the relabelling
`ρ` of the whole structural state - the spaces of the new state are the images of the spaces; for every
space `q` the direct bases, the C3 linearisation and its tail of `ρ q` are the images of those of `q`
(linearisation commutes with the relabelling), the member table and the definitions of `ρ q` are those of
`q` (nothing is re-derived, nothing needs to be) - and the new state is again the derivation from scratch
from its own definitions along its own linearisations. -/
theorem rename_space_commutes_with_derivation (kw : List String) (ops : List OpR) (p : Path) (new : String)
    (st' : St) (hop : (St.runR kw {} ops).renameSpace kw p new = .ok st') :
    st'.ids = (St.runR kw {} ops).ids.map (relabel p new) ∧
    (∀ q ∈ (St.runR kw {} ops).ids,
      st'.basesOf (relabel p new q) = ((St.runR kw {} ops).basesOf q).map (relabel p new) ∧
      st'.mro (relabel p new q) = ((St.runR kw {} ops).mro q).map (List.map (relabel p new)) ∧
      st'.tail (relabel p new q) = ((St.runR kw {} ops).tail q).map (relabel p new) ∧
      ∀ a n, st'.mem a (relabel p new q) n = (St.runR kw {} ops).mem a q n ∧
        st'.defd a (relabel p new q) n = (St.runR kw {} ops).defd a q n) ∧
    (∀ a q n, st'.mem a q n =
      match st'.defd a q n with
      | some v => some { derived := false, payload := v }
      | none => (st'.firstDef a (st'.tail q) n).map (fun d => { derived := true, payload := d.2 })) := by
  have hi := runR_inv kw ops
  obtain ⟨h1, _, h3⟩ := renameSpace_commutes kw _ st' hi.wf p new hop
  exact ⟨h1, h3, fun a q n => (inv_renameSpace kw _ st' hi p new hop).mem_eq_derivation a q n⟩

/-- the transport lemma behind it, for every state and every injective relabelling `ρ` of paths:
linearisations, member tables, definitions and first definers commute with `ρ` -/
theorem derivation_commutes_with_injective_relabelling (ρ : Path → Path) (hρ : ∀ x y, ρ x = ρ y → x = y)
    (st : St) (a : Attr) (q : Path) (n : String) :
    (st.mapPaths ρ).mro (ρ q) = (st.mro q).map (List.map ρ) ∧
    (st.mapPaths ρ).mem a (ρ q) n = st.mem a q n ∧
    (st.mapPaths ρ).defd a (ρ q) n = st.defd a q n ∧
    (st.mapPaths ρ).firstDef a ((st.mapPaths ρ).tail (ρ q)) n =
      (st.firstDef a (st.tail q) n).map (fun d => (ρ d.1, d.2)) :=
  ⟨mro_mapPaths ρ st hρ q, mem_mapPaths ρ st hρ a q n, defd_mapPaths ρ st hρ a q n,
    by rw [tail_mapPaths ρ st hρ, firstDef_mapPaths ρ st hρ]⟩

/-! Non-vacuity: `A.A` (bearing its parent's name) defines `f` and is the base of `T`; `D` derives from `T`;
after `A.A` is renamed to `B`, `T` and `D` still derive `f` - now along the linearisation `[A.B]` / `[T, A.B]`. -/

def renOps : List OpR := [
  .op (.newSpace [] "A" [] []), .op (.newSpace ["A"] "A" [] []), .op (.newCells ["A", "A"] "f" "f" 1),
  .op (.newSpace [] "T" [["A", "A"]] []), .op (.newSpace [] "D" [["T"]] []),
  .renameSpace ["A", "A"] "B", .op (.setFormula ["A", "B"] "f" 5), .renameSpace ["A"] "T"]

private theorem ren5_run : St.runR [] {} (renOps.take 5) =
    { spaces := [
        { id := ["A"], bases := [], cells := [], refs := [] },
        { id := ["A", "A"], bases := [], cells := [("f", { derived := false, payload := 1 })], refs := [] },
        { id := ["T"], bases := [["A", "A"]], cells := [("f", { derived := true, payload := 1 })], refs := [] },
        { id := ["D"], bases := [["T"]], cells := [("f", { derived := true, payload := 1 })], refs := [] }],
      globals := [], namers := [] } := by decide +kernel

private theorem renOps_take6 : renOps.take 6 = renOps.take 5 ++ [.renameSpace ["A", "A"] "B"] := rfl

private theorem renOps_take7 :
    renOps.take 7 = renOps.take 5 ++ [.renameSpace ["A", "A"] "B", .op (.setFormula ["A", "B"] "f" 5)] := rfl

example : (St.runR [] {} (renOps.take 5)).tail ["D"] = [["T"], ["A", "A"]] := by rw [ren5_run]; decide +kernel
example : (St.runR [] {} (renOps.take 6)).tail ["D"] = [["T"], ["A", "B"]] := by
  rw [renOps_take6, St.runR_append, ren5_run]; decide +kernel
example : (St.runR [] {} (renOps.take 6)).mem .cells ["D"] "f" = some { derived := true, payload := 1 } := by
  rw [renOps_take6, St.runR_append, ren5_run]; decide +kernel
example : (St.runR [] {} (renOps.take 7)).mem .cells ["D"] "f" = some { derived := true, payload := 5 } := by
  rw [renOps_take7, St.runR_append, ren5_run]; decide +kernel
example : (St.runR [] {} (renOps.take 7)).firstDef .cells ((St.runR [] {} (renOps.take 7)).tail ["D"]) "f"
    = some (["A", "B"], 5) := by rw [renOps_take7, St.runR_append, ren5_run]; decide +kernel
-- the last rename is refused (`T` is a top-level space): nothing changes
example : (St.runR [] {} renOps).ids = (St.runR [] {} (renOps.take 7)).ids := by decide +kernel
example : ∃ st', (St.runR [] {} (renOps.take 5)).renameSpace [] ["A", "A"] "B" = .ok st' ∧
    st'.ids = (St.runR [] {} (renOps.take 5)).ids.map (relabel ["A", "A"] "B") :=
  have hop : (St.runR [] {} (renOps.take 5)).renameSpace [] ["A", "A"] "B" =
      .ok ((St.runR [] {} (renOps.take 5)).mapPaths (relabel ["A", "A"] "B")) := by rw [ren5_run]; rfl
  ⟨_, hop, (rename_space_commutes_with_derivation [] (renOps.take 5) ["A", "A"] "B" _ hop).1⟩
example := mech_with_renames_refines_derivation [] renOps .cells ["D"] "f"

end mechanism

/-! ## A derived cells evaluates with names resolved in the sub space

`SM.execEnv se ids D srcOf valOf st` is the Exec environment of the structural state `st`: every cells
member `(q, x)` – own or derived – is a cells `ids.cid q x` of its own whose formula is the SOURCE its
entry carries (`srcOf payload`; for a derived entry the payload of the first definer) resolved in the
namespace of `q` (`SM.nsOf ids st q`: `q`'s cells, own and derived, then its references, own and derived,
then the model-level references).  The resolution layer is pure Lean (not tied to the code by a
correspondence of its own; the C01 oracle "names resolved in sub space" and the C03 oracle "values of
derived cells vs a model rebuilt from definitions" observe the same thing on modelx). -/
section derived_evaluation
open MxModel.SM MxModel.Exec

variable (se : SEnv) (ids : Ids) (D : Dec) (srcOf : Nat → Key → SProg) (valOf : Nat → Val)

theorem defd_mem {st : SM.St} {a : Attr} {b : Path} {n : String} {v : Nat} (h : st.defd a b n = some v) :
    st.mem a b n = some { derived := false, payload := v } := by
  unfold St.defd at h
  cases hm : st.mem a b n with
  | none => rw [hm] at h; cases h
  | some m =>
    rw [hm] at h
    obtain ⟨d, p⟩ := m
    cases d with
    | true => simp at h
    | false => simp at h; subst h; rfl

/-- **The formula of a derived cells is its first definer's SOURCE resolved in the SUB space's namespace.**
In every reachable structural state, for a space `q` that holds a derived cells `n`: there is the first
space `b` along the tail of `q`'s linearisation that defines `n` (`mech_derived_from_first_definer`); the
derived entry carries `b`'s payload; the formula the executor sees for the derived cells `(q, n)` is
`resolve (nsOf … q) (source of b's n)` – resolved in `q`'s namespace – while the definer's own cells
`(b, n)` has the SAME source resolved in `b`'s namespace. -/
theorem derived_cells_formula_is_definers_source_in_sub_space (kw : List String) (ops : List Op) (q : Path)
    (n : String) (m : Member)
    (hm : (St.run kw {} ops).mem .cells q n = some m) (hd : m.derived = true)
    (hdec : D.cellOf (ids.cid q n) = (q, n)) (hnum : D.pathOf (D.num q) = q) :
    ∃ b, (St.run kw {} ops).firstDef .cells ((St.run kw {} ops).tail q) n = some (b, m.payload) ∧
      b ∈ (St.run kw {} ops).tail q ∧
      (St.run kw {} ops).mem .cells b n = some { derived := false, payload := m.payload } ∧
      (∀ key, (execEnv se ids D srcOf valOf (St.run kw {} ops)).formula (ids.cid q n, key) =
        resolve (nsOf ids (St.run kw {} ops) q) (srcOf m.payload key)) ∧
      (D.cellOf (ids.cid b n) = (b, n) → D.pathOf (D.num b) = b → ∀ key,
        (execEnv se ids D srcOf valOf (St.run kw {} ops)).formula (ids.cid b n, key) =
          resolve (nsOf ids (St.run kw {} ops) b) (srcOf m.payload key)) := by
  obtain ⟨b, hb⟩ := (mech_derived_from_first_definer kw ops .cells q n).1 m hm hd
  obtain ⟨h1, h2⟩ := firstDef_some _ _ _ _ _ _ hb
  have hmb := defd_mem h2
  refine ⟨b, hb, h1, hmb, fun key => ?_, fun hdb hnb key => ?_⟩
  · exact structEnv_formula se ids D srcOf valOf _ q n key m hdec hnum hm
  · exact structEnv_formula se ids D srcOf valOf _ b n key { derived := false, payload := m.payload } hdb hnb hmb

/-- **A name that the sub space overrides is read from the sub space.**  Where the definer's source
looks a global name `x` up, the derived cells of `q` continues with what `q`'s namespace binds `x` to:
`q`'s OWN cells of that name when `q` has one – defined in `q`, or derived into `q` (from whichever base
comes first in `q`'s linearisation) –, else `q`'s own reference of that name (defined or derived) – never
the definer's member (`ids.cid q x`, `ids.rid q x`: members have identities per space). -/
theorem derived_cells_reads_sub_space_names (st : SM.St) (q : Path) (n : String) (m : Member) (key : Key)
    (hm : st.mem .cells q n = some m)
    (hdec : D.cellOf (ids.cid q n) = (q, n)) (hnum : D.pathOf (D.num q) = q)
    (x : String) (k : Option Binding → SProg) (hsrc : srcOf m.payload key = .name x k) :
    (execEnv se ids D srcOf valOf st).formula (ids.cid q n, key) =
      resolve (nsOf ids st q) (k (nsOf ids st q x)) ∧
    ((st.mem .cells q x).isSome = true → nsOf ids st q x = some (.cell (ids.cid q x))) ∧
    (st.mem .cells q x = none → (st.childNames q).contains x = false → (st.mem .refs q x).isSome = true →
      nsOf ids st q x = some (.ref (ids.rid q x))) := by
  refine ⟨?_, nsOf_cells ids st q x, nsOf_refs ids st q x⟩
  rw [structEnv_formula se ids D srcOf valOf st q n key m hdec hnum hm, hsrc]
  rfl

/-- … for a source that READS the global `x` (`y * 2`): the derived cells of `q` reads `q`'s reference
`x`, with the value `q`'s entry carries – `q`'s own definition (an override) or the copy derived into `q` -/
theorem derived_cells_reads_sub_space_reference (st : SM.St) (q : Path) (n : String) (m : Member) (key : Key)
    (hm : st.mem .cells q n = some m)
    (hdec : D.cellOf (ids.cid q n) = (q, n)) (hnum : D.pathOf (D.num q) = q)
    (x : String) (k : Option Val → SProg) (onCell onNone : SProg)
    (hsrc : srcOf m.payload key = SProg.readN x k onCell onNone)
    (hc : st.mem .cells q x = none) (hch : (st.childNames q).contains x = false)
    (mr : Member) (hr : st.mem .refs q x = some mr) (hdr : D.refOf (ids.rid q x) = (q, x)) :
    (execEnv se ids D srcOf valOf st).formula (ids.cid q n, key) =
      .read false (ids.rid q x) (fun o => resolve (nsOf ids st q) (k o)) ∧
    (execEnv se ids D srcOf valOf st).refs (ids.rid q x) = some (valOf mr.payload) := by
  refine ⟨?_, structEnv_refs se ids D srcOf valOf st q x mr hdr hr⟩
  rw [structEnv_formula se ids D srcOf valOf st q n key m hdec hnum hm, hsrc]
  exact resolve_readN_ref ids st q x k onCell onNone hc hch (by rw [hr]; rfl)

/-- … for a source that CALLS the global `x`: the derived cells of `q` calls `q`'s cells `x` -/
theorem derived_cells_calls_sub_space_cells (st : SM.St) (q : Path) (n : String) (m : Member) (key : Key)
    (hm : st.mem .cells q n = some m)
    (hdec : D.cellOf (ids.cid q n) = (q, n)) (hnum : D.pathOf (D.num q) = q)
    (x : String) (key' : Key) (k : Res → SProg) (onRef : Option Val → SProg) (onNone : SProg)
    (hsrc : srcOf m.payload key = SProg.callN x key' k onRef onNone)
    (hx : (st.mem .cells q x).isSome = true) :
    (execEnv se ids D srcOf valOf st).formula (ids.cid q n, key) =
      .call (ids.cid q x, key') (fun r => resolve (nsOf ids st q) (k r)) := by
  rw [structEnv_formula se ids D srcOf valOf st q n key m hdec hnum hm, hsrc]
  exact resolve_callN_cell ids st q x key' k onRef onNone hx

/-- **The formula of the derived cells depends only on the sub space's namespace – on the names the
source mentions – and on the definer's source**: two structural states (before / after ANY edit), in both
of which `q` has a cells `n` with the same source, and whose namespaces of `q` agree on the names that
source mentions, give the derived cells the same formula (`resolve_congr`). -/
theorem derived_cells_formula_depends_only_on_sub_namespace_and_source (st st' : SM.St) (q : Path) (n : String)
    (key : Key) (m m' : Member)
    (hdec : D.cellOf (ids.cid q n) = (q, n)) (hnum : D.pathOf (D.num q) = q)
    (hm : st.mem .cells q n = some m) (hm' : st'.mem .cells q n = some m')
    (hsrc : srcOf m'.payload key = srcOf m.payload key)
    (hns : ∀ x, Mentions (srcOf m.payload key) x → nsOf ids st' q x = nsOf ids st q x) :
    (execEnv se ids D srcOf valOf st').formula (ids.cid q n, key) =
      (execEnv se ids D srcOf valOf st).formula (ids.cid q n, key) := by
  rw [structEnv_formula se ids D srcOf valOf st q n key m hdec hnum hm,
    structEnv_formula se ids D srcOf valOf st' q n key m' hdec hnum hm', hsrc]
  exact resolve_congr _ _ _ hns

/-- … hence so does its denotation: if, besides, the elements the derived cells can call (a call-closed
set `C`) keep their formulas, and the references read from `C` and the existence of the cells of `C` are
unchanged, then `Den` of the derived cells is the same in both states – whatever else the edit did to
other spaces or to names the source does not mention (`C02.den_local`). -/
theorem derived_cells_den_depends_only_on_sub_namespace_and_source (st st' : SM.St) (q : Path) (n : String)
    (key : Key) (m m' : Member)
    (hdec : D.cellOf (ids.cid q n) = (q, n)) (hnum : D.pathOf (D.num q) = q)
    (hm : st.mem .cells q n = some m) (hm' : st'.mem .cells q n = some m')
    (hsrc : srcOf m'.payload key = srcOf m.payload key)
    (hns : ∀ x, Mentions (srcOf m.payload key) x → nsOf ids st' q x = nsOf ids st q x)
    (inp : Node → Option Val) (C : Node → Prop) (R : RefId → Prop) (hC : C (ids.cid q n, key))
    (hclosed : ∀ k, C k → C02.CallsIn C ((execEnv se ids D srcOf valOf st).formula k) ∧
      C02.ReadsIn R ((execEnv se ids D srcOf valOf st).formula k))
    (hform : ∀ k, C k → k ≠ (ids.cid q n, key) →
      (execEnv se ids D srcOf valOf st').formula k = (execEnv se ids D srcOf valOf st).formula k)
    (hrefs : ∀ r, R r → (execEnv se ids D srcOf valOf st').refs r = (execEnv se ids D srcOf valOf st).refs r)
    (halive : ∀ k, C k → (execEnv se ids D srcOf valOf st').alive k.1 = (execEnv se ids D srcOf valOf st).alive k.1)
    (r : Res) :
    Den (execEnv se ids D srcOf valOf st') inp (ids.cid q n, key) r ↔
      Den (execEnv se ids D srcOf valOf st) inp (ids.cid q n, key) r := by
  have hloc := C02.den_local (execEnv se ids D srcOf valOf st) (execEnv se ids D srcOf valOf st') inp inp C R hclosed
    (fun k hk => by
      by_cases he : k = (ids.cid q n, key)
      · subst he
        exact derived_cells_formula_depends_only_on_sub_namespace_and_source se ids D srcOf valOf st st' q n key m m'
          hdec hnum hm hm' hsrc hns
      · exact hform k hk he)
    (fun _ _ => rfl) (fun _ _ => rfl) (fun _ _ => rfl) hrefs halive
  unfold Den
  constructor
  · rintro ⟨d, hd⟩; exact ⟨d, by rw [← hloc d _ hC]; exact hd⟩
  · rintro ⟨d, hd⟩; exact ⟨d, by rw [hloc d _ hC]; exact hd⟩

/-! ### With numbers: two sub spaces deriving the same cells evaluate it differently

`B` defines `f = y * 2` (payload 1) and the reference `y = 1`; `S1(B)` overrides `y = 10`; `S2(B)` overrides
nothing (it derives `y` from `B`).  Both derive `f`.  Through the mechanism (`Exec.evalTop`):
`B.f() = 2`, `S1.f() = 20`, `S2.f() = 2`. -/
def vOps : List Op := [
  .newSpace [] "B" [] [], .newCells ["B"] "f" "f" 1, .setRef ["B"] "y" 1,
  .newSpace [] "S1" [["B"]] [], .setRef ["S1"] "y" 10, .newSpace [] "S2" [["B"]] []]

private theorem v_run : St.run [] {} vOps =
    { spaces := [
        { id := ["B"], bases := [], cells := [("f", { derived := false, payload := 1 })],
          refs := [("y", { derived := false, payload := 1 })] },
        { id := ["S1"], bases := [["B"]], cells := [("f", { derived := true, payload := 1 })],
          refs := [("y", { derived := false, payload := 10 })] },
        { id := ["S2"], bases := [["B"]], cells := [("f", { derived := true, payload := 1 })],
          refs := [("y", { derived := true, payload := 1 })] }],
      globals := [], namers := [] } := by decide +kernel

def vNum : Path → Nat
  | ["B"] => 0 | ["S1"] => 1 | ["S2"] => 2 | _ => 3
def vPath : Nat → Path
  | 0 => ["B"] | 1 => ["S1"] | 2 => ["S2"] | _ => []
/-- identities: ten per space; member 0 of a space is `f` (cells) / `y` (references) -/
def vIds : Ids where
  cid := fun q x => vNum q * 10 + (if x = "f" then 0 else 1)
  rid := fun q x => vNum q * 10 + (if x = "y" then 0 else 1)
  gid := fun _ => 99
def vDec : Dec where
  cellOf := fun c => (vPath (c / 10), if c % 10 = 0 then "f" else "?")
  refOf := fun r => (vPath (r / 10), if r % 10 = 0 then "y" else "?")
  num := vNum
  pathOf := vPath
/-- the source of payload 1: `y * 2` -/
def vSrc : Nat → Key → SProg := fun _ _ =>
  SProg.readN "y" (fun o => match o with
    | some (.int i) => .ret (.int (i * 2))
    | _ => .raise (.user kType)) (.raise (.user kType)) (.raise (.user kName))
def vBase : SEnv where
  src := fun _ => .raise errDead
  home := fun _ => 0
  nss := fun _ _ => none
  cellName := fun _ => ""
  cells := [0, 10, 20]
  cached := fun _ => true
  allowNone := fun _ => false
  refs := fun _ => none
  maxdepth := 10

def vEnv : Env := execEnv vBase vIds vDec vSrc (fun p => .int p) (St.run [] {} vOps)

example : (St.run [] {} vOps).mem .cells ["S1"] "f" = some { derived := true, payload := 1 } ∧
    (St.run [] {} vOps).mem .cells ["S2"] "f" = some { derived := true, payload := 1 } ∧
    (St.run [] {} vOps).mem .refs ["S1"] "y" = some { derived := false, payload := 10 } ∧
    (St.run [] {} vOps).mem .refs ["S2"] "y" = some { derived := true, payload := 1 } := by
  rw [v_run]; decide +kernel

example : (evalTop vEnv (vIds.cid ["B"] "f", []) {}).1 = .ok (.int 2) ∧
    (evalTop vEnv (vIds.cid ["S1"] "f", []) {}).1 = .ok (.int 20) ∧
    (evalTop vEnv (vIds.cid ["S2"] "f", []) {}).1 = .ok (.int 2) := by
  rw [vEnv, v_run]; decide +kernel

-- the theorems apply: `S1.f` is `B`'s source resolved in `S1`, reading `S1`'s own `y`
example : ∃ b, (St.run [] {} vOps).firstDef .cells ((St.run [] {} vOps).tail ["S1"]) "f" = some (b, 1) :=
  have hfin : (St.run [] {} vOps).mem .cells ["S1"] "f" = some { derived := true, payload := 1 } ∧
      vDec.cellOf (vIds.cid ["S1"] "f") = (["S1"], "f") ∧ vDec.pathOf (vDec.num ["S1"]) = ["S1"] := by
    rw [v_run]; decide +kernel
  let ⟨b, h, _⟩ := derived_cells_formula_is_definers_source_in_sub_space vBase vIds vDec vSrc (fun p => .int p) [] vOps
    ["S1"] "f" { derived := true, payload := 1 } hfin.1 rfl hfin.2.1 hfin.2.2
  ⟨b, h⟩

example : ∃ k, vEnv.formula (vIds.cid ["S1"] "f", []) = .read false (vIds.rid ["S1"] "y") k ∧
    vEnv.refs (vIds.rid ["S1"] "y") = some (.int 10) :=
  have hfin : (St.run [] {} vOps).mem .cells ["S1"] "f" = some { derived := true, payload := 1 } ∧
      vDec.cellOf (vIds.cid ["S1"] "f") = (["S1"], "f") ∧ vDec.pathOf (vDec.num ["S1"]) = ["S1"] ∧
      (St.run [] {} vOps).mem .cells ["S1"] "y" = none ∧ ((St.run [] {} vOps).childNames ["S1"]).contains "y" = false ∧
      (St.run [] {} vOps).mem .refs ["S1"] "y" = some { derived := false, payload := 10 } ∧
      vDec.refOf (vIds.rid ["S1"] "y") = (["S1"], "y") := by rw [v_run]; decide +kernel
  let h := derived_cells_reads_sub_space_reference vBase vIds vDec vSrc (fun p => .int p) (St.run [] {} vOps)
    ["S1"] "f" { derived := true, payload := 1 } [] hfin.1 hfin.2.1 hfin.2.2.1 "y" _ _ _ rfl hfin.2.2.2.1
    hfin.2.2.2.2.1 { derived := false, payload := 10 } hfin.2.2.2.2.2.1 hfin.2.2.2.2.2.2
  ⟨_, h.1, h.2⟩

end derived_evaluation

end MxModel.C03
