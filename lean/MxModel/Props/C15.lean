import MxModel.Proofs.Export
/-!
# C15 – an exported package computes the same values as the model

C15 is claimed at the level of **translation validation**: for every generated model the
check exports it with modelx, imports the package in a process in which `import modelx`
raises, and compares every queried value with the model's.  The theorems below are a
supplement: they cover the places of `modelx/export` where a *decision* is taken that
does not depend on the text of a formula (model: `Kernels/Export.lean`: which names become
`self.<name>`, who wins inside ItemSpaces, how a reference is copied into an item, how a reference
value is written, the cache methods), instantiated with the statement/branch orders, rules and
templates extracted from the current sources (the `Generated.export…` and `Generated.mx…` tables) – a
reordering in exporter.py / transformer.py / space.py changes these definitions and the proofs below
are re-checked against it.

The rewriting statement holds in full since the repair 77f6b99 (`rewrite_resolves_same`); the lookup
statement is false of the real code: the trigger is a named hypothesis (`CellsShadowed`), the witness
is `item_lookup_full_statement_fails` (known finding C15-cells-shadowed-by-attr).
-/
namespace MxModel.C15
open MxModel.Export MxModel

/-! ## 1. the rewriting decision of `FormulaTransformer.should_replace` -/

/-- **Rewritten names resolve to the same class of object.**  For every table of built-ins, every
space (any cells, references, child spaces, parameters) and every name that is global in the
formula: the exported method finds a member of the space where modelx finds one, the built-in
where modelx falls through to the built-ins, and nothing where modelx finds nothing.  (Full
statement since the repair 77f6b99; before it a built-in name borne only by a child space or a
parameter was excluded, see `refs_only_dummies_fail` below.) -/
theorem rewrite_resolves_same (builtins : List String) (t : SpaceNames) (n : String) :
    exportedResolve Generated.exportReplaceOrder Generated.exportDummyFor builtins t n =
      mxResolve builtins t n := by
  simp only [exportedResolve, mxResolve, shouldReplace_generated]
  rw [topNames_generated]
  exact resolve_table _ _

/-- With the dummy bindings of the code before 77f6b99 (references only) the statement is false: a
child space (or ItemSpace parameter) named like a built-in is not rewritten, so the exported method
reads the built-in (finding C15-builtin-named-space-or-param, repaired; witness in the corpus). -/
theorem refs_only_dummies_fail :
    ¬ ∀ (builtins : List String) (t : SpaceNames) (n : String),
      exportedResolve Generated.exportReplaceOrder ["refs"] builtins t n =
        mxResolve builtins t n := by
  intro h
  have := h ["list"] { spaces := ["list"] } "list"
  revert this
  decide +kernel

/-- **… also where parameters have no value.**  For every table of built-ins, every space, every set of
parameters that the ItemSpaces on the access path bind (none: `P.foo()`; some: `P[1].Q.foo()`; all: inside
the innermost ItemSpace) and every name that is global in the formula: the exported method finds what
modelx's namespace-then-built-ins rule finds.  (Full statement since the repair 28e12dc, which made a
parameter without value that is named like a built-in denote the built-in; `no_class_fallback_fails`
is the code before it.) -/
theorem static_access_resolves_same (builtins : List String) (t : SpaceNames) (bound : List String)
    (n : String) :
    exportedResolveAt Generated.exportReplaceOrder Generated.exportDummyFor
        Generated.exportStaticFallbackFor Generated.exportStaticFallbackUnless builtins t bound n =
      mxResolveAt builtins t bound n := by
  simp only [exportedResolveAt, mxResolveAt, shouldReplace_generated, topNames_generated, classFallback,
    Generated.exportStaticFallbackFor, Generated.exportStaticFallbackUnless, container,
    List.flatMap_cons, List.flatMap_nil, List.append_nil, List.contains_append, SpaceNames.hasValue,
    SpaceNames.isMember, String.reduceEq, ↓reduceIte]
  exact resolveAt_table ..

/-- Without the class-level fall-backs (the code before 28e12dc) the statement is false: `P.foo()` with
`lambda: int` in a space whose parameter is named `int` - modelx reads the built-in, the exported method
finds no attribute (finding C15-static-access-builtin-named-param, repaired; witness in the corpus). -/
theorem no_class_fallback_fails :
    ¬ ∀ (builtins : List String) (t : SpaceNames) (bound : List String) (n : String),
      exportedResolveAt Generated.exportReplaceOrder Generated.exportDummyFor [] [] builtins t bound n =
        mxResolveAt builtins t bound n := by
  intro h
  have := h ["int"] { params := ["int"] } [] "int"
  revert this
  decide +kernel

/-- where every visible parameter is bound (inside the ItemSpace) this is `rewrite_resolves_same` -/
theorem all_bound_is_member_rule (builtins : List String) (t : SpaceNames) (n : String) :
    mxResolveAt builtins t t.params n = mxResolve builtins t n := by
  simp only [mxResolveAt, mxResolve, SpaceNames.hasValue, SpaceNames.isMember, Bool.and_self]
  rfl

/-- a cells or reference of the space wins over a built-in of the same name -/
theorem member_wins_over_builtin (builtins : List String) (t : SpaceNames) (n : String)
    (h : n ∈ t.cells ∨ n ∈ t.refs) :
    shouldReplace Generated.exportReplaceOrder Generated.exportDummyFor builtins t .global n = true := by
  rw [shouldReplace_generated, topNames_generated]
  rcases h with h | h <;> simp [SpaceNames.isMember, h]

/-- a built-in that no member shadows stays a bare name -/
theorem pure_builtin_stays (builtins : List String) (t : SpaceNames) (n : String)
    (hb : n ∈ builtins) (hm : t.isMember n = false) :
    shouldReplace Generated.exportReplaceOrder Generated.exportDummyFor builtins t .global n = false := by
  rw [shouldReplace_generated, topNames_generated]
  simp [hm, hb]

/-- every other global name (child space, ItemSpace parameter, `_space`, `_model`, unknown)
is read from `self` -/
theorem non_builtin_global_rewritten (builtins : List String) (t : SpaceNames) (n : String)
    (hb : n ∉ builtins) :
    shouldReplace Generated.exportReplaceOrder Generated.exportDummyFor builtins t .global n = true := by
  rw [shouldReplace_generated]
  cases ht : (topNames Generated.exportDummyFor t).contains n <;> simp [hb]

/-- names that are not global where they occur are never touched, whatever the tables -/
theorem local_names_untouched (order dummyFor builtins : List String) (t : SpaceNames) (n : String) :
    shouldReplace order dummyFor builtins t .localOrFree n = false ∧
    shouldReplace order dummyFor builtins t .absent n = false := ⟨rfl, rfl⟩

/-! ### which scope decides: inlined comprehensions (Python >= 3.12) -/

/-- **The climb computes Python's scoping.**  For every chain of scopes around an occurrence (innermost
first; any mixture of inlined comprehensions, generator expressions, lambdas, nested functions, any
names bound at any level) that ends in a scope with a symbol table - the formula's own function -, the
scope look-up of `should_replace` classifies the name exactly as Python does: local or free if some scope
around the occurrence binds it, global otherwise. -/
theorem climb_is_python_scoping (n : String) (ss : List PyScope) (m : PyScope) (hm : m.inlined = false) :
    classify n (view (ss ++ [m])) = pyKind n (ss ++ [m]) :=
  classify_view n ss m hm

/-- **A name means the same at every occurrence.**  For every table of built-ins, every space, every
chain of scopes as above and every name: after the rewriting the occurrence is the variable of an
enclosing scope where Python binds it in the formula, and otherwise resolves to the member of the space /
the built-in / nothing exactly as modelx's namespace does. -/
theorem occurrence_resolves_same (builtins : List String) (t : SpaceNames) (n : String)
    (ss : List PyScope) (m : PyScope) (hm : m.inlined = false) :
    exportedMeaning Generated.exportReplaceOrder Generated.exportDummyFor builtins t (ss ++ [m]) n =
      mxMeaning builtins t (ss ++ [m]) n := by
  simp only [exportedMeaning, mxMeaning, shouldReplaceAt, classify_view n ss m hm, pyKind]
  cases hb : pyBound n (ss ++ [m]) with
  | true => simp [shouldReplace]
  | false =>
    simp only [Bool.false_eq_true, if_false, shouldReplace_generated, topNames_generated, mxResolve]
    cases hmem : t.isMember n <;> cases hbi : builtins.contains n <;> simp

/-- Asking only the INNERMOST comprehension for its own variables (seeded change C15-mutD) is not
Python's rule: in `[[n * j for j in range(3)] for n in range(n)]` the `n` of the inner element is the
outer loop variable, but the nearest table (the function's, where `n` is also read as a global) calls
it global. -/
theorem innermost_only_fails :
    ¬ ∀ (n : String) (ss : List PyScope) (m : PyScope), m.inlined = false →
      classifyInnermostOnly n (view (ss ++ [m])) = pyKind n (ss ++ [m]) := by
  intro h
  have := h "n" [{ binds := ["j"], inlined := true }, { binds := ["n"], inlined := true }]
    { binds := [] } rfl
  revert this
  decide +kernel

/-- the two rules agree when the name occurs directly in the comprehension that binds it, or in no
inlined comprehension at all -/
theorem innermost_only_agrees_one_level (n : String) (b : List String) (ss : List PyScope) (m : PyScope)
    (hm : m.inlined = false) (hs : ∀ s ∈ ss, s.inlined = false) :
    classifyInnermostOnly n (view ({ binds := b, inlined := true } :: ss ++ [m])) =
      classify n (view ({ binds := b, inlined := true } :: ss ++ [m])) := by
  cases ss with
  | nil => simp [view, hm, classifyInnermostOnly, classify, skipToTable]
  | cons s rest =>
    have h1 : s.inlined = false := hs s (List.mem_cons_self ..)
    simp [view, h1, classifyInnermostOnly, classify, skipToTable]

/-- `[[n * j for j in range(3)] for n in range(n)]` in a space with the reference `n`: the `n` of the
first iterable is the reference, the `n` of the inner element is the loop variable; `j` and `n` inside
are never rewritten, a name bound nowhere (`k`) is, a built-in (`range`) is not. -/
example :
    let t : SpaceNames := { refs := ["n", "k"] }
    let fn : PyScope := { binds := [] }
    let outer : PyScope := { binds := ["n"], inlined := true }
    let inner : PyScope := { binds := ["j"], inlined := true }
    let b := ["range", "sum"]
    (exportedMeaning Generated.exportReplaceOrder Generated.exportDummyFor b t [fn] "n",
     exportedMeaning Generated.exportReplaceOrder Generated.exportDummyFor b t [inner, outer, fn] "n",
     exportedMeaning Generated.exportReplaceOrder Generated.exportDummyFor b t [inner, outer, fn] "j",
     exportedMeaning Generated.exportReplaceOrder Generated.exportDummyFor b t [inner, outer, fn] "k",
     exportedMeaning Generated.exportReplaceOrder Generated.exportDummyFor b t [inner, outer, fn] "range",
     classifyInnermostOnly "n" (view [inner, outer, fn]))
    = (.target .member, .localVar, .localVar, .target .member, .target .builtin, .global) := by decide +kernel

/-- a lambda inside the comprehension has a table of its own, in which the loop variable is free:
`[(lambda q: q + n)(j) for n in range(n)]` -/
example :
    classify "n" (view [{ binds := ["q"] }, { binds := ["n"], inlined := true }, { binds := [] }]) = .localOrFree ∧
    classify "k" (view [{ binds := ["q"] }, { binds := ["n"], inlined := true }, { binds := [] }]) = .global := by
  decide +kernel

/-! ## 2. arguments and references in (nested) ItemSpaces -/

/-- **`self.k` in an exported (nested) ItemSpace is what modelx's namespace gives (partial).**
For every model-level reference table, every path (any nesting depth, any mixture of
parametrised and static levels, any reuse of parameter names, any own references at every
level, any arguments) and every name: the attribute found on the exported instance is the
entry modelx's chain `cells > innermost arguments > … > outermost arguments > references of
the base space > model-level references` selects – unless a cells of that space bears the
name of a visible argument or reference. -/
theorem item_lookup_eq_modelx_partial (g : Env) (lv : List Level) (hwf : WF lv) (k : String)
    (h : ¬ CellsShadowed Generated.mxAllargsOrder g lv k) :
    exportedLookup Generated.exportCallLoop g lv k =
      mxLookup Generated.mxNamespaceOrder Generated.mxDynRefsOrder Generated.mxAllargsOrder g lv k := by
  cases lv with
  | nil => rfl
  | cons inner outer =>
    have hinv := (after_inv g (inner :: outer) hwf).1 inner.sp k
    simp only [exportedLookup, mxLookup, mxRefLookup, hinv, Generated.mxNamespaceOrder,
      Generated.mxDynRefsOrder, List.map_cons, List.map_nil]
    simp only [CellsShadowed, staticRefs, get_append] at h
    simp only [staticRefs, get_append]
    clear hinv hwf
    generalize argOf Generated.mxAllargsOrder (inner :: outer) k = arg at h ⊢
    generalize get inner.sp.ownRefs k = own at h ⊢
    generalize get g k = glob at h ⊢
    generalize inner.sp.cells.contains k = isCells at h ⊢
    cases arg <;> cases own <;> cases glob <;> cases isCells <;> simp_all [firstSome, Option.orElse]

/-- The full statement is false: in `P[x]` with a cells named `x`, modelx's namespace gives
the cells, the exported instance attribute `x` (the argument) shadows the method. -/
theorem item_lookup_full_statement_fails :
    ¬ ∀ (g : Env) (lv : List Level) (_ : WF lv) (k : String),
      exportedLookup Generated.exportCallLoop g lv k =
        mxLookup Generated.mxNamespaceOrder Generated.mxDynRefsOrder Generated.mxAllargsOrder g lv k := by
  intro h
  have := h [] [{ sp := { params := ["x"], cells := ["x"] }, args := some [1] }]
    (by simp [WF]) "x"
  revert this
  decide +kernel

/-- **Object-valued references in an item denote what they denote in modelx.**  For each of the four
modes a reference can have (`none`: model level) and either position of the target: the generated
`_mx_copy_refs` binds the base's object or the item's counterpart exactly as modelx re-binds the reference.
(Over the chain extracted from `ParentTranslator.ref_copies`; a re-ordered or merged chain changes
`Generated.exportRefCopyRule` and this is re-checked.) -/
theorem ref_copy_matches_modelx (mode : String) (hm : mode ∈ ["none", "absolute", "auto", "relative"])
    (inside : Bool) :
    copiedBinding Generated.exportRefCopyRule mode inside = some (mxBinding mode inside) := by
  revert inside; revert mode; decide +kernel

/-- **Model-level references are never re-bound**: inside every item, also an item of the very tree the
target lies in, the name denotes the static object (the subject of seeded change C15-mutF). -/
theorem model_level_never_rebound (inside : Bool) :
    copiedBinding Generated.exportRefCopyRule "none" inside = some .baseObject := by
  cases inside <;> decide +kernel

/-- with the chain of C15-mutF (`absolute` -> base, everything else -> inside test) a model-level reference
to an object inside the tree is re-bound to the item's object -/
example : copiedBinding [("absolute", "base"), ("*", "inside")] "none" true = some .itemCounterpart ∧
    mxBinding "none" true = .baseObject := by decide +kernel

/-- **The innermost argument wins.**  In `…P[a]…C[b]` where both formulas have a parameter
`k`, code running in `C[b]` (or in a static space below it) sees `b`'s value. -/
theorem innermost_argument_wins (g : Env) (inner : Level) (outer : List Level)
    (hwf : WF (inner :: outer)) (a : List Int) (ha : inner.args = some a) (k : String)
    (hk : k ∈ inner.sp.params) :
    ∃ v, get (inner.sp.params.zip a) k = some v ∧
      exportedLookup Generated.exportCallLoop g (inner :: outer) k = .val v := by
  obtain ⟨v, hv⟩ := get_zip_some inner.sp.params a k hk (hwf.2.1 a ha)
  refine ⟨v, hv, ?_⟩
  have hinv := (after_inv g (inner :: outer) hwf).1 inner.sp k
  simp [exportedLookup, hinv, argOf_cons_some inner outer k a ha, hv, Option.orElse]

/-! ## 3. how a reference value is written (`ParentTranslator.ref_value`) -/

/-- **A source literal is written for exactly the values whose type IS a literal type** - and,
for a float, that are finite.  Instances of strict subclasses (whatever their bases) never take the
literal branch. -/
theorem literal_iff_exact_type (v : PyVal) :
    refValue Generated.exportLiteralTest Generated.exportLiteralTypes v Generated.exportRefValueOrder = .literal
      ↔ (v.iface = false ∧ Generated.exportLiteralTypes.contains v.ty = true ∧
          ¬ (v.ty = "float" ∧ v.finite = false)) := by
  rw [refValue_generated]
  cases v.iface
  · cases v.sysmod <;> cases v.iospec <;> simp
  · cases v.valid <;> simp

/-- an instance of a subclass of a literal type (an enum member, a numpy scalar, a user-defined
`float`) that is neither a modelx object, a module nor IO data is pickled -/
theorem subclass_instance_is_pickled (v : PyVal)
    (hi : v.iface = false) (hm : v.sysmod = false) (ho : v.iospec = false)
    (ht : Generated.exportLiteralTypes.contains v.ty = false) :
    refValue Generated.exportLiteralTest Generated.exportLiteralTypes v Generated.exportRefValueOrder = .pickle := by
  rw [refValue_generated]
  simp only [hi, hm, ho, ht, Bool.false_eq_true, Bool.false_and, ↓reduceIte]

/-- `nan`, `inf` and `-inf` (whose `repr` is a name, not a literal) are pickled -/
theorem nonfinite_float_is_pickled (v : PyVal)
    (hi : v.iface = false) (hm : v.sysmod = false) (ho : v.iospec = false)
    (ht : v.ty = "float") (hf : v.finite = false) :
    refValue Generated.exportLiteralTest Generated.exportLiteralTypes v Generated.exportRefValueOrder = .pickle := by
  rw [refValue_generated]
  simp [hi, hm, ho, ht, hf]

/-- **The imported package binds a value of the same exact type and payload.**  For every value
that is not an invalidated modelx object, given what `ReprModel` assumes of CPython's `repr` of the
five exact literal types.  (Full statement since the repair 3bae90c; before it the hypothesis
`¬ LiteralReprNotExpr` was needed, see `exact_test_fails_on_nan` below.) -/
theorem ref_value_faithful (v : PyVal) (hv : v.iface = true → v.valid = true)
    (hr : ReprModel Generated.exportLiteralTypes v) :
    readBack Generated.exportLiteralTypes
      (refValue Generated.exportLiteralTest Generated.exportLiteralTypes v Generated.exportRefValueOrder) v
      = some (v.ty, v.payload) := by
  rw [refValue_generated]
  unfold ReprModel at hr
  cases hi : v.iface
  · cases hl : Generated.exportLiteralTypes.contains v.ty
    · cases v.sysmod <;> cases v.iospec <;> simp [readBack]
    · have hr' := hr hl
      cases hfin : (v.ty == "float" && !v.finite)
      · simp only [hfin] at hr'
        have hm : v.ty ∈ Generated.exportLiteralTypes := by simpa using hl
        simp [readBack, hm, hr']
      · cases v.sysmod <;> cases v.iospec <;> simp [readBack]
  · simp [hv hi, readBack]

/-- the same without `ReprModel`, for the values whose `repr` evaluates (`LiteralReprNotExpr` is the trigger of
the repaired finding C15-nonfinite-float-ref) and, if floats, are finite -/
theorem ref_value_faithful_partial (v : PyVal) (hv : v.iface = true → v.valid = true)
    (h : ¬ LiteralReprNotExpr Generated.exportLiteralTypes v)
    (hfin : v.ty = "float" → v.finite = true) :
    readBack Generated.exportLiteralTypes
      (refValue Generated.exportLiteralTest Generated.exportLiteralTypes v Generated.exportRefValueOrder) v
      = some (v.ty, v.payload) := by
  rw [refValue_generated]
  unfold LiteralReprNotExpr at h
  have hff : (v.ty == "float" && !v.finite) = false := by
    by_cases hf : v.ty = "float"
    · simp [hf, hfin hf]
    · simp [hf]
  cases hi : v.iface
  · cases hl : Generated.exportLiteralTypes.contains v.ty
    · cases v.sysmod <;> cases v.iospec <;> simp [readBack]
    · cases hr : v.reprEvaluates
      · exact absurd ⟨hl, hr⟩ h
      · have hm : v.ty ∈ Generated.exportLiteralTypes := by simpa using hl
        simp only [hff, Bool.not_false, Bool.and_true, ↓reduceIte, Bool.false_eq_true]
        simp [readBack, hm, hr]
  · simp [hv hi, readBack]

/-- With the test of the code before 3bae90c (`"exact"`: every float is a literal) the statement is
false: `float('nan')` is written as the name `nan`, and the generated module does not import
(finding C15-nonfinite-float-ref, repaired; the witness stays in the corpus). -/
theorem exact_test_fails_on_nan :
    ¬ ∀ (v : PyVal), (v.iface = true → v.valid = true) → ReprModel Generated.exportLiteralTypes v →
      readBack Generated.exportLiteralTypes
        (refValue "exact" Generated.exportLiteralTypes v Generated.exportRefValueOrder) v
        = some (v.ty, v.payload) := by
  intro h
  have := h { ty := "float", bases := ["object"], reprEvaluates := false, finite := false } (by simp)
    (by simp [ReprModel])
  revert this
  decide +kernel

/-! ## Non-vacuity -/

/-- `True` is written as a literal although `bool` derives from `int` (its exact type is listed);
`HTTPStatus.NOT_FOUND` (an `int` through `IntEnum`), `numpy.float64(2.5)` (a `float`) and a user
`Percent(float)` are pickled; `numpy.int64(7)` (no literal base at all) is pickled; `math` is
imported. -/
example :
    ([ { ty := "bool", bases := ["int", "object"] },
       { ty := "http.HTTPStatus", bases := ["enum.IntEnum", "int", "enum.ReprEnum", "enum.Enum", "object"] },
       { ty := "numpy.float64", bases := ["numpy.floating", "numpy.inexact", "numpy.number", "numpy.generic", "float", "object"] },
       { ty := "c15_usertypes.Percent", bases := ["float", "object"] },
       { ty := "numpy.int64", bases := ["numpy.signedinteger", "numpy.integer", "numpy.number", "numpy.generic", "object"] },
       { ty := "module", bases := ["object"], sysmod := true } ] : List PyVal).map
      (fun v => refValue Generated.exportLiteralTest Generated.exportLiteralTypes v Generated.exportRefValueOrder)
    = [.literal, .pickle, .pickle, .pickle, .pickle, .importModule] := by decide +kernel

/-- `1.5` is written as a literal and read back; `nan` is pickled and read back; both meet `ReprModel` -/
example :
    let x : PyVal := { ty := "float", bases := ["object"], payload := 15 }
    let n : PyVal := { ty := "float", bases := ["object"], reprEvaluates := false, finite := false }
    (refValue Generated.exportLiteralTest Generated.exportLiteralTypes x Generated.exportRefValueOrder,
     refValue Generated.exportLiteralTest Generated.exportLiteralTypes n Generated.exportRefValueOrder)
      = (.literal, .pickle) ∧
    ReprModel Generated.exportLiteralTypes x ∧ ReprModel Generated.exportLiteralTypes n := by
  refine ⟨by decide +kernel, ?_, ?_⟩ <;> simp [ReprModel]

/-- with `isinstance` in place of the exact type test (seeded change C15-mutC) the enum member is
written as a literal, and what comes back is not the value: the module does not import when the
`repr` is not an expression, and a plain `float` replaces a `Percent` when it is inherited -/
example :
    let st : PyVal := { ty := "http.HTTPStatus", bases := ["enum.IntEnum", "int", "object"], reprInherited := false }
    let pc : PyVal := { ty := "c15_usertypes.Percent", bases := ["float", "object"], payload := 5 }
    (refValue "isinstance" Generated.exportLiteralTypes st Generated.exportRefValueOrder,
     readBack Generated.exportLiteralTypes .literal st,
     refValue "isinstance" Generated.exportLiteralTypes pc Generated.exportRefValueOrder,
     readBack Generated.exportLiteralTypes .literal pc)
    = (.literal, none, .literal, some ("float", 5)) := by decide +kernel


/-- `P[x, id].Q[y]`, a formula of `Q` reading `id`, `x`, `y`, `len`: on `P[1, 2].Q[3]` all are arguments; on
`P[1, 2].Q` (static) `y` has no value; on `P.Q` none has - `id` is then the built-in, `x` nothing. -/
example :
    let t : SpaceNames := { cells := ["foo"], params := ["y", "x", "id"] }
    let b := ["id", "len"]
    let r := fun bound n => exportedResolveAt Generated.exportReplaceOrder Generated.exportDummyFor
      Generated.exportStaticFallbackFor Generated.exportStaticFallbackUnless b t bound n
    (["id", "x", "y", "len"].map (r ["y", "x", "id"]), ["id", "x", "y", "len"].map (r ["x", "id"]),
     ["id", "x", "y", "len"].map (r []))
    = ([.member, .member, .member, .builtin], [.member, .member, .unbound, .builtin],
       [.builtin, .unbound, .unbound, .builtin]) := by decide +kernel

/-- `len` is a reference, `max` a cells, `sum` nothing: two rewritten, one kept. -/
example :
    let t : SpaceNames := { cells := ["max"], refs := ["len"], spaces := ["Ch"], params := ["x"] }
    (["len", "max", "sum", "Ch", "x", "nope"].map
      (shouldReplace Generated.exportReplaceOrder Generated.exportDummyFor ["len", "max", "sum"] t .global))
      = [true, true, false, true, true, true] := by decide +kernel

/-- `Parent[1].Child[2, 10].GrandChild`: `x` reused by both formulas, `y` only inner, `u` a
reference of `Parent`'s model, `x` also a model-level reference. -/
def demoPath : List Level :=
  [ { sp := { ownRefs := [("w", 5)] } },
    { sp := { params := ["x", "y"], ownRefs := [("y", 7)] }, args := some [2, 10] },
    { sp := { params := ["x"] }, args := some [1] } ]

example : (["x", "y", "w", "u", "zz"].map (exportedLookup Generated.exportCallLoop [("u", 3), ("x", 9)] demoPath))
    = [.val 2, .val 10, .val 5, .val 3, .unbound] := by decide +kernel

example : WF demoPath := by simp [WF, demoPath]

/-- with the two statements of the loop swapped (seeded change C15-mutB) the outer argument wins -/
example : exportedLookup ["copy_refs", "assign_params", "copy_params", "roots_extend", "roots_append"]
    [] demoPath "x" = .val 1 := by decide +kernel

/-! ## 4. the cache methods of the generated classes

`Generated.exportCacheNoParam` / `Generated.exportCacheParam` are the templates `SpaceTranslator.cache_method_noparam`
/ `cache_method` of exporter.py read as programs (tables.cache_method_tokens); the check also reads every cache
method of the generated classes back into the same form (`cm`) and compares.  The theorems are about the programs
as extracted; they depend on how the templates are written only through the decidable checker `cacheWF`
(`generated_cache_methods_wf`), which accepts every arrangement of the statements that behaves as the protocol
demands, so a rearrangement of the templates that keeps the behaviour keeps the proofs. -/

/-- **Every program the checker accepts follows the protocol** - in whatever arrangement its statements are
written (an `else` branch or the statements after a returning `if`, the test negated, the value stored through a
local or directly): for every type of values, every sequence of reads of one element and whatever the formula does
at each of them, the reads show what modelx shows (`specReads`) and the formula is evaluated as often as modelx
evaluates it.  (`Export.cacheOK_of_cacheWF`: the statements never inspect a value or the counter, so four test
reads over `Bool` decide; `Export.reads_eq_spec_of_ok`.) -/
theorem checked_cache_reads_eq_spec (V : Type) (p : CProg) (h : cacheWF p = true) (fs : List (Option V)) :
    CacheOK V p ∧ reads p fs {} = specReads fs none ∧ callsAfter p fs {} = specCalls fs none := by
  have ok := cacheOK_of_cacheWF V p h
  have := reads_eq_spec_of_ok ok fs {} none rfl
  exact ⟨ok, this.1, by rw [this.2]; simp⟩

/-- **The checker is exact**: it accepts a program iff the program follows the protocol for every type of values
(so a rearrangement of a template is accepted exactly when it keeps the behaviour). -/
theorem cache_checker_exact (p : CProg) : cacheWF p = true ↔ ∀ V : Type, CacheOK V p :=
  ⟨fun h V => cacheOK_of_cacheWF V p h, fun h => cacheWF_of_cacheOK p (h Bool)⟩

/-- **The per-run obligation**: the programs extracted from the templates of exporter.py as they are NOW parse and
pass the checker.  (Nothing else in this section depends on how the templates are written.) -/
theorem generated_cache_methods_wf :
    cacheTokensWF Generated.exportCacheNoParam = true ∧ cacheTokensWF Generated.exportCacheParam = true := by
  decide +kernel

/-- Both generated cache methods follow the protocol (`CacheOK`): read by read, from every state of the cache. -/
theorem generated_cache_methods_ok (V : Type) (toks : List String) (p : CProg)
    (hm : toks = Generated.exportCacheNoParam ∨ toks = Generated.exportCacheParam)
    (hp : CProg.ofTokens toks = some p) : CacheOK V p := by
  have hw := generated_cache_methods_wf
  apply cacheOK_of_cacheWF
  rcases hm with rfl | rfl
  · have := hw.1
    simp only [cacheTokensWF, hp] at this
    exact this
  · have := hw.2
    simp only [cacheTokensWF, hp] at this
    exact this

/-- not vacuous: the extracted programs parse -/
example : (CProg.ofTokens Generated.exportCacheNoParam).isSome ∧ (CProg.ofTokens Generated.exportCacheParam).isSome := by
  decide +kernel

/-- the same protocol written in other ways is accepted as well: the statements after a returning `if` instead of
an `else` branch (both templates), the test negated with the branches swapped, the value stored from the local
after the call -/
example : [["ifhas", "retSlot", "else", "end", "evalBoth", "setHas", "retTmp"],
           ["ifhas", "retItem", "else", "end", "evalTmp", "putTmp", "retTmp"],
           ["ifnothas", "evalTmp", "storeTmp", "setHas", "else", "end", "retSlot"],
           ["ifnothas", "evalItem", "else", "end", "retItem"],
           ["ifhas", "retSlot", "else", "evalBoth", "setHas", "retTmp", "end"]].map cacheTokensWF
    = [true, true, true, true, true] := by decide +kernel

/-- ... and what is not the protocol is rejected: the flag raised before the call (C15-mutG), a placeholder stored
before the call, the value never stored, the flag never raised, a stored value recomputed, no return -/
example : [["ifnothas", "setHas", "evalSlot", "else", "end", "retSlot"],
           ["ifhas", "retItem", "else", "putTmp", "evalTmp", "putTmp", "retTmp", "end"],
           ["ifhas", "retSlot", "else", "evalTmp", "setHas", "retTmp", "end"],
           ["ifhas", "retSlot", "else", "evalBoth", "retTmp", "end"],
           ["ifhas", "evalBoth", "retTmp", "else", "evalBoth", "setHas", "retTmp", "end"],
           ["ifhas", "retSlot", "else", "evalBoth", "setHas", "end"],
           ["ifhas", "retSlot", "evalBoth"]].map cacheTokensWF
    = [false, false, false, false, false, false, false] := by decide +kernel

/-- **A failed evaluation stores nothing: the next read evaluates again.**  For both generated cache methods, from
a cache without a value: a read at which the formula raises ends with that exception, leaves the cache without a
value, and the read after it calls the formula again and shows what the formula does THEN (the exception again, or
the value). -/
theorem failed_evaluation_stores_nothing (V : Type) (toks : List String) (p : CProg)
    (hm : toks = Generated.exportCacheNoParam ∨ toks = Generated.exportCacheParam)
    (hp : CProg.ofTokens toks = some p) (s : CSt V) (h : s.has = false) (next : Option V) :
    (runCache p none s).2.has = false ∧
    reads p [none, next] s = [.error, match next with | none => .error | some v => .value (some v)] ∧
    callsAfter p [none, next] s = s.calls + 2 := by
  have ok := generated_cache_methods_ok V toks p hm hp
  have := reads_eq_spec_of_ok ok [none, next] s none h
  refine ⟨(ok.fail s h).2.1, ?_, ?_⟩
  · rw [this.1]; cases next <;> rfl
  · rw [this.2]; cases next <;> rfl

/-- **A successful evaluation is returned unchanged thereafter**, whatever the formula would do if it were called
again (it is not called). -/
theorem stored_value_returned_thereafter (V : Type) (toks : List String) (p : CProg)
    (hm : toks = Generated.exportCacheNoParam ∨ toks = Generated.exportCacheParam)
    (hp : CProg.ofTokens toks = some p) (s : CSt V) (h : s.has = false) (v : V) (later : List (Option V)) :
    reads p (some v :: later) s = (some v :: later).map (fun _ => .value (some v)) ∧
    callsAfter p (some v :: later) s = s.calls + 1 := by
  have ok := generated_cache_methods_ok V toks p hm hp
  have := reads_eq_spec_of_ok ok (some v :: later) s none h
  refine ⟨?_, ?_⟩
  · rw [this.1]
    simp only [specReads, List.map_cons, List.cons.injEq, true_and]
    exact specReads_all_stored later v
  · rw [this.2]; rfl

/-- **The exported cache shows what modelx shows.**  For every sequence of reads of one cached element of an
exported package (without or with parameters: one argument tuple), whatever the formula does at each read
(raise or return): the reads show the exception until the first evaluation that returns and that value from then
on - `specReads`, which is what modelx's own cache does (Exec: `rolledback` leaves no value of a failed
evaluation) - and the formula is evaluated once per read up to that point and never after. -/
theorem exported_cache_reads_eq_spec (V : Type) (toks : List String) (p : CProg)
    (hm : toks = Generated.exportCacheNoParam ∨ toks = Generated.exportCacheParam)
    (hp : CProg.ofTokens toks = some p) (fs : List (Option V)) :
    reads p fs {} = specReads fs none ∧ callsAfter p fs {} = specCalls fs none := by
  have := reads_eq_spec_of_ok (generated_cache_methods_ok V toks p hm hp) fs {} none rfl
  exact ⟨this.1, by rw [this.2]; simp⟩

/-- not vacuous: fails, fails, returns 7, (would fail), (would return 9) -/
example : (CProg.ofTokens Generated.exportCacheNoParam).map
      (fun p => (reads p [none, none, some 7, none, some 9] ({} : CSt Nat),
                 callsAfter p [none, none, some 7, none, some 9] ({} : CSt Nat)))
    = some ([.error, .error, .value (some 7), .value (some 7), .value (some 7)], 3) := by decide +kernel

example : (CProg.ofTokens Generated.exportCacheParam).map
      (fun p => reads p [none, some 7, none] ({} : CSt Nat))
    = some [.error, .value (some 7), .value (some 7)] := by decide +kernel

/-- **Negative witness**: raising the flag BEFORE the formula is called (`if not has: has = True; slot = f()`
followed by `return slot`; seeded change C15-mutG) is not the protocol: after a failed evaluation the next read
returns `None` without evaluating. -/
theorem flag_before_evaluation_fails :
    ∃ p, CProg.ofTokens ["ifnothas", "setHas", "evalSlot", "else", "end", "retSlot"] = some p ∧
      reads p [none, none, some 7] ({} : CSt Nat) = [.error, .value none, .value none] ∧
      cacheWF p = false ∧ ¬ CacheOK Nat p := by
  refine ⟨{ neg := true, thn := [.setHas, .evalSlot], els := [], aft := [.retSlot] }, by decide +kernel, by decide +kernel,
    by decide +kernel, ?_⟩
  intro ok
  have := (ok.fail {} rfl).2.1
  revert this
  decide +kernel

/-- ... and so is storing a placeholder in the dict before the call (`self._v_x[key] = None` first) - here:
`putTmp` before `evalTmp` -/
example : (CProg.ofTokens ["ifhas", "retItem", "else", "putTmp", "evalTmp", "putTmp", "retTmp", "end"]).map
      (fun p => reads p [none, some 7] ({} : CSt Nat)) = some [.error, .value none] := by decide +kernel

end MxModel.C15
