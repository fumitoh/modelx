import MxModel.Props.C03
import MxModel.Props.C02
import MxModel.Proofs.StructMechCor
import MxModel.Proofs.StructMechCoreRun
/-!
# C13 – deletion is complete (structural part)

In derivation from scratch a derived member exists only while a space of the linearisation
defines the name.  Hence every way a deletion is triggered – deleting the defining cells or
reference, removing the base relation, deleting the base space (the linearisation then no
longer contains it) – removes the derived copies that have no other definer, and keeps those
that have one.  That modelx's incremental maintenance agrees with derivation from scratch is
C03's correspondence and, for the mechanism model, the theorem `C03.mech_refines_derivation`; its
consequences for deletion are below (`no_orphan_derived`, `deleted_member_not_defined`,
`deleted_space_leaves_no_trace`).  That old handles raise is decided by the implementation-only
oracle of this check.

**Value layer** (section `values`; mechanism model `Exec/Mech.lean`, proofs in
`Proofs/ExecCertCellsDel.lean`): a cells that does not exist holds nothing and has no node in either
graph – in every reachable state (`reachable_dead_cells_have_nothing`) and right after its deletion
(`deleted_cells_holds_nothing`); no element that depended on it, directly or through other elements,
holds a value after the deletion (`deleted_cells_dependents_hold_nothing`); everything that is not
a descendant of a seed of the deletion keeps its value and its input mark
(`delete_keeps_independent_values`), and the bound is exact (`delete_clears_exactly`).  `St.delCell`
is tied to `SpaceManager.del_cells` by the value-layer correspondence of C02's check (values, trace
graph, reference graph after every operation).
-/
namespace MxModel.C13
open MxModel.C3 MxModel.Struct

variable {α : Type} [DecidableEq α]

/-- **A derived copy does not survive its last definer**: if no space of the linearisation
defines `x` (any more), the space has no derived `x`. -/
theorem derived_gone_without_definer (tail : List α) (defs : α → List String) (own : List String)
    (x : String) (h : ∀ b ∈ tail, x ∉ defs b) : x ∉ (derive tail defs own).map (·.1) := by
  intro hx
  obtain ⟨_, b, hb, hxb⟩ := (C03.derived_iff tail defs own x).mp hx
  exact h b hb hxb

/-- **…and survives as long as another definer remains** (deleting one of two definers, or
removing one of two bases, keeps the derived member, now from the other one). -/
theorem derived_kept_with_other_definer (tail : List α) (defs : α → List String) (own : List String)
    (x : String) (b : α) (hb : b ∈ tail) (hx : x ∈ defs b) (hown : x ∉ own) :
    x ∈ (derive tail defs own).map (·.1) :=
  (C03.derived_iff tail defs own x).mpr ⟨hown, b, hb, hx⟩

/-- **A removed base relation removes the base from the linearisation** unless it is still
reachable through another base: every member of the linearisation is a direct base or a
member of a direct base's linearisation. -/
theorem linearisation_members (bases : α → List α) (d : Nat) (s : α) (r : List α)
    (h : mro bases (d + 1) s = some (s :: r)) (x : α) (hx : x ∈ r) :
    x ∈ bases s ∨ ∃ b ∈ bases s, ∃ lb, mro bases d b = some lb ∧ x ∈ lb :=
  C03.linearisation_only_ancestors bases d s r h x hx

/-! Non-vacuity: `D(B, C)`, `f` defined in `A` and `C`: deleting `C.f` keeps `D.f` (now from `A`),
deleting both removes it. -/
example : (derive ["B", "C", "A"] (fun s => if s = "A" then ["f"] else []) []).map (·.1) = ["f"] := by decide +kernel
example : (derive ["B", "C", "A"] (fun _ => ([] : List String)) []).map (·.1) = [] := by decide +kernel

section mechanism
open MxModel.SM

/-- **No derived member survives without a definer** – in every reachable state, in particular in
the state right after `delCells`, `delRef`, `delSpace` or `removeBases`: a derived member of `q`
is the copy of a definition that exists *now* in a space of `q`'s *current* linearisation. -/
theorem no_orphan_derived (kw : List String) (ops : List Op) (a : Attr) (q : Path) (n : String)
    (m : Member) (hm : (St.run kw {} ops).mem a q n = some m) (hd : m.derived = true) :
    ∃ b ∈ (St.run kw {} ops).tail q, (St.run kw {} ops).defd a b n = some m.payload := by
  obtain ⟨b, hb⟩ := (C03.mech_derived_from_first_definer kw ops a q n).1 m hm hd
  obtain ⟨h1, h2⟩ := firstDef_some _ a _ n b _ hb
  exact ⟨b, h1, h2⟩

/-- **A deleted cells / reference is gone from its space** as a definition; whatever the space
still holds under the name is (by `no_orphan_derived`) the derived copy of another definition. -/
theorem deleted_member_not_defined (kw : List String) (ops : List Op) (a : Attr) (p : Path) (name : String)
    (st' : St) (hop : (St.run kw {} ops).delMember a p name = some st') : st'.defd a p name = none :=
  defd_delMember _ st' (run_inv kw ops).wf.keys a p name hop

/-- … and the copies derived from it alone are gone: after the deletion a sub space has the name
only if it defines it itself or another space of its linearisation does. -/
theorem deleted_member_closure (kw : List String) (ops : List Op) (a : Attr) (p : Path) (name : String)
    (st' : St) (hop : (St.run kw {} ops).delMember a p name = some st') (q : Path)
    (hnone : ∀ b ∈ st'.tail q, st'.defd a b name = none) (hq : st'.defd a q name = none) :
    st'.mem a q name = none := by
  have hinv : Inv st' := inv_delMember _ st' (run_inv kw ops) a p name hop
  rw [hinv.mem_eq_derivation a q name, hq, (firstDef_eq_none st' a _ name).mpr hnone]
  rfl

/-- **A deleted space, with all its descendants, appears in no container, base list or
linearisation**: after an accepted `delSpace p` no space whose id has prefix `p` is a space of the
model, a direct base of a space, or a member of a linearisation. -/
theorem deleted_space_leaves_no_trace (kw : List String) (ops : List Op) (p : Path) (st' : St)
    (hop : (St.run kw {} ops).delSpace p = some st') (r : Path) (hr : isPrefix p r = true) :
    r ∉ st'.ids ∧ (∀ q, r ∉ st'.basesOf q) ∧ (∀ q, r ∉ st'.tail q) ∧
    (∀ a q n m, st'.mem a q n = some m → m.derived = true → ∃ b ∈ st'.tail q, b ≠ r ∧
      st'.defd a b n = some m.payload) := by
  have hinv : Inv st' := inv_delSpace _ st' (run_inv kw ops) p hop
  have hr' : r ∉ st'.ids := by
    intro h
    have := ((ids_delSpace _ st' p hop r).mp h).2
    rw [hr] at this; cases this
  refine ⟨hr', fun q h => hr' (hinv.wf.bases q r h), fun q h => hr' (hinv.wf.tail_mem_ids q r h), ?_⟩
  intro a q n m hm hd
  have hg := hinv.good a q n
  unfold Good1 at hg
  rw [hm] at hg
  obtain ⟨b, hb⟩ := hg hd
  obtain ⟨h1, h2⟩ := firstDef_some st' a _ n b _ hb
  exact ⟨b, h1, fun e => hr' (e ▸ hinv.wf.tail_mem_ids q b h1), h2⟩

/-- the spaces outside the deleted tree stay -/
theorem delete_keeps_the_rest (kw : List String) (ops : List Op) (p : Path) (st' : St)
    (hop : (St.run kw {} ops).delSpace p = some st') (q : Path) (hq : q ∈ (St.run kw {} ops).ids)
    (hnp : isPrefix p q = false) : q ∈ st'.ids :=
  (ids_delSpace _ st' p hop q).mpr ⟨hq, hnp⟩

/-- **Deletion deletes nothing else** (member): exactly the definitions can be deleted
(`delMember_isSome`); after an accepted deletion the spaces, their bases and every OTHER definition -
other names, other spaces, the other kind of member - are what they were.  With `no_orphan_derived` this
fixes the whole state after the deletion. -/
theorem deleted_member_frame (kw : List String) (ops : List Op) (a : Attr) (p : Path) (name : String)
    (st' : St) (hop : (St.run kw {} ops).delMember a p name = some st') :
    st'.ids = (St.run kw {} ops).ids ∧ st'.basesOf = (St.run kw {} ops).basesOf ∧
    st'.globals = (St.run kw {} ops).globals ∧
    ∀ a' q n', ¬ (q = p ∧ a' = a ∧ n' = name) → st'.defd a' q n' = (St.run kw {} ops).defd a' q n' := by
  obtain ⟨hs, hu⟩ := delMember_spec _ st' (run_inv kw ops).wf.keys a p name hop
  refine ⟨hs.ids, hs.basesOf, hs.globals, ?_⟩
  intro a' q n' hc
  rw [hu a' q n']; simp [hc]

/-- **Deletion deletes nothing else** (space): the surviving spaces keep every definition and lose
from their direct bases exactly the removed spaces; the model-level references stay -/
theorem deleted_space_frame (kw : List String) (ops : List Op) (p : Path) (st' : St)
    (hop : (St.run kw {} ops).delSpace p = some st') (q : Path) (hnp : isPrefix p q = false) :
    (∀ a n, st'.defd a q n = (St.run kw {} ops).defd a q n) ∧
    st'.basesOf q = ((St.run kw {} ops).basesOf q).filter (fun b => !((St.run kw {} ops).removedBy p).contains b) ∧
    st'.globals = (St.run kw {} ops).globals := by
  have D := delSpace_spec _ st' (run_inv kw ops).wf.keys p hop
  refine ⟨fun a n => by rw [D.defs a q n]; simp [hnp], by rw [D.basesOf q]; simp [hnp], D.globals⟩

/-! Non-vacuity: `D(B, C)`, `B(A)`, `C(A)`, `f` defined in `A` and `C`; a child `A.K` with a sub
space `E(A.K)`.  Deleting `C.f` keeps `D.f` (now from `A`); deleting `A.f` too removes it;
deleting `A` removes `A` and `A.K` from every base list and linearisation and the members
derived from them. -/
def delOps : List Op := [
  .newSpace [] "A" [] [], .newCells ["A"] "f" "f" 1, .newSpace [] "B" [["A"]] [], .newSpace [] "C" [["A"]] [],
  .setFormula ["C"] "f" 2, .newSpace [] "D" [["B"], ["C"]] [], .newSpace ["A"] "K" [] [],
  .newCells ["A", "K"] "g" "g" 5, .newSpace [] "E" [["A", "K"]] []]

/-- the state `delOps` reaches, evaluated once for the examples that start from it -/
private theorem del_run : St.run [] {} delOps =
    { spaces := [
        ⟨["A"], [], [("f", ⟨false, 1⟩)], []⟩,
        ⟨["B"], [["A"]], [("f", ⟨true, 1⟩)], []⟩,
        ⟨["C"], [["A"]], [("f", ⟨false, 2⟩)], []⟩,
        ⟨["D"], [["B"], ["C"]], [("f", ⟨true, 2⟩)], []⟩,
        ⟨["A", "K"], [], [("g", ⟨false, 5⟩)], []⟩,
        ⟨["E"], [["A", "K"]], [("g", ⟨true, 5⟩)], []⟩] } := by
  decide +kernel

example : (St.run [] {} delOps).mem .cells ["E"] "g" = some { derived := true, payload := 5 } := by
  rw [del_run]; decide +kernel
example : (St.run [] {} (delOps ++ [.delCells ["C"] "f"])).mem .cells ["D"] "f"
    = some { derived := true, payload := 1 } := by
  rw [St.run_append, del_run]; decide +kernel
example : (St.run [] {} (delOps ++ [.delCells ["C"] "f", .delCells ["A"] "f"])).mem .cells ["D"] "f" = none := by
  rw [St.run_append, del_run]; decide +kernel
example : ((St.run [] {} delOps).step [] (.delSpace ["A"])).2 = true := by
  rw [del_run]; decide +kernel
example : (St.run [] {} (delOps ++ [.delSpace ["A"]])).ids = [["B"], ["C"], ["D"], ["E"]] := by
  rw [St.run_append, del_run]; decide +kernel
example : (St.run [] {} (delOps ++ [.delSpace ["A"]])).basesOf ["E"] = [] := by
  rw [St.run_append, del_run]; decide +kernel
example : (St.run [] {} (delOps ++ [.delSpace ["A"]])).mem .cells ["E"] "g" = none := by
  rw [St.run_append, del_run]; decide +kernel
example : (St.run [] {} (delOps ++ [.delSpace ["A"]])).tail ["D"] = [["B"], ["C"]] := by
  rw [St.run_append, del_run]; decide +kernel
example : (St.run [] {} (delOps ++ [.delSpace ["A"]])).mem .cells ["D"] "f"
    = some { derived := true, payload := 2 } := by
  rw [St.run_append, del_run]; decide +kernel

end mechanism

section values
open MxModel.Exec

/-- **A cells that does not exist has nothing** – in ANY state with the certificate invariant: no
element of it is held or marked as input, no node of it (element or object node) is in the trace
graph, no edge touches one, no reference-graph edge ends in one of its elements. -/
theorem dead_cells_have_nothing (env : Env) (lt : Node → Node → Prop) (s : Exec.St) (h : CI env lt s)
    (c : CellId) (hd : env.alive c = false) :
    (∀ n : Node, n.1 = c → lookup s.data n = none ∧ n ∉ s.inputs) ∧
    (∀ x ∈ s.gn, x.cell ≠ c) ∧
    (∀ a b, (a, b) ∈ s.ge → a.cell ≠ c ∧ b.cell ≠ c) ∧
    (∀ e ∈ s.rg, e.2.1 ≠ c) :=
  dead_has_nothing h c hd

/-- …hence in every state reachable by evaluations, value / reference / formula edits and
deletions / creations of cells (the regime of `C02.reachable_ci`). -/
theorem reachable_dead_cells_have_nothing (lt : Node → Node → Prop) (ho : StrictOrder lt) (env0 : Env)
    (hw0 : C02.WF env0 lt) (ops : List C02.Op) (hadm : C02.Admissible lt (env0, {}) ops) (c : CellId)
    (hd : (C02.run (env0, {}) ops).1.alive c = false) :
    (∀ n : Node, n.1 = c → lookup (C02.run (env0, {}) ops).2.data n = none) ∧
    (∀ x ∈ (C02.run (env0, {}) ops).2.gn, x.cell ≠ c) ∧
    (∀ e ∈ (C02.run (env0, {}) ops).2.rg, e.2.1 ≠ c) :=
  have := dead_has_nothing (C02.reachable_ci lt ho env0 hw0 ops hadm).1 c hd
  ⟨fun n hn => (this.1 n hn).1, this.2.1, this.2.2.2⟩

/-- **Right after `del space.c`** (`St.delCell`) nothing of `c` is left: no value, no input mark,
no node, no edge, no reference-graph edge into it. -/
theorem deleted_cells_holds_nothing (env : Env) (lt : Node → Node → Prop) (s : Exec.St) (h : CI env lt s)
    (c : CellId) :
    (∀ n : Node, n.1 = c → lookup (s.delCell env c).data n = none ∧ n ∉ (s.delCell env c).inputs) ∧
    (∀ x ∈ (s.delCell env c).gn, x.cell ≠ c) ∧
    (∀ a b, (a, b) ∈ (s.delCell env c).ge → a.cell ≠ c ∧ b.cell ≠ c) ∧
    (∀ e ∈ (s.delCell env c).rg, e.2.1 ≠ c) := by
  have h' : CI (env.withAlive c false) lt (s.delCell env c) :=
    delCell_ci h (C02.batchEdit_withAlive env c false) (fun c' _ hne => by simp [Env.withAlive, hne])
  exact dead_has_nothing h' c (by simp [Env.withAlive])

/-- **No element that depended on the deleted cells holds a value** – transitively: every
descendant in the trace graph of a node of `c` (an element, or the object node of an uncached `c`)
is gone; read off the certificates: an element whose formula called an element of `c`, directly
or inside an uncached callee, is gone. -/
theorem deleted_cells_dependents_hold_nothing (env : Env) (lt : Node → Node → Prop) (s : Exec.St)
    (h : CI env lt s) (c : CellId) :
    (∀ a y, a ∈ s.gn → a.cell = c → Reach s.ge a y →
      y ∉ (s.delCell env c).gn ∧ ∀ m, y = .elem m → lookup (s.delCell env c).data m = none ∧
        m ∉ (s.delCell env c).inputs) ∧
    (∀ n v tr, Cert env s n v tr → ∀ m : Node, m.1 = c →
      ((∃ w, FEv.call m w ∈ flat n.1 tr) ∨ FEv.ucall m ∈ flat n.1 tr) →
      lookup (s.delCell env c).data n = none) :=
  ⟨fun a y ha hac hr => delCell_descendants s h.gi.edgeOK c a y ha hac hr,
   fun n v tr hcert m hm hev => delCell_callers h c n v tr hcert m hm hev⟩

/-- **Everything else keeps its value.**  The seeds of the deletion of `c` (`DelSeed`): the nodes
of `c`; the COMPUTED elements of the cached cells of `c`'s space (namespace notification – their
inputs are no seeds); the nodes of the uncached cells of `c`'s space.  An element that is not a
descendant of a seed – i.e. neither of `c`, nor computed from `c`, nor a computed element of `c`'s
space or computed from one – has the same value and the same input mark after the deletion. -/
theorem delete_keeps_independent_values (env : Env) (lt : Node → Node → Prop) (s : Exec.St)
    (h : CI env lt s) (c : CellId) (m : Node)
    (hm : ∀ a, DelSeed env s c a → ¬ Reach s.ge a (.elem m)) :
    lookup (s.delCell env c).data m = lookup s.data m ∧ (m ∈ (s.delCell env c).inputs ↔ m ∈ s.inputs) :=
  (delCell_kept s h.gi.edgeOK c (.elem m) hm).data m rfl

/-- **…and exactly that survives**: an element is cleared iff it is a descendant of a seed. -/
theorem delete_clears_exactly (env : Env) (lt : Node → Node → Prop) (s : Exec.St) (h : CI env lt s)
    (c : CellId) (m : Node) :
    ((∃ a, DelSeed env s c a ∧ Reach s.ge a (.elem m)) →
      lookup (s.delCell env c).data m = none ∧ m ∉ (s.delCell env c).inputs) ∧
    ((¬ ∃ a, DelSeed env s c a ∧ Reach s.ge a (.elem m)) →
      lookup (s.delCell env c).data m = lookup s.data m ∧ (m ∈ (s.delCell env c).inputs ↔ m ∈ s.inputs)) :=
  delCell_exact h c m

/-! Non-vacuity (program of `C02.xEnv`: `c0`, uncached `c1`, `c3` in space 0, `c2` in space 1; `c3 → c2 →
c1 → c0`).  After evaluating `c3()`, `c0(5)` and assigning `c2(7) := 1`, `c0(9) := 100`: deleting `c2`
(space 1) clears `c2(1)` and its dependent `c3()`, keeps the elements of `c0` – inputs and computed –
and the state has no node of `c2`; deleting `c0` (space 0) clears every element of `c0`, the input
`c0(9)` included, and – through the notification of space 0 – `c3()`, keeps the input `c2(7)` of the
other space and drops `c2(1)`, which was computed from `c0` through the uncached `c1`. -/
def vState : Env × Exec.St :=
  C02.run (C02.xEnv, {}) [.eval (3, []), .eval (0, [.int 5]), .setValue (2, [.int 7]) (.int 1),
    .setValue (0, [.int 9]) (.int 100)]

example : (vState.2.data.map (·.1)) =
      [(0, [.int 9]), (2, [.int 7]), (0, [.int 5]), (3, []), (2, [.int 1]), (0, [.int 1])] ∧
    ((vState.2.delCell vState.1 2).data.map (·.1)) = [(0, [.int 9]), (0, [.int 5]), (0, [.int 1])] ∧
    ((vState.2.delCell vState.1 2).gn.all (fun x => x.cell != 2)) = true ∧
    ((vState.2.delCell vState.1 0).data.map (·.1)) = [(2, [.int 7])] ∧
    (vState.2.delCell vState.1 0).inputs = [(2, [.int 7])] ∧
    (vState.2.delCell vState.1 0).rg = [] := by
  decide +kernel

end values

section inheritance
open MxModel.SM

/-- **An edit of a member of space `p` – `new_cells`, a new formula, `del_cells` / `del_ref` – changes
the member tables, hence the namespaces, of `p` and of the sub spaces the mechanism walks only**
(`SM.St.touched st p = p :: st.subs p`): every other space has literally the same cells and
references, the spaces, the base relation and the model-level references are unchanged. -/
theorem member_edit_changes_only_touched_spaces (kw : List String) (st st' : SM.St) (p : Path) (name : String)
    (v : Nat) (a0 : Attr)
    (hop : st.newCells kw p name v = some st' ∨ st.setFormula p name v = some st' ∨
      st.delMember a0 p name = some st') :
    SM.Frame st st' p ∧
    (∀ a q n, st'.mem a q n ≠ st.mem a q n → q ∈ st.touched p) ∧
    (∀ (ids : SM.Ids) q, SM.nsOf ids st' q ≠ SM.nsOf ids st q → q ∈ st.touched p) := by
  have hf : SM.Frame st st' p := by
    rcases hop with h | h | h
    · exact newCells_frame kw st st' p name v h
    · exact setFormula_frame st st' p name v h
    · exact delMember_frame st st' a0 p name h
  exact ⟨hf, fun a q n hne => hf.changed_mem a q n hne, fun ids q hne => nsOf_changed_in_touched ids hf q hne⟩

/-- **…so the deletion of a cells that sub spaces inherit leaves no stale value in the sub spaces
either**: the cells that go – the deleted one and its derived copies, `CL` – are cleared by
`clear_obj`; the cells `L` are notified; every cells living in `p` or in a sub space of `p` is
notified or cleared; those not cleared that hold an input still exist.  Then every value held
afterwards is a denotation under the definitions resolved in the NEW namespaces. -/
theorem deleted_member_leaves_no_stale_value_in_subs (se : Exec.SEnv) (ids : SM.Ids) (pathOf : Nat → Path)
    (st st' : SM.St) (p : Path) (name : String) (hop : st.delMember .cells p name = some st')
    (CL L : List Exec.CellId) (lt : Exec.Node → Exec.Node → Prop) (s : Exec.St)
    (h : Exec.CI (SM.withStruct se ids pathOf st).toEnv lt s)
    (hL : ∀ c, pathOf (se.home c) ∈ st.touched p → c ∈ L ∨ c ∈ CL)
    (hinp : ∀ n ∈ s.inputs, pathOf (se.home n.1) ∈ st.touched p → n.1 ∉ CL →
      (SM.withStruct se ids pathOf st').toEnv.alive n.1 = true) :
    Exec.Good (SM.withStruct se ids pathOf st').toEnv
      (Exec.inpOf ((CL.foldl Exec.St.clearObj s).notifyAll (SM.withStruct se ids pathOf st).toEnv L))
      ((CL.foldl Exec.St.clearObj s).notifyAll (SM.withStruct se ids pathOf st).toEnv L) :=
  (SM.mech_edit_cleared_ci se ids pathOf st st' p (delMember_frame st st' .cells p name hop) CL L h hL hinp).good

/-! Non-vacuity: `A` defines `f`; `B(A)` and `D(B)` inherit it, `C` is unrelated.  `A.new_cells("g")`
touches `A`, `B`, `D` – `g` becomes visible there – and nothing of `C`; `del A.f` likewise. -/
def iOps : List SM.Op :=
  [.newSpace [] "A" [] [], .newSpace [] "B" [["A"]] [], .newSpace [] "C" [] [], .newSpace [] "D" [["B"]] [],
   .newCells ["A"] "f" "f" 1, .newCells ["C"] "h" "h" 2]

def iIds : SM.Ids := ⟨fun q x => q.length * 100 + x.length, fun _ _ => 0, fun _ => 0⟩

example : (SM.St.run [] {} iOps).touched ["A"] = [["A"], ["B"], ["D"]] ∧
    (SM.nsOf iIds (SM.St.run [] {} (iOps ++ [.newCells ["A"] "g" "g" 3])) ["D"] "g").isSome = true ∧
    (SM.nsOf iIds (SM.St.run [] {} iOps) ["D"] "g").isSome = false ∧
    (SM.nsOf iIds (SM.St.run [] {} (iOps ++ [.delCells ["A"] "f"])) ["D"] "f").isSome = false ∧
    (SM.nsOf iIds (SM.St.run [] {} iOps) ["D"] "f").isSome = true ∧
    (SM.St.run [] {} (iOps ++ [.newCells ["A"] "g" "g" 3])).cont .cells ["C"] = (SM.St.run [] {} iOps).cont .cells ["C"] := by
  decide +kernel

end inheritance


/-! ## Structure and values together: after a deletion in a base nothing of a derived copy is held

In the combined machine (`Edit/Machine.lean`; `C02.machine_keeps_ci`) a cells identity stands for a
member `(space, name)`; it exists exactly while the structure has that member.  So in every state with
the combined invariant – in particular after `del base.f`, `del model.Base`, `remove_bases`, which make
the DERIVED copies in the sub spaces vanish (`derived_gone_without_definer`) – no element of a pair
that is no member holds a value, is marked as input, or has a node or an edge in either graph. -/
section combined
open MxModel.Exec

/-- **a `(space, name)` that is no cells of the structure holds nothing** -/
theorem nonmember_holds_nothing (P : Edit.Params) (lt : Node → Node → Prop) (w : Edit.W) (h : Edit.CIW P lt w)
    (q : SM.Path) (n : String) (hm : w.sm.mem .cells q n = none) :
    (∀ key : Key, lookup w.ex.data (w.tabs.cid q n, key) = none ∧ (w.tabs.cid q n, key) ∉ w.ex.inputs) ∧
    (∀ x ∈ w.ex.gn, x.cell ≠ w.tabs.cid q n) ∧
    (∀ a b, (a, b) ∈ w.ex.ge → a.cell ≠ w.tabs.cid q n ∧ b.cell ≠ w.tabs.cid q n) ∧
    (∀ e ∈ w.ex.rg, e.2.1 ≠ w.tabs.cid q n) := by
  have hd : (w.env P).alive (w.tabs.cid q n) = false := by
    rw [Edit.alive_cid P w h.alloc q n, hm]; rfl
  obtain ⟨h1, h2, h3, h4⟩ := dead_has_nothing h.ci _ hd
  exact ⟨fun key => h1 (_, key) rfl, h2, h3, h4⟩

/-- the identity of a member does not change when the structure is edited -/
theorem identity_stable (P : Edit.Params) (w : Edit.W) (ha : Edit.AllocOK w.tabs w.sm) (op : Edit.Op)
    (q : SM.Path) (n : String) (hm : (w.sm.mem .cells q n).isSome = true) :
    (Edit.step P w op).tabs.cid q n = w.tabs.cid q n := by
  cases op with
  | struct o =>
    simp only [Edit.step]
    split
    · cases hop : w.sm.apply P.kw o with
      | none => rfl
      | some st' => exact (Edit.ext_grow w.tabs st').cid q n (ha.cells q n hm)
    · rfl
  | eval q' n' key => simp only [Edit.step]; split <;> rfl
  | setValue q' n' key v => simp only [Edit.step]; split <;> rfl
  | clearAt q' n' key => rfl
  | clear q' n' => rfl
  | clearAll q' n' => rfl

/-- **`del base.f`** (`del_cells`): the state after it has the invariant, and every `(q, f)` that is no
member any more – `base` itself unless another base of it defines `f`, and every sub space whose only
definer was `base` – holds nothing, under the identity it had. -/
theorem deleted_base_cells_leaves_nothing_in_subs (P : Edit.Params) (lt : Node → Node → Prop)
    (ho : StrictOrder lt) (w : Edit.W) (p : SM.Path) (name : String) (hw : C02.WF (w.env P) lt)
    (h : Edit.CIW P lt w) (q : SM.Path)
    (hgone : (Edit.step P w (.struct (.delCells p name))).sm.mem .cells q name = none) :
    Edit.CIW P lt (Edit.step P w (.struct (.delCells p name))) ∧
    (∀ key : Key, lookup (Edit.step P w (.struct (.delCells p name))).ex.data
        ((Edit.step P w (.struct (.delCells p name))).tabs.cid q name, key) = none) ∧
    (∀ x ∈ (Edit.step P w (.struct (.delCells p name))).ex.gn,
        x.cell ≠ (Edit.step P w (.struct (.delCells p name))).tabs.cid q name) := by
  have h' := C02.machine_keeps_ci P lt ho w (.struct (.delCells p name)) hw h
  obtain ⟨h1, h2, _, _⟩ := nonmember_holds_nothing P lt _ h' q name hgone
  exact ⟨h', fun key => (h1 key).1, h2⟩

/-- **`del model.Base`** (`del_defined_space`): nothing of any cells of the deleted space or of a space
below it is held -/
theorem deleted_space_leaves_nothing (P : Edit.Params) (lt : Node → Node → Prop) (ho : StrictOrder lt)
    (w : Edit.W) (p : SM.Path) (hw : C02.WF (w.env P) lt) (h : Edit.CIW P lt w)
    (hacc : (w.sm.apply P.kw (.delSpace p)).isSome = true) (q : SM.Path) (hq : SM.isPrefix p q = true)
    (x : String) :
    Edit.CIW P lt (Edit.step P w (.struct (.delSpace p))) ∧
    (∀ key : Key, lookup (Edit.step P w (.struct (.delSpace p))).ex.data
        ((Edit.step P w (.struct (.delSpace p))).tabs.cid q x, key) = none) ∧
    (∀ y ∈ (Edit.step P w (.struct (.delSpace p))).ex.gn,
        y.cell ≠ (Edit.step P w (.struct (.delSpace p))).tabs.cid q x) := by
  have h' := C02.machine_keeps_ci P lt ho w (.struct (.delSpace p)) hw h
  have hgone : (Edit.step P w (.struct (.delSpace p))).sm.mem .cells q x = none := by
    cases hop : w.sm.apply P.kw (.delSpace p) with
    | none => rw [hop] at hacc; cases hacc
    | some st' =>
      have hsm : (Edit.step P w (.struct (.delSpace p))).sm = st' := by
        simp [Edit.step, Edit.supported, hop]
      rw [hsm]
      have D := SM.delSpaceOp_spec w.sm st' (Edit.keysOK_of_inv h.inv) p hop
      apply SM.St.mem_of_not_mem
      intro hin
      have := ((D.ids q).mp hin).2
      rw [hq] at this; cases this
  obtain ⟨h1, h2, _, _⟩ := nonmember_holds_nothing P lt _ h' q x hgone
  exact ⟨h', fun key => (h1 key).1, h2⟩

/-- …in every state the combined machine reaches -/
theorem reachable_nonmembers_hold_nothing (P : Edit.Params) (lt : Node → Node → Prop) (ho : StrictOrder lt)
    (ops : List Edit.Op) (hadm : Edit.Admissible P lt {} ops) (q : SM.Path) (n : String)
    (hm : (Edit.run P {} ops).sm.mem .cells q n = none) (key : Key) :
    lookup (Edit.run P {} ops).ex.data ((Edit.run P {} ops).tabs.cid q n, key) = none :=
  ((nonmember_holds_nothing P lt _ (C02.machine_reachable_ci P lt ho ops hadm).1 q n hm).1 key).1

/-! Non-vacuity (`Edit.dOps`): `Base.f = y * 2`, `Base.y = 1`, `Sub(Base)`; `Sub.f()` is evaluated (2, held
under identity 1); `del Base.f` – `Sub` has no `f` any more and NOTHING is held; `Base.f` is created
again (`y * 3`), `Sub.f()` is 3; `del model.Base` – `Sub` has lost `f` again, nothing is held. -/
example : (Edit.run Edit.eP {} (Edit.dOps.take 5)).ex.data = [((1, []), .int 2)] ∧
    (Edit.run Edit.eP {} (Edit.dOps.take 6)).sm.mem .cells ["Sub"] "f" = none ∧
    (Edit.run Edit.eP {} (Edit.dOps.take 6)).ex.data = [] ∧
    (Edit.run Edit.eP {} (Edit.dOps.take 6)).ex.gn = [] ∧
    (Edit.run Edit.eP {} (Edit.dOps.take 8)).ex.data = [((1, []), .int 3)] ∧
    (Edit.run Edit.eP {} Edit.dOps).sm.mem .cells ["Sub"] "f" = none ∧
    (Edit.run Edit.eP {} Edit.dOps).ex.data = [] ∧ (Edit.run Edit.eP {} Edit.dOps).ex.gn = [] := by
  decide +kernel

example : Edit.CIW Edit.eP Exec.idLt (Edit.run Edit.eP {} Edit.dOps) :=
  (C02.machine_reachable_ci Edit.eP Exec.idLt Exec.idLt_strict Edit.dOps Edit.dOps_admissible).1

example (key : Key) : lookup (Edit.run Edit.eP {} Edit.dOps).ex.data
    ((Edit.run Edit.eP {} Edit.dOps).tabs.cid ["Sub"] "f", key) = none :=
  reachable_nonmembers_hold_nothing Edit.eP Exec.idLt Exec.idLt_strict Edit.dOps Edit.dOps_admissible
    ["Sub"] "f" (by decide +kernel) key

end combined

end MxModel.C13
