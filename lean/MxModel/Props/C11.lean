import MxModel.Kernels.Names
import MxModel.Generated.Tables
import MxModel.Props.C03
import MxModel.Proofs.StructMechBatch
import MxModel.Proofs.StructMechCoreRun
/-!
# C11 – rejected edits change nothing; the inheritance relation stays well-formed

Lean part: the *decision kernels* of the validation – which names are valid, and when a
linearisation exists.  `isValidName` is `is_valid_name` (util.py) with the keyword table
regenerated from the running interpreter; `mro … = none` is `get_mro` raising "inconsistent
hierarchy".  That every rejected edit leaves the *implementation* unchanged is decided by the
implementation-only oracle (complete description before/after every raising operation) –
the places where modelx mutated before it validated were repaired by `fix:` commits (DESIGN.md §6.4).
For the mechanism model (`Struct/Mech.lean`, tied to the code edit by edit) the second half of
the property is a theorem: in every reachable state every direct base exists, every space has a
C3 linearisation and the base relation has no cycle (`reachable_has_linearisation`,
`reachable_bases_exist`, `base_relation_acyclic`, from the invariant `SM.Inv` preserved by all
twelve operations).  Calls that create several cells at once (`new_cells_from_pandas` etc.) are modelled in
`Struct/MechBatch.lean`: the atomic call that checks everything up front (the code since /repo 3927bad)
equals the loop of single creations (the code before) on every reachable state
(`batch_accepted_equals_sequence`), refuses exactly when the loop would stop
(`batch_refused_iff_sequence_refused`), and the loop leaves created cells behind when it stops half-way
(`loop_refused_halfway_differs`).
-/
namespace MxModel.C11
open MxModel.Names MxModel.Generated MxModel.C3

/-- **Only valid identifiers not starting with an underscore become names**: an accepted name
is non-empty, starts with a letter, continues with letters, digits or underscores, and is not
a keyword. -/
theorem valid_name_shape (kw : List String) (s : String) (h : isValidName kw s = true) :
    ∃ c cs, s.toList = c :: cs ∧ c.isAlpha = true ∧ c ≠ '_' ∧ cs.all isIdCont = true ∧ s ∉ kw := by
  unfold isValidName at h
  cases hs : s.toList with
  | nil => rw [hs] at h; cases h
  | cons c cs =>
    rw [hs] at h
    simp only [Bool.and_eq_true, bne_iff_ne, ne_eq, Bool.not_eq_true', List.contains_eq_mem,
      decide_eq_false_iff_not] at h
    obtain ⟨⟨⟨h1, h2⟩, h3⟩, h4⟩ := h
    refine ⟨c, cs, rfl, ?_, h2, h3, h4⟩
    unfold isIdStart at h1
    simp only [Bool.or_eq_true, beq_iff_eq] at h1
    rcases h1 with h1 | h1
    · exact h1
    · exact absurd h1 h2

/-- keywords of the running interpreter, names starting with `_` or a digit, and the empty
name are rejected -/
theorem invalid_names_rejected :
    isValidName pythonKeywords "for" = false ∧ isValidName pythonKeywords "_x" = false ∧
    isValidName pythonKeywords "1a" = false ∧ isValidName pythonKeywords "" = false ∧
    isValidName pythonKeywords "a b" = false ∧ isValidName pythonKeywords "None" = false := by
  decide +kernel

/-- **An accepted base edit leaves a C3 linearisation that respects every direct base**:
whenever `get_mro` returns (does not raise) the result starts with the space and keeps the
order of its bases and of their linearisations. -/
theorem accepted_linearisation_wellformed {α : Type} [DecidableEq α] (bases : α → List α) (d : Nat)
    (s : α) (l : List α) (h : mro bases (d + 1) s = some l) :
    ∃ r, l = s :: r ∧ (bases s).Sublist r := by
  obtain ⟨r, hr⟩ := mro_head bases (d + 1) s l h
  subst hr
  exact ⟨r, rfl, (mro_sublist bases d s r h).1⟩

/-- an inconsistent hierarchy has no linearisation (the edit that would create it is rejected) -/
theorem inconsistent_hierarchy_rejected : mro C03.dBases 5 "E" = none := by decide +kernel

example : isValidName pythonKeywords "Space1" = true := by decide +kernel

section mechanism
open MxModel.SM

/-- **A rejected edit changes nothing** (mechanism model).  NOTE what this is: a fact about the
step function - `apply` returns `none` without a state and `step` returns the state it was given - true
of ANY `apply`.  The model has no intermediate states, so a path of the code that mutates and then raises
cannot be expressed in it; that the CODE validates before it mutates is decided by the before/after
oracle of this check on the real code (such paths were repaired in /repo, among them 178dea2, c332e11,
c933412, 49b981c).  What the model contributes is the explicit refusal criterion: `refused_iff` below, with
`SM.St.accepts` spelled out operation by operation (`Proofs/StructMechEffect.lean`), compared with the
code's accept/refuse by the `smech` correspondence. -/
theorem rejected_edit_changes_nothing (kw : List String) (st : St) (op : Op)
    (h : (st.step kw op).2 = false) : (st.step kw op).1 = st := by
  unfold St.step at h ⊢
  cases hop : st.apply kw op with
  | none => rfl
  | some st' => rw [hop] at h; cases h

/-- **When an edit is rejected**: exactly when the explicit criterion `accepts` fails (each of the
twelve operations has one; e.g. `newCells`: the space exists, the name the cells gets is a valid name and
`_can_add` passes for the space and every sub space) -/
theorem refused_iff (kw : List String) (st : St) (op : Op) :
    (st.step kw op).2 = false ↔ st.accepts kw op = false := by
  rw [← apply_isSome]
  unfold St.step
  cases st.apply kw op <;> simp

/-- **Only valid identifiers not starting with an underscore ever become names**: in every state
reachable by any sequence of operations every component of every space id and every cells and reference
name (defined or derived) is a valid name.  (Not claimed for model-level references: `model.name = value`
tests no name in the code - `ModelImpl.set_attr` - and the property speaks of spaces and cells.)  (`new_cells` with an invalid
explicit name does not raise: the cells gets the name of its formula or an automatic one, which is the
name that is checked - `SM.St.cellsName`.) -/
theorem reachable_names_valid (kw : List String) (ops : List Op) :
    (∀ q ∈ (St.run kw {} ops).ids, ∀ c ∈ q, isValidName kw c = true) ∧
    (∀ a q n, ((St.run kw {} ops).mem a q n).isSome = true → isValidName kw n = true) := by
  have h := run_invN kw ops
  exact ⟨h.names.ids, fun a q n hm => h.names.mems h.toInv a q n hm⟩

/-- **Every accepted edit leaves a C3 linearisation for every space**: in every state reachable by
any sequence of operations, `get_mro` of every space returns (it starts with the space). -/
theorem reachable_has_linearisation (kw : List String) (ops : List Op) (q : Path) :
    ∃ r, (St.run kw {} ops).mro q = some (q :: r) :=
  ⟨_, (run_inv kw ops).wf.mro_all q⟩

/-- every direct base of every space of a reachable state is a space of that state -/
theorem reachable_bases_exist (kw : List String) (ops : List Op) (q b : Path)
    (h : b ∈ (St.run kw {} ops).basesOf q) : b ∈ (St.run kw {} ops).ids :=
  (run_inv kw ops).wf.bases q b h

/-- **…and the base relation acyclic**: no space of a reachable state is reachable from itself
along direct-base relations. -/
theorem base_relation_acyclic (kw : List String) (ops : List Op) (q : Path) :
    ¬ BaseReach (St.run kw {} ops) q q :=
  (run_inv kw ops).wf.acyclic q

/-- the linearisation has no duplicates, and every space reachable along base relations is in it -/
theorem linearisation_nodup_complete (kw : List String) (ops : List Op) (q : Path) :
    (q :: (St.run kw {} ops).tail q).Nodup ∧
    ∀ x, BaseReach (St.run kw {} ops) q x → x ∈ (St.run kw {} ops).tail q :=
  ⟨(run_inv kw ops).wf.tail_nodup q, fun _ hx => (run_inv kw ops).wf.reach_mem_tail hx⟩

/-- the ids of the spaces of a reachable state are distinct, non-empty, and every space's parent exists -/
theorem reachable_tree_wellformed (kw : List String) (ops : List Op) :
    (St.run kw {} ops).ids.Nodup ∧
    ∀ q ∈ (St.run kw {} ops).ids, q ≠ [] ∧ (q.dropLast = [] ∨ q.dropLast ∈ (St.run kw {} ops).ids) :=
  ⟨(run_inv kw ops).wf.nodup, (run_inv kw ops).wf.tree⟩

/-! Non-vacuity: a cyclic base edit, an edit leaving a sub space without linearisation (C3 is not
monotone under removal of a base) and an invalid name are refused; the state is what it was. -/
def chainOps : List Op := [.newSpace [] "A" [] [], .newSpace [] "B" [["A"]] [], .newCells ["A"] "f" "f" 1]

/-- the state `chainOps` reaches, evaluated once for the examples that start from it -/
private theorem chain_run : St.run pythonKeywords {} chainOps =
    { spaces := [
        ⟨["A"], [], [("f", ⟨false, 1⟩)], []⟩,
        ⟨["B"], [["A"]], [("f", ⟨true, 1⟩)], []⟩] } := by
  decide +kernel

example : ((St.run pythonKeywords {} chainOps).step pythonKeywords (.addBases ["A"] [["B"]])).2 = false := by
  rw [chain_run]; decide +kernel
/-- a cells cannot be given an invalid name: `new_cells(name="for")` does not raise, the cells is named after
its formula if that gives a valid name, else automatically (`Cells1`, ...), and is derived under that name -/
example : (St.run pythonKeywords {} (chainOps ++ [.newCells ["A"] "for" "for" 1])).mem .cells ["A"] "for" = none := by
  rw [St.run_append, chain_run]; decide +kernel
example : (St.run pythonKeywords {} (chainOps ++ [.newCells ["A"] "for" "for" 1])).mem .cells ["B"] "Cells1"
    = some { derived := true, payload := 1 } := by
  rw [St.run_append, chain_run]; decide +kernel
example : (St.run pythonKeywords {} (chainOps ++ [.newCells ["A"] "_x" "g" 1])).mem .cells ["A"] "g"
    = some { derived := false, payload := 1 } := by
  rw [St.run_append, chain_run]; decide +kernel
example : (St.run pythonKeywords {} (chainOps ++ [.setRef ["B"] "Cells1" 0, .newCells ["A"] "" "<lambda>" 1,
    .newCells ["A"] "" "" 2])).cont .cells ["A"]
    = [("f", ⟨false, 1⟩), ("Cells2", ⟨false, 1⟩), ("Cells3", ⟨false, 2⟩)] := by
  rw [St.run_append, chain_run]; decide +kernel
example : ((St.run pythonKeywords {} chainOps).step pythonKeywords (.newSpace [] "_x" [] [])).2 = false := by
  rw [chain_run]; decide +kernel
example : ((St.run pythonKeywords {} chainOps).step pythonKeywords (.addBases ["B"] [["A"]])).2 = true := by
  rw [chain_run]; decide +kernel
example : (St.run pythonKeywords {} chainOps).mro ["B"] = some [["B"], ["A"]] := by
  rw [chain_run]; decide +kernel

/-- the history behind repair 75ec125: deleting the space `X` would leave `E` without a linearisation -/
def nonMonotoneOps : List Op := [
  .newSpace [] "X" [] [], .newSpace [] "Y" [] [], .newSpace [] "C" [] [],
  .newSpace [] "B1" [["X"], ["Y"]] [], .newSpace [] "B2" [["C"], ["X"]] [],
  .newSpace [] "D" [["B1"], ["B2"]] [], .newSpace [] "F" [["C"], ["Y"]] [], .newSpace [] "E" [["D"], ["F"]] []]

private theorem nonMonotone_run : St.run [] {} nonMonotoneOps =
    { spaces := [
        ⟨["X"], [], [], []⟩,
        ⟨["Y"], [], [], []⟩,
        ⟨["C"], [], [], []⟩,
        ⟨["B1"], [["X"], ["Y"]], [], []⟩,
        ⟨["B2"], [["C"], ["X"]], [], []⟩,
        ⟨["D"], [["B1"], ["B2"]], [], []⟩,
        ⟨["F"], [["C"], ["Y"]], [], []⟩,
        ⟨["E"], [["D"], ["F"]], [], []⟩] } := by
  decide +kernel

example : ((St.run [] {} nonMonotoneOps).step [] (.delSpace ["X"])).2 = false := by
  rw [nonMonotone_run]; decide +kernel
example : ((St.run [] {} nonMonotoneOps).step [] (.removeBases ["B1"] [["X"]])).2 = false := by
  rw [nonMonotone_run]; decide +kernel
example : (St.run [] {} nonMonotoneOps).mro ["E"] =
    some [["E"], ["D"], ["B1"], ["B2"], ["F"], ["C"], ["X"], ["Y"]] := by
  rw [nonMonotone_run]; decide +kernel

/-! ## Calls that create several cells: all or nothing

`new_cells_from_pandas(df, cells=[...])` / `_csv` before /repo 3927bad ran a loop of single `new_cells` calls
(`SM.St.newCellsLoop`; `SM.St.newCellsSeq` is the same without the half-way state).  Since that repair they are
the atomic call `SM.St.newCellsBatch`: every check (`SM.St.batchOk`: names pairwise distinct, and each passes
the checks of a single `new_cells`) is made in the state the call was given, then everything is created.
The theorems say that the two are the same function on every reachable state - so an implementation
may check up front exactly `batchOk` and nothing else - and that they differ only in what a refused call
leaves behind: the batch leaves the state it was given, the loop leaves the cells created so far. -/

/-- the state of the examples: spaces `A` and `B(A)`, cells `A.f` (derived in `B`) -/
def batchSt : St := St.run pythonKeywords {} chainOps

/-- **`new_cells` is its checks followed by an unchecked mutation**: the space exists, the name is valid and
`_can_add` passes, then `putCells` (put the cells, derive it in the sub spaces) -/
theorem new_cells_is_check_then_put (kw : List String) (st : St) (p : Path) (name : String) (v : Nat) :
    st.newCells kw p name v = if st.acceptsNewCells kw p name then some (st.putCells p name v) else none :=
  newCells_eq kw st p name v

example : batchSt.acceptsNewCells pythonKeywords ["A"] "g" = true ∧
    batchSt.acceptsNewCells pythonKeywords ["A"] "f" = false := by
  rw [batchSt, chain_run]; decide +kernel

/-- **A refused batch changes nothing.**  NOTE what this is: like `rejected_edit_changes_nothing`, a fact
about the type of `batchStep` - a refused call returns the state it was given - true of any
`newCellsBatch`.  The content is in the companions below: WHICH calls are refused
(`batch_refused_iff_sequence_refused`), that an accepted batch is the loop of the code
(`batch_accepted_equals_sequence`), and that the loop does NOT have this property
(`loop_refused_halfway_differs`). -/
theorem batch_refused_changes_nothing (kw : List String) (st : St) (p : Path) (es : List (String × Nat))
    (h : (st.batchStep kw p es).2 = false) : (st.batchStep kw p es).1 = st := by
  unfold St.batchStep at h ⊢
  cases hb : st.newCellsBatch kw p es with
  | none => rfl
  | some st' => rw [hb] at h; cases h

example : (batchSt.batchStep pythonKeywords ["A"] [("g", 1), ("f", 2)]).2 = false := by
  rw [batchSt, chain_run]; decide +kernel
example : (batchSt.batchStep pythonKeywords ["A"] [("g", 1), ("h", 2)]).2 = true := by
  rw [batchSt, chain_run]; decide +kernel

/-- **The atomic call and the loop of the code are the same function** (accept the same calls, build the
same state), in every state without a space of empty id.  The hypothesis is needed: `_can_add` with the
empty parent looks at child spaces and model-level references only, so in a state that had a space `[]`
the loop would create the same name twice (the example after the theorem); no reachable state has such a
space (`batch_accepted_equals_sequence`). -/
theorem batch_accepted_equals_sequence_partial (kw : List String) (st : St) (p : Path)
    (es : List (String × Nat)) (hroot : st.has [] = false) :
    st.newCellsBatch kw p es = st.newCellsSeq kw p es :=
  newCellsBatch_eq_seq kw p es st hroot

/-- the hypothesis of `batch_accepted_equals_sequence_partial` cannot be dropped -/
example :
    let st : St := { spaces := [{ id := [], bases := [], cells := [], refs := [] }] }
    (st.newCellsSeq [] [] [("a", 1), ("a", 2)]).isSome = true ∧
    (st.newCellsBatch [] [] [("a", 1), ("a", 2)]).isSome = false := by decide +kernel

/-- **The atomic call and the loop of the code are the same function on every reachable state**: for every
sequence of operations, every space and every list of names and formulas, checking everything up front
in the state of the call and then creating everything gives what the loop of single `new_cells` calls
gives - refused when the loop would stop (at the start or half-way), and otherwise the same state. -/
theorem batch_accepted_equals_sequence (kw : List String) (ops : List Op) (p : Path)
    (es : List (String × Nat)) :
    (St.run kw {} ops).newCellsBatch kw p es = (St.run kw {} ops).newCellsSeq kw p es :=
  newCellsBatch_eq_seq kw p es _ (run_no_root kw ops)

example : (batchSt.newCellsBatch pythonKeywords ["A"] [("g", 1), ("h", 2)]).map (fun s => s.cont .cells ["B"])
    = some [("f", ⟨true, 1⟩), ("g", ⟨true, 1⟩), ("h", ⟨true, 2⟩)] := by
  rw [batchSt, chain_run]; decide +kernel
example : (batchSt.newCellsSeq pythonKeywords ["A"] [("g", 1), ("h", 2)]).map (fun s => s.cont .cells ["B"])
    = some [("f", ⟨true, 1⟩), ("g", ⟨true, 1⟩), ("h", ⟨true, 2⟩)] := by
  rw [batchSt, chain_run]; decide +kernel

/-- the accepted case spelled out: when the up-front check passes, the loop goes through and builds all
the creations applied one after the other -/
theorem batch_accepted_sequence_accepted (kw : List String) (ops : List Op) (p : Path)
    (es : List (String × Nat)) (h : (St.run kw {} ops).batchOk kw p es = true) :
    (St.run kw {} ops).newCellsSeq kw p es = some ((St.run kw {} ops).putCellsAll p es) := by
  rw [← batch_accepted_equals_sequence]
  unfold St.newCellsBatch
  rw [h]; rfl

/-- **The batch refuses exactly the calls whose loop would stop** (at the first creation or after some
were made), in every state without a space of empty id -/
theorem batch_refused_iff_sequence_refused_partial (kw : List String) (st : St) (p : Path)
    (es : List (String × Nat)) (hroot : st.has [] = false) :
    st.newCellsBatch kw p es = none ↔ st.newCellsSeq kw p es = none := by
  rw [batch_accepted_equals_sequence_partial kw st p es hroot]

/-- **The batch refuses exactly the calls whose loop would stop**, in every reachable state; in terms of
the loop with its half-way state: exactly the calls for which the loop returns `false` -/
theorem batch_refused_iff_sequence_refused (kw : List String) (ops : List Op) (p : Path)
    (es : List (String × Nat)) :
    ((St.run kw {} ops).newCellsBatch kw p es = none ↔ (St.run kw {} ops).newCellsSeq kw p es = none) ∧
    ((St.run kw {} ops).newCellsBatch kw p es = none ↔ ((St.run kw {} ops).newCellsLoop kw p es).2 = false) := by
  rw [batch_accepted_equals_sequence, newCellsSeq_eq_loop]
  refine ⟨Iff.rfl, ?_⟩
  cases ((St.run kw {} ops).newCellsLoop kw p es).2 <;> simp

example : batchSt.newCellsBatch pythonKeywords ["A"] [("g", 1), ("f", 2)] = none ∧
    batchSt.newCellsSeq pythonKeywords ["A"] [("g", 1), ("f", 2)] = none := by
  rw [batchSt, chain_run]; decide +kernel
/-- a name given twice in one call: refused by both -/
example : batchSt.newCellsBatch pythonKeywords ["A"] [("g", 1), ("g", 2)] = none ∧
    batchSt.newCellsSeq pythonKeywords ["A"] [("g", 1), ("g", 2)] = none := by
  rw [batchSt, chain_run]; decide +kernel
/-- a name that a sub space uses for a reference, an invalid name, a space that does not exist -/
example : (St.run pythonKeywords {} (chainOps ++ [.setRef ["B"] "r" 0])).newCellsBatch pythonKeywords ["A"]
    [("g", 1), ("r", 2)] = none ∧
    batchSt.newCellsBatch pythonKeywords ["A"] [("g", 1), ("for", 2)] = none ∧
    batchSt.newCellsBatch pythonKeywords ["C"] [("g", 1)] = none := by
  rw [batchSt, St.run_append, chain_run]; decide +kernel

/-- **In an accepted batch every single creation is accepted where the loop makes it**: the k-th passes
the checks of `new_cells` in the state the first k creations left (and the loop builds `putCellsAll`) -/
theorem batch_accepted_each_accepted_partial (kw : List String) (st : St) (p : Path)
    (es : List (String × Nat)) (hroot : st.has [] = false) (h : st.batchOk kw p es = true) :
    ∀ (k : Nat) (hk : k < es.length), (st.putCellsAll p (es.take k)).acceptsNewCells kw p es[k].1 = true := by
  have hs : st.newCellsSeq kw p es = some (st.putCellsAll p es) := by
    rw [← batch_accepted_equals_sequence_partial kw st p es hroot]
    unfold St.newCellsBatch
    rw [h]; rfl
  exact (newCellsSeq_some kw p es st _ hs).2

/-- the same in every reachable state -/
theorem batch_accepted_each_accepted (kw : List String) (ops : List Op) (p : Path)
    (es : List (String × Nat)) (h : (St.run kw {} ops).batchOk kw p es = true) :
    ∀ (k : Nat) (hk : k < es.length),
      ((St.run kw {} ops).putCellsAll p (es.take k)).acceptsNewCells kw p es[k].1 = true :=
  batch_accepted_each_accepted_partial kw _ p es (run_no_root kw ops) h

example : batchSt.batchOk pythonKeywords ["A"] [("g", 1), ("h", 2)] = true ∧
    (batchSt.putCellsAll ["A"] [("g", 1)]).acceptsNewCells pythonKeywords ["A"] "h" = true := by
  rw [batchSt, chain_run]; decide +kernel

/-- **The loop of the code does not have the property**: whenever its first creation is accepted, the state
the loop leaves - also when it stops at a later creation and returns `false` - has the first cells, which
the state of the call did not have; so a call refused half-way has changed the model.  (The statement does
not need the refusal as a hypothesis; the refused case is the one of interest and the example below is one.
This is the defect the before/after oracle looks for in the code.) -/
theorem loop_refused_halfway_differs (kw : List String) (ops : List Op) (p : Path) (e : String × Nat)
    (es : List (String × Nat)) (hok : (St.run kw {} ops).acceptsNewCells kw p e.1 = true) :
    (((St.run kw {} ops).newCellsLoop kw p (e :: es)).1.mem .cells p e.1).isSome = true ∧
    (St.run kw {} ops).mem .cells p e.1 = none ∧
    ((St.run kw {} ops).newCellsLoop kw p (e :: es)).1 ≠ St.run kw {} ops :=
  loop_refused_differs kw _ p e es (run_no_root kw ops) hok

/-- the loop on a call whose second name clashes: refused, and `g` is there - in `A` and derived in `B` -/
example : (batchSt.newCellsLoop pythonKeywords ["A"] [("g", 1), ("f", 2)]).2 = false ∧
    (batchSt.newCellsLoop pythonKeywords ["A"] [("g", 1), ("f", 2)]).1.mem .cells ["A"] "g" = some ⟨false, 1⟩ ∧
    (batchSt.newCellsLoop pythonKeywords ["A"] [("g", 1), ("f", 2)]).1.mem .cells ["B"] "g" = some ⟨true, 1⟩ ∧
    batchSt.mem .cells ["A"] "g" = none ∧ batchSt.mem .cells ["B"] "g" = none := by
  rw [batchSt, chain_run]; decide +kernel
/-- the batch on the same call: refused, and the state is the one it was given -/
example : (batchSt.batchStep pythonKeywords ["A"] [("g", 1), ("f", 2)]).2 = false ∧
    (batchSt.batchStep pythonKeywords ["A"] [("g", 1), ("f", 2)]).1.mem .cells ["A"] "g" = none := by
  rw [batchSt, chain_run]; decide +kernel

/-! ### the calls that created the space first

`import_module` / `new_space_from_module` before /repo b701fb3 created the space and looked at the functions of
the module afterwards (`SM.St.newSpaceModule`, the `spacemodule` line of the `smech` driver); since that repair
the functions are checked first (`SM.St.newSpaceModuleChecked`, the `spacemodulechecked` line; the harness asks
the code which of the two it is).  `new_space_from_pandas` (since /repo 3927bad) checks the names first
(`SM.St.newSpaceBatch`). -/

/-- **The space-first call is not atomic** (finding C11-import-module-space-first, repaired in /repo b701fb3, as a
statement about the model of the code before the repair): when the space can be created and the module is then
refused, the call reports a refusal and returns the state WITH the new space - not the state it was given. -/
theorem space_first_refusal_leaves_space (kw : List String) (st st1 : St) (parent : Path) (name : String)
    (bases : List Path) (es : List (String × Nat))
    (h1 : st.newSpaceRefs kw parent name bases [] = some st1)
    (h2 : st1.moduleBatch kw (parent ++ [name]) es = none) :
    st.newSpaceModule kw parent name bases es = (st1, false) := by
  simp [St.newSpaceModule, h1, h2]

/-- a model-level reference `g`; a module with the functions `a` and `g` -/
def globalSt : St := St.run pythonKeywords {} (chainOps ++ [.setGlobal "g"])

example : (globalSt.newSpaceModule pythonKeywords [] "T" [["A"]] [("a", 1), ("g", 2)]).2 = false ∧
    (globalSt.newSpaceModule pythonKeywords [] "T" [["A"]] [("a", 1), ("g", 2)]).1.has ["T"] = true ∧
    globalSt.has ["T"] = false := by
  rw [globalSt, St.run_append, chain_run]; decide +kernel

/-- the names-first call refuses the same request without a trace; both accept the same good request -/
example : globalSt.newSpaceBatch pythonKeywords [] "T" [("a", 1), ("g", 2)] = none ∧
    (globalSt.newSpaceBatch pythonKeywords [] "T" [("a", 1), ("h", 2)]).isSome = true ∧
    (globalSt.newSpaceModule pythonKeywords [] "T" [["A"]] [("a", 1), ("h", 2)]).2 = true := by
  rw [globalSt, St.run_append, chain_run]; decide +kernel

/-- **A refused `new_cells_from_module` / `new_space_from_pandas` changes nothing** (by the type of the step, as
`batch_refused_changes_nothing`; that the CODE does what the model says is the `smech` correspondence) -/
theorem module_refused_changes_nothing (kw : List String) (st : St) (p : Path) (es : List (String × Nat))
    (h : (st.moduleStep kw p es).2 = false) : (st.moduleStep kw p es).1 = st := by
  unfold St.moduleStep at h ⊢
  cases hop : st.moduleBatch kw p es with
  | none => rfl
  | some st' => rw [hop] at h; cases h

example : (batchSt.moduleStep pythonKeywords ["B"] [("f", 5), ("h", 2)]).2 = true ∧
    (globalSt.moduleStep pythonKeywords ["A"] [("a", 1), ("g", 2)]).2 = false := by
  rw [globalSt, batchSt, St.run_append, chain_run]; decide +kernel


end mechanism

end MxModel.C11
