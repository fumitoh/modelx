import MxModel.Proofs.ExecTrace
import MxModel.Proofs.ExprProper
import MxModel.Proofs.ExecFrame
import MxModel.Exec.Expr
/-!
# C17 – the error traceback is exactly the chain that was executing

Model: `CallStack.rollback` (records the node with the identity of the propagating
exception), `_start_exec` / `ErrorStack` (keeps the entries of the escaping exception,
outermost first, and empties the list) as repaired by 70e3f8f (C17-rolledback-leak in
known_findings.json).  The ghost field `excStack` is the call stack at the moment the most
recent exception object was created.

Identities: `excCount` numbers the exception objects; `curExc` is the one that propagates.  A call
that returns leaves the caller's `curExc` as it was (`keepExc` in `eval_node`), which is what makes
the blocks `except …: audit(x); raise` and `finally: audit(x)` right: the exception that goes on
after the block is the one that was caught, whatever `audit` raised and handled inside.
-/
namespace MxModel.C17
open MxModel.Exec

/-- **`get_traceback()` lists exactly the elements whose formulas were executing when the
exception that escaped was raised, outermost first, and `get_error()` is that exception** –
for every environment of proper formula behaviours (including any handling of earlier
failures inside the evaluation), every element, every quiescent state. -/
theorem traceback_is_chain (env : Env) (hp : ProperEnv env) (n : Node) (s : St)
    (hq : Quiescent s) (e : Err) (tb : List Node)
    (hfail : (evalTop env n s).1 = .formulaError e tb) :
    tb = (evalTop env n s).2.excStack ∧
    (evalTop env n s).2.lastTb = tb ∧ (evalTop env n s).2.lastErr = some e := by
  have hs := evalTop_step env n s
  generalize evalTop env n s = q at hs hfail ⊢
  cases hs with
  | held v _ _ => cases hfail
  | ok v s1 _ _ => cases hfail
  | err e' s1 _ hr =>
    have ht := runN_tr env hp (env.maxdepth + 1) n s
    rw [hr] at ht
    obtain ⟨suf, hsuf, _, herr⟩ := ht.suffix
    obtain ⟨_, _, _, hchain⟩ := herr rfl
    simp only [hq.stack, List.length_nil, List.drop_zero] at hchain
    rw [hq.rolledback, List.nil_append] at hsuf
    cases hfail
    refine ⟨?_, rfl, rfl⟩
    show ((s1.rolledback.filter (fun x => x.2 == s1.curExc)).map (·.1)).reverse = s1.excStack
    rw [hsuf]
    have := congrArg List.reverse hchain
    simpa [chainOf] using this

/-- the last node rolled back by a failing `_eval_formula` is the node itself … -/
theorem runN_err_last (env : Env) (d : Nat) (n : Node) (s : St) (e : Err)
    (h : (runN env (d + 1) n s).1 = .err e) :
    (runN env (d + 1) n s).2.rolledback.getLast? =
      some (n, (runN env (d + 1) n s).2.curExc) := by
  have hcl := runN_succ env d n s
  generalize runBody _ _ _ _ = p at hcl
  generalize runN env (d + 1) n s = q at hcl h ⊢
  cases hcl with
  | fail e' s1 => exact rollback_last s1 n
  | noneRet s1 _ _ => exact rollback_last s1.newExc n
  | stored v s1 _ _ => cases h
  | uncached v s1 _ => cases h

/-- … hence **the traceback starts with the element that was called** (outermost first). -/
theorem traceback_outermost_first (env : Env) (n : Node) (s : St) (e : Err) (tb : List Node)
    (hfail : (evalTop env n s).1 = .formulaError e tb) : tb.head? = some n := by
  have hs := evalTop_step env n s
  generalize evalTop env n s = q at hs hfail
  cases hs with
  | held v _ _ => cases hfail
  | ok v s1 _ _ => cases hfail
  | err e' s1 _ hr =>
    have h := runN_err_last env env.maxdepth n s e' (by rw [hr])
    rw [hr] at h
    cases hfail
    -- the last entry carries the current identity, so it is the last of the filtered list
    rcases List.eq_nil_or_concat s1.rolledback with hnil | ⟨init, x, hx⟩
    · rw [hnil] at h; cases h
    · show (((s1.rolledback.filter (fun x => x.2 == s1.curExc)).map (·.1)).reverse).head? = some n
      rw [hx] at h ⊢
      simp only [List.concat_eq_append, List.getLast?_append, List.getLast?_singleton,
        Option.some_or, Option.some.injEq] at h
      subst h
      simp [List.filter_append]

/-- **Between top-level calls nothing is left of earlier failures**: the roll-back list is
empty whenever the executor is idle, so a traceback can only consist of nodes rolled back
during the most recent call. -/
theorem quiescent_between_calls (env : Env) (n : Node) (s : St) (hq : Quiescent s) :
    (evalTop env n s).2.rolledback = [] :=
  (evalTop_quiescent env n s hq).rolledback

/-! Non-vacuity (the scenario of the repaired defect): `c0` catches the failure of `c1`
(which failed through `c3`), then calls `c2`, which fails: the traceback is `[c0, c2]`. -/
def tCells : CellId → Option Expr
  | 0 => some (.add (.try_ (.call 1 []) .all (.lit 0)) (.call 2 []))
  | 1 => some (.call 3 [])
  | 2 => some (.raise kKey)
  | 3 => some (.raise kValue)
  | _ => none

def tEnv : Env where
  formula := fun n => match tCells n.1 with
    | some e => formulaOf (fun c => (tCells c).map (fun _ => 0)) e n.2
    | none => .raise (.user kName)
  cached := fun _ => true
  allowNone := fun _ => false
  refs := fun _ => .none
  maxdepth := 10

example : (evalTop tEnv (0, []) {}).1 = .formulaError (.user kKey) [(0, []), (2, [])] := by decide +kernel

/-! The same kind three times: `c0` handles a `ValueError` of `c3`, handles another one that came through
`c4 → c3`, and then fails with a third `ValueError` through `c4 → c3`.  The kinds cannot tell the three
failures apart, and the handled ones unwound the very elements the escaping one unwinds; the identity of
the exception kept with every rolled-back element does: the traceback is `[c0, c4, c3]`, once. -/
def uCells : CellId → Option Expr
  | 0 => some (.add (.try_ (.call 3 []) .all (.lit 0))
            (.add (.try_ (.call 4 []) (.user kValue) (.lit 0)) (.call 4 [])))
  | 3 => some (.raise kValue)
  | 4 => some (.call 3 [])
  | _ => none

def uEnv : Env where
  formula := fun n => match uCells n.1 with
    | some e => formulaOf (fun c => (uCells c).map (fun _ => 0)) e n.2
    | none => .raise (.user kName)
  cached := fun c => c != 4
  allowNone := fun _ => false
  refs := fun _ => .none
  maxdepth := 10

example : (evalTop uEnv (0, []) {}).1 = .formulaError (.user kValue) [(0, []), (4, []), (3, [])] := by decide +kernel
example : ((runN uEnv 11 (0, []) {}).2.rolledback.map (·.1)) =
    [(3, []), (3, []), (4, []), (3, []), (4, []), (0, [])] := by decide +kernel
/-- `ProperEnv` is not a restriction on the formulas of the grammar: every compiled formula is
proper (`formulaOf_proper`), so the theorem applies to every program the driver runs. -/
theorem grammar_env_is_proper (cells : CellId → Option Expr) (ar : CellId → Option Nat)
    (env : Env) (hf : ∀ n, env.formula n = match cells n.1 with
      | some e => formulaOf ar e n.2
      | none => .raise (.user kName)) : ProperEnv env := by
  intro n
  rw [hf n]
  split
  · exact formulaOf_proper ar _ _
  · simp [Proper, ProperL]

example : ProperEnv tEnv := grammar_env_is_proper tCells _ tEnv (fun _ => rfl)
example : ProperEnv uEnv := grammar_env_is_proper uCells _ uEnv (fun _ => rfl)

/-! ### Limitation: a deferred re-raise of an EARLIER exception is outside the model

`Prog.reraise` continues the exception that is current (`St.curExc`): the one just received from a
failed call or – after calls that RETURNED (`keepExc`) – the one that was being handled.  What it cannot
express is Python's `except E as e: <a call that FAILS and is handled inside the block>; raise e`: the
handled failure of the block leaves ITS exception current in the model, while Python re-raises the
object `e`.  `rrEnv` below is such a program and it is `ProperEnv` (the theorems apply to it and are
true OF THE MODEL: the traceback is the chain of the model's current exception, `[c0, c2]`) – but
modelx answers `[c0, c1, c3]` (`notes/EXECP-repro_deferred_reraise.py`; `CallStack.rollback` tags with
`sys.exc_info()[1]`, which is `e`).  So the class in which the model describes Python is smaller than
`ProperEnv`: on the grammar it is `blocksSimple` (`Exec/Expr.lean`: the block of `tryRe` / `tryFin`
contains no `try` of its own) – the driver refuses programs outside it, and `Expr` has no construct
that binds an exception to a name, so no generated program is affected; a formula written by hand as
above is not covered by C17's theorems in any meaningful way.  Removing the limitation needs the
identity of the propagating exception in `Res.err` / `reraise`. -/

def rrEnv : Env where
  formula := fun n => match n.1 with
    | 0 => .call (1, []) (fun r1 => match r1 with
        | .ok v => .ret v
        | .err e1 => .call (2, []) (fun _ => .reraise e1))
    | 1 => .call (3, []) (fun r => match r with | .ok v => .ret v | .err e => .reraise e)
    | 2 => .raise (.user kKey)
    | _ => .raise (.user kValue)
  cached := fun _ => true
  allowNone := fun _ => false
  refs := fun _ => none
  maxdepth := 10

/-- **the model's answer for a deferred re-raise**: the error carried is the `ValueError` of `c3`, the
traceback is the chain of the `KeyError` of `c2` – where modelx reports `[c0, c1, c3]`.  The program is
`ProperEnv`: the hypothesis of `traceback_is_chain` does not exclude it; what excludes it from the
claim is the correspondence (class `blocksSimple`). -/
theorem deferred_reraise_outside_model :
    ProperEnv rrEnv ∧
    (evalTop rrEnv (0, []) {}).1 = .formulaError (.user kValue) [(0, []), (2, [])] := by
  refine ⟨?_, by decide +kernel⟩
  intro n
  show ProperL false (match n.1 with
    | 0 => Prog.call (1, []) (fun r1 => match r1 with
        | .ok v => .ret v
        | .err e1 => .call (2, []) (fun _ => .reraise e1))
    | 1 => .call (3, []) (fun r => match r with | .ok v => .ret v | .err e => .reraise e)
    | 2 => .raise (.user kKey)
    | _ => .raise (.user kValue))
  split
  · exact ⟨fun _ => trivial, fun _ => ⟨fun _ => rfl, fun _ => rfl⟩⟩
  · exact ⟨fun _ => trivial, fun _ => rfl⟩
  · trivial
  · trivial

/-! ### A cells evaluated while an exception passes through: `except …: audit(x); raise`, `finally:`

`vCells`: `c0 = c1() + 1`; `c1 = try: c3() except ValueError: c2(); raise`; `c2` (the audit) handles a
`KeyError` of `c4` itself and returns; `c3` raises `ValueError`; `c5 = try: c6() finally: c2()` with
`c6` returning `None` where that is not allowed.  The exception that leaves `c1` after the block is
the `ValueError` of `c3` – not the `KeyError` that was raised and handled inside `c2` in between –
so the traceback is `[c0, c1, c3]`; and `[c5, c6]` for the `finally` block. -/
def vCells : CellId → Option Expr
  | 0 => some (.add (.call 1 []) (.lit 1))
  | 1 => some (.tryRe (.call 3 []) (.user kValue) (.call 2 []))
  | 2 => some (.try_ (.call 4 []) .all (.lit 0))
  | 3 => some (.raise kValue)
  | 4 => some (.raise kKey)
  | 5 => some (.tryFin (.call 6 []) (.call 2 []))
  | 6 => some .none
  | 7 => some (.tryRe (.call 3 []) .all (.call 4 []))
  | _ => none

def vEnv : Env where
  formula := fun n => match vCells n.1 with
    | some e => formulaOf (fun c => (vCells c).map (fun _ => 0)) e n.2
    | none => .raise (.user kName)
  cached := fun _ => true
  allowNone := fun _ => false
  refs := fun _ => .none
  maxdepth := 10

example : ProperEnv vEnv := grammar_env_is_proper vCells _ vEnv (fun _ => rfl)
example : (evalTop vEnv (0, []) {}).1 = .formulaError (.user kValue) [(0, []), (1, []), (3, [])] := by decide +kernel
-- the audit completed: its value is kept, and its own handled failure left four roll-back entries
-- in all (c3; c4 for the handled KeyError; c1; c0)
example : (evalTop vEnv (0, []) {}).2.data = [((2, []), .int 0)] := by decide +kernel
example : ((runN vEnv 11 (0, []) {}).2.rolledback) =
    [((3, []), 1), ((4, []), 2), ((1, []), 1), ((0, []), 1)] := by decide +kernel
example : (evalTop vEnv (5, []) {}).1 = .formulaError .noneRet [(5, []), (6, [])] := by decide +kernel
-- the block itself fails: the new exception is the one that escapes, from where it was raised
example : (evalTop vEnv (7, []) {}).1 = .formulaError (.user kKey) [(7, []), (4, [])] := by decide +kernel

/-- **A call that returns does not change which exception the caller re-raises**: after
`eval_node` returned a value, the identity of the caller's exception and the stack recorded for it
are what they were before the call – whatever was raised and handled inside. -/
theorem returned_call_keeps_callers_exception (env : Env) (ef : Node → St → Res × St) (n : Node) (s : St)
    (v : Val) (h : (evalNode env ef n s).1 = .ok v) :
    (evalNode env ef n s).2.curExc = s.curExc ∧ (evalNode env ef n s).2.excStack = s.excStack :=
  evalNode_keepsExc env ef n s v h

end MxModel.C17
