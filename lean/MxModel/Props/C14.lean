import MxModel.Proofs.BackupGen
import MxModel.Proofs.IOSessionLoad
import MxModel.Proofs.BackupSeq
import MxModel.Proofs.BackupSession
import MxModel.Generated.Tables
/-!
# C14 – Saving never loses the last good save; failed saves and loads leave no residue

Property theorems only (helper lemmas: `Proofs/Backup*.lean`; model: `Kernels/Backup.lean`).
Slot `0` is the model path, slot `n` is `<path>_BAK<n>`; `save maxB sv k fs` is the state
after a save (`sv`: format, generation, sizes given by the environment) whose `k`-th primitive
file operation raises – for *every* `k`, so also "no fault" (`k ≥` length of the plan).
`maxB` is `DEFAULT_MAX_BACKUPS` as it stands in `/repo` now (`Generated/Tables.lean`).

A fault is an index `k` into the save's primitives together with the way the environment fails
(`sv.pol`): an `OSError` or a `PermissionError`, once or persistently (every further attempt at
the same operation fails too) – section (6).

Three statements are false of the code as it is and are kept visible as
`*_partial` + `*_full_statement_fails`:
* `zipfile.ZipFile.__init__` swallows an `OSError` of its `open` and retries with a truncating
  file mode; `ziputil` re-opens the temporary archive for every member, so such an error makes
  the save move an archive that lacks members into place and report success
  (`no_partial_archive_partial`, `successful_save_partial`, `zip_full_statement_fails`) – and
  that is the only such case: `success_complete_unless_transient_reopen`.  (Before 14fa119 there
  was a second one, `ziputil.copy_file`'s GH82 loop trying again after a `PermissionError` of
  the archive's *close*: `retry_after_failed_close_full_statement_fails` is about that old rule.)
* a *directory* save is written in place, so a second consecutive failure pushes the last
  complete copy to `_BAK2` (`latest_at_front_partial`, `latest_at_front_full_statement_fails`);
* a failed load does not undo the parse-time renaming of an existing model of the same name
  (`failed_load_registry_unchanged_partial`, `failed_load_full_statement_fails`).
-/
namespace MxModel.C14
open MxModel.Backup MxModel.Registry MxModel.Generated

/-- `max_backups` of `write_model(..., backup=True)` -/
abbrev maxB : Nat := defaultMaxBackups

/-- backups are on: at least one backup generation is kept (fails to check if the constant
in `/repo` becomes 0) -/
theorem backups_on : 2 ≤ maxB := by decide +kernel

/-! ## (1) one save, interrupted at any primitive operation -/

/-- The most recent complete copy survives at the path or at the first backup: for every
pre-state, both formats, every interruption point `k` (rotation unlink/rmdir/rename, `mkdir`,
each file write, pickle dump, archive, move, clean-up – or none). -/
theorem single_fault_safe (fs : FS) (sv : Save) (k : Nat) (c : Kind) (g : Nat)
    (h : fs 0 = .good c g) :
    (save maxB sv k fs).1 0 = .good c g ∨ (save maxB sv k fs).1 1 = .good c g :=
  save_moves_one maxB sv k fs 0 _ (by intro hc; cases hc) (by decide +kernel) h

/-- More generally every slot's content sinks by at most one slot per save (so nothing but the
oldest generation is ever discarded), whatever fails. -/
theorem copy_moves_at_most_one_slot (fs : FS) (sv : Save) (k i : Nat) (s : Slot)
    (hs : s ≠ .absent) (hi : i < maxB) (h : fs i = s) :
    (save maxB sv k fs).1 i = s ∨ (save maxB sv k fs).1 (i + 1) = s :=
  save_moves_one maxB sv k fs i s hs hi h

/-- the trigger-free faults: not a transient error at a re-opening of the temporary archive
(where `zipfile` would swallow it and truncate the archive) – see `notTruncating_iff` -/
def NotTruncating (fs : FS) (sv : Save) (k : Nat) : Prop :=
  faultKind sv.pol (plan maxB sv fs) k ≠ .truncates

instance (fs : FS) (sv : Save) (k : Nat) : Decidable (NotTruncating fs sv k) := by
  unfold NotTruncating; exact inferInstance

/-- A save that reported success has put the new generation at the path and the previous
content of the path at the first backup. -/
theorem successful_save_partial (fs : FS) (sv : Save) (k : Nat) (hk : NotTruncating fs sv k)
    (hdone : (save maxB sv k fs).2 = true) :
    (save maxB sv k fs).1 0 = .good sv.kind sv.g ∧
      (fs 0 ≠ .absent → (save maxB sv k fs).1 1 = fs 0) := by
  rw [save_done maxB sv k fs hk hdone]
  refine ⟨set_same _ _ _, fun h0 => ?_⟩
  rw [set_other _ _ (Nat.succ_ne_zero 0)]
  exact shift_inside fs Nat.one_pos (lt_gap fs (by decide +kernel) h0)

/-! ## (2) generations are kept in order -/

/-- After any number of successful saves (formats mixed at will) from an empty location, slot
`j ≤ max` holds the `j`-th newest generation and nothing else exists: `path` = newest,
`_BAK1.._BAK3` = the three before it, in order. -/
theorem generations_in_order (svs : List Save) (j : Nat) :
    (runOk maxB FS.empty svs) j =
      if j ≤ maxB then copyOf svs.reverse j else Slot.absent := by
  have h0 : Holds maxB [] FS.empty := by
    intro j; simp [FS.empty, copyOf]
  have := runOk_holds maxB svs [] FS.empty h0 j
  simpa using this

/-- Whatever fails, in whatever sequence: along `path, _BAK1, _BAK2, …` the generation numbers
of what is there (complete or not) strictly decrease. -/
theorem order_preserved_under_faults (h : List (Save × Nat)) (g0 : Nat) (fs : FS)
    (ho : Ordered fs) (hb : Below g0 fs) (hg : GensIncrease g0 h) :
    Ordered (runHist maxB fs h) :=
  runHist_ordered maxB h g0 fs ho hb hg

/-! ## (3) a zip destination never holds a partially written archive -/

/-- the trigger-free histories: no fault is at a re-opening of the temporary archive -/
def NoTruncatingFault (fs : FS) (h : List (Save × Nat)) : Prop := noTruncation maxB fs h = true

instance (fs : FS) (h : List (Save × Nat)) : Decidable (NoTruncatingFault fs h) := by
  unfold NoTruncatingFault; exact inferInstance

/-- No sequence of saves of either format, with faults anywhere else, creates a partial *file*
in any slot. -/
theorem no_partial_archive_partial (h : List (Save × Nat)) (fs : FS) (h0 : NoPartialZip fs)
    (hk : NoTruncatingFault fs h) : NoPartialZip (runHist maxB fs h) :=
  runHist_noPartialZip maxB h fs h0 hk

/-- A zip save, interrupted anywhere else, leaves the path absent, as it was, or complete. -/
theorem zip_path_never_partial_partial (fs : FS) (sv : Save) (hz : sv.kind = .zip) (k : Nat)
    (hk : NotTruncating fs sv k) (h : (fs 0).isPart = false) :
    ((save maxB sv k fs).1 0).isPart = false :=
  zip_save_pathWhole maxB (by decide +kernel) sv hz k fs hk h

/-- the witness: a zip save over an existing zip save; the `OSError` hits the third opening of
the temporary archive (index 5: one rename, then `create t create t reopen …`) -/
def zipWitnessFs : FS := fun j => if j = 0 then .good .zip 1 else .absent
def zipWitnessSave : Save :=
  { kind := .zip, g := 2, pre := [.plain, .create, .plain, .create, .plain, .reopen, .plain], n2 := 2 }

/-- The full statements are false of the code: the save reports success, and the path holds an
archive that is not a complete copy (the previous copy is intact at `_BAK1`). -/
theorem zip_full_statement_fails :
    ¬ (∀ (fs : FS) (sv : Save) (k : Nat), NoPartialZip fs → NoPartialZip (save maxB sv k fs).1) ∧
    ¬ (∀ (fs : FS) (sv : Save) (k : Nat), (save maxB sv k fs).2 = true →
        (save maxB sv k fs).1 0 = .good sv.kind sv.g) := by
  have hw : (save maxB zipWitnessSave 6 zipWitnessFs).1 0 = .part .zip 2 ∧
      (save maxB zipWitnessSave 6 zipWitnessFs).2 = true := by decide +kernel
  constructor
  · intro H
    have h0 : NoPartialZip zipWitnessFs :=
      set_noPartialZip (fs := FS.empty) (fun _ _ h => nomatch h) 0 (.good .zip 1)
        (fun _ h => nomatch h)
    exact H zipWitnessFs zipWitnessSave 6 h0 0 2 hw.1
  · intro H
    have := H zipWitnessFs zipWitnessSave 6 hw.2
    rw [hw.1] at this
    cases this

/-! ## (4) sequences of failing saves -/

/-- What does hold after two (or `n ≤ max`) consecutive saves that fail anywhere: the copy is
not lost, it has sunk by at most one slot per save. -/
theorem copy_survives_failed_saves (h : List (Save × Nat)) (fs : FS) (c : Kind) (g : Nat)
    (h0 : fs 0 = .good c g) (hlen : h.length ≤ maxB) :
    ∃ j, j ≤ h.length ∧ (runHist maxB fs h) j = .good c g := by
  obtain ⟨j, _, hj, hgood⟩ :=
    runHist_copy_survives maxB (.good c g) (by intro hc; cases hc) h fs 0 h0
      (Nat.le_trans (Nat.le_of_eq (Nat.zero_add _)) hlen)
  exact ⟨j, Nat.le_trans hj (Nat.le_of_eq (Nat.zero_add _)), hgood⟩

theorem two_failed_saves_keep_copy (fs : FS) (sv1 sv2 : Save) (k1 k2 : Nat) (c : Kind) (g : Nat)
    (h0 : fs 0 = .good c g) :
    (runHist maxB fs [(sv1, k1), (sv2, k2)]) 0 = .good c g ∨
    (runHist maxB fs [(sv1, k1), (sv2, k2)]) 1 = .good c g ∨
    (runHist maxB fs [(sv1, k1), (sv2, k2)]) 2 = .good c g := by
  obtain ⟨j, hj, hgood⟩ := copy_survives_failed_saves [(sv1, k1), (sv2, k2)] fs c g h0 backups_on
  rcases Nat.le_succ_iff.mp (show j ≤ 2 from hj) with h1 | rfl
  · rcases Nat.le_one_iff_eq_zero_or_eq_one.mp h1 with rfl | rfl
    · exact .inl hgood
    · exact .inr (.inl hgood)
  · exact .inr (.inr hgood)

/-- the trigger-free histories: every save starts from a state whose path is not partial
(i.e. no save follows a directory save that failed while writing) -/
def PathWholeAtEachStart (fs : FS) (h : List (Save × Nat)) : Prop := startsWhole maxB fs h = true

instance (fs : FS) (h : List (Save × Nat)) : Decidable (PathWholeAtEachStart fs h) := by
  unfold PathWholeAtEachStart; exact inferInstance

/-- The statement for sequences, where it holds: the most recent complete copy is at the path
or at the first backup after every sequence of saves and faults in which no save starts from
a partial path. -/
theorem latest_at_front_partial (h : List (Save × Nat)) (g0 : Nat) (fs : FS)
    (ho : Ordered fs) (hb : Below g0 fs) (hg : GensIncrease g0 h)
    (hl : LatestAtFront fs) (hk : PathWholeAtEachStart fs h) :
    LatestAtFront (runHist maxB fs h) :=
  runHist_latestAtFront maxB (by decide +kernel) h fs hl hk (runHist_ordered maxB h g0 fs ho hb hg)

/-- the witness: generation 1 saved as a directory … -/
def witnessFs : FS := fun j => if j = 0 then .good .dir 1 else .absent
/-- … then two directory saves, each failing at its second file operation -/
def witnessHist : List (Save × Nat) :=
  [({ kind := .dir, g := 2, body := plainBody 3 }, 3), ({ kind := .dir, g := 3, body := plainBody 3 }, 4)]

/-- The full statement is false of the code: two consecutive failed *directory* saves leave the
last complete copy at `_BAK2`, with `path` and `_BAK1` both partial. -/
theorem latest_at_front_full_statement_fails :
    ¬ ∀ (h : List (Save × Nat)) (g0 : Nat) (fs : FS), Ordered fs → Below g0 fs →
        GensIncrease g0 h → LatestAtFront fs → LatestAtFront (runHist maxB fs h) := by
  intro H
  -- `witnessFs` is the empty file system with generation 1 put at the path
  have ho : Ordered witnessFs ∧ Below 2 witnessFs :=
    set0_ordered (fs := FS.empty) (g := 1) (s := .good .dir 1) (fun _ _ _ _ _ h => nomatch h)
      (fun _ _ h => nomatch h) (.inr rfl)
  have hw : runHist maxB witnessFs witnessHist 0 = .part .dir 3 ∧
      runHist maxB witnessFs witnessHist 1 = .part .dir 2 ∧
      runHist maxB witnessFs witnessHist 2 = .good .dir 1 := by decide +kernel
  obtain ⟨i, hi, c', g', hgood, _⟩ :=
    H witnessHist 2 witnessFs ho.1 ho.2 ⟨Nat.le_refl 2, Nat.le_refl 3, trivial⟩
      (latestAtFront_of_path rfl ho.1) 2 .dir 1 hw.2.2
  rcases Nat.le_one_iff_eq_zero_or_eq_one.mp hi with rfl | rfl
  · rw [hw.1] at hgood; cases hgood
  · rw [hw.2.1] at hgood; cases hgood

/-! ## (5) the session after a failed save or load -/

/-- After a save or a load that fails anywhere (or succeeds) both `serializing` flags are
reset, and a save never touches the registry. -/
theorem failed_io_resets_flags (kw : List String) (s : Session) (name : String) (ph : SavePhase)
    (f : LoadFail) (h1 : s.serializing = false) (h2 : s.ioSerializing = false) :
    (sessSave s ph).serializing = false ∧ (sessSave s ph).ioSerializing = false ∧
    (sessSave s ph).reg = s.reg ∧
    (sessLoad kw s name f).serializing = false ∧ (sessLoad kw s name f).ioSerializing = false := by
  cases ph with
  | rotation => exact ⟨h1, h2, rfl, rfl, rfl⟩
  | _ => exact ⟨rfl, rfl, rfl, rfl, rfl⟩

/-- No half-loaded model stays registered, no model is dropped: after a load that fails at any
point the registered model identities are exactly those from before. -/
theorem failed_load_no_new_model (kw : List String) (r : Reg) (h : RegInv r) (name : String)
    (f : LoadFail) (hf : f ≠ .nowhere) (j : Nat) :
    j ∈ ids (loadReg kw r name f).models ↔ j ∈ ids r.models :=
  loadReg_failed_ids kw r h name f hf j

/-- the registry stays well-formed (unique names, each key maps to the model of that name) -/
theorem load_keeps_registry_wellformed (kw : List String) (r : Reg) (h : RegInv r) (name : String)
    (f : LoadFail) : RegInv (loadReg kw r name f) := by
  cases f with
  | beforeNew => exact h
  | rootSource =>
    exact close_inv (afterNew_inv kw h) r.nextId
  | afterRename => exact readModel_inv kw h name true
  | nowhere => exact readModel_inv kw h name false

/-- No residue at all – same names, same models, same order – provided no model of the name
stored in the file was registered. -/
theorem failed_load_registry_unchanged_partial (kw : List String) (r : Reg) (h : RegInv r)
    (name : String) (f : LoadFail) (hf : f ≠ .nowhere) (hname : name ∉ keys r) :
    (loadReg kw r name f).models = r.models :=
  loadReg_failed_models kw r h name f hf hname

/-- The full statement is false of the code: with a model of that name registered, a load that
fails after the root source was parsed leaves that model renamed to `<name>_BAK1`. -/
theorem failed_load_full_statement_fails :
    ¬ ∀ (kw : List String) (r : Reg) (name : String) (f : LoadFail), RegInv r → f ≠ .nowhere →
        keys (loadReg kw r name f) = keys r := by
  intro H
  have h0 : RegInv ({} : Reg) :=
    ⟨fun _ he => (nomatch he), List.nodup_nil, List.nodup_nil, fun _ he => (nomatch he)⟩
  have := H [] (newModel [] {} (some "A")).1 "A" .afterRename (newModel_inv [] h0 _)
    (by intro hc; cases hc)
  revert this
  decide +kernel

/-! ## (6) errors that persist; errors of the class a retry handler absorbs -/

/-- An error that persists is never turned into a truncated archive: `zipfile`'s file-mode
retry and `copy_file`'s loop run out of attempts and let it escape. -/
theorem persistent_fault_not_truncating (fs : FS) (sv : Save) (k : Nat)
    (hp : sv.pol.persist = true) : NotTruncating fs sv k :=
  faultKind_persist_ne_truncates sv.pol hp _ k

/-- The statement at full strength for errors that persist (either class, any primitive): a
save that reports success although an operation kept failing has put the complete new
generation at the path and the previous content of the path at the first backup. -/
theorem persistent_fault_success_complete (fs : FS) (sv : Save) (k : Nat)
    (hp : sv.pol.persist = true) (hdone : (save maxB sv k fs).2 = true) :
    (save maxB sv k fs).1 0 = .good sv.kind sv.g ∧
      (fs 0 ≠ .absent → (save maxB sv k fs).1 1 = fs 0) :=
  successful_save_partial fs sv k (persistent_fault_not_truncating fs sv k hp) hdone

/-- … and a zip destination is never left partial by it. -/
theorem persistent_fault_zip_path_never_partial (fs : FS) (sv : Save) (hz : sv.kind = .zip)
    (k : Nat) (hp : sv.pol.persist = true) (h : (fs 0).isPart = false) :
    ((save maxB sv k fs).1 0).isPart = false :=
  zip_path_never_partial_partial fs sv hz k (persistent_fault_not_truncating fs sv k hp) h

/-- The only operation whose persistent failure a save survives is the `os.rename` inside
`shutil.move` (which copies instead): a persistent error at any other primitive makes the save
raise – in particular no retry loop ends by carrying on as if the operation had happened. -/
theorem persistent_fault_raises (fs : FS) (sv : Save) (k : Nat) (hp : sv.pol.persist = true)
    (hk : k < (plan maxB sv fs).length) (hm : ∀ g, (plan maxB sv fs)[k]? ≠ some (.move g)) :
    (save maxB sv k fs).2 = false := by
  rcases faultKind_persist sv.pol hp (plan maxB sv fs) k with h | ⟨_, g, hg⟩
  · exact save_raises maxB sv k fs h hk
  · exact absurd hg (hm g)

/-- A transient `PermissionError` at an operation under a handler for it (an `unlink`/`rmdir`
of `TemporaryDirectory.cleanup`) is absorbed without trace: the save is the uninterrupted save. -/
theorem transient_permission_error_absorbed (fs : FS) (sv : Save) (k : Nat)
    (hperm : sv.pol.exc = .perm) (honce : sv.pol.persist = false)
    (hg : (plan maxB sv fs)[k]? = some (.tmp .guarded)) :
    save maxB sv k fs = save maxB sv (plan maxB sv fs).length fs := by
  apply save_retried
  rw [faultKind_guarded _ _ _ hg, if_pos ⟨hperm, honce⟩]

/-- An error of any other class at such an operation interrupts the save. -/
theorem guarded_other_error_raises (fs : FS) (sv : Save) (k : Nat) (hos : sv.pol.exc = .os)
    (hg : (plan maxB sv fs)[k]? = some (.tmp .guarded)) :
    (save maxB sv k fs).2 = false := by
  have hk := (List.getElem?_eq_some_iff.mp hg).1
  apply save_raises maxB sv k fs _ hk
  rw [faultKind_guarded _ _ _ hg, if_neg (fun hc => by rw [hos] at hc; cases hc.1)]

/-- An error of *every* class and persistence at an operation nobody guards ends the save – since
14fa119 that is what `ZipFile.write` and the close inside `copy_file` are (as every write of a
member or of an IO data file always was). -/
theorem unguarded_error_raises (fs : FS) (sv : Save) (k : Nat)
    (hg : (plan maxB sv fs)[k]? = some (.tmp .plain)) : (save maxB sv k fs).2 = false := by
  have hk := (List.getElem?_eq_some_iff.mp hg).1
  exact save_raises maxB sv k fs (faultKind_plain _ _ _ hg) hk

/-- what the hypothesis of the `_partial` statements excludes, spelled out: a *transient* error
at a *re-opening* of the temporary archive – nothing else, for every error class -/
theorem notTruncating_iff (fs : FS) (sv : Save) (k : Nat) :
    NotTruncating fs sv k ↔
      ¬ ((plan maxB sv fs)[k]? = some (.tmp .reopen) ∧ sv.pol.persist = false) := by
  unfold NotTruncating
  rw [Ne, faultKind_truncates_iff]

/-- Success ⇒ complete, for every fault policy and every primitive but that one case: what
`retry_after_failed_close_full_statement_fails` refutes for the rule before 14fa119 holds for
the rule since. -/
theorem success_complete_unless_transient_reopen (fs : FS) (sv : Save) (k : Nat)
    (hr : ¬ ((plan maxB sv fs)[k]? = some (.tmp .reopen) ∧ sv.pol.persist = false))
    (hdone : (save maxB sv k fs).2 = true) :
    (save maxB sv k fs).1 0 = .good sv.kind sv.g ∧
      (fs 0 ≠ .absent → (save maxB sv k fs).1 1 = fs 0) :=
  successful_save_partial fs sv k ((notTruncating_iff fs sv k).mpr hr) hdone

/-- … and a zip path is never left partial, for every fault policy, but for that one case. -/
theorem zip_path_never_partial_unless_transient_reopen (fs : FS) (sv : Save) (hz : sv.kind = .zip)
    (k : Nat) (hr : ¬ ((plan maxB sv fs)[k]? = some (.tmp .reopen) ∧ sv.pol.persist = false))
    (h : (fs 0).isPart = false) : ((save maxB sv k fs).1 0).isPart = false :=
  zip_path_never_partial_partial fs sv hz k ((notTruncating_iff fs sv k).mpr hr) h

/-! ### the rule of the code before 14fa119 (fixed finding
`C14-copyfile-retry-after-failed-close-drops-members`) -/

/-- the witness: a zip save of a model with one IO data file over an existing zip save, as the
code before 14fa119 performed it (`ZipFile.write` and the close inside `copy_file`'s loop:
`guarded`, `guardedClose`); the transient `PermissionError` hits the close (index 10: one
rename, then `t c t c t r t r guarded guardedClose`) -/
def retryWitnessSave : Save :=
  { kind := .zip, g := 2, n2 := 2, pol := { exc := .perm },
    pre := [.plain, .create, .plain, .create, .plain, .reopen, .plain, .reopen, .guarded,
            .guardedClose] }

/-- With the rule of the code before 14fa119 the full statement fails also when no error is at
a (re-)opening of the archive: the retry after a failed close made the save report success with
an archive that is not a complete copy at the path (the previous copy intact at `_BAK1`). -/
theorem retry_after_failed_close_full_statement_fails :
    ¬ (∀ (fs : FS) (sv : Save) (k : Nat),
        (plan maxB sv fs)[k]? ≠ some (.tmp .reopen) → (saveOld maxB sv k fs).2 = true →
        (saveOld maxB sv k fs).1 0 = .good sv.kind sv.g) := by
  intro H
  have hw : (plan maxB retryWitnessSave zipWitnessFs)[10]? ≠ some (.tmp .reopen) ∧
      (saveOld maxB retryWitnessSave 10 zipWitnessFs).2 = true ∧
      (saveOld maxB retryWitnessSave 10 zipWitnessFs).1 0 = .part .zip 2 := by decide +kernel
  have := H zipWitnessFs retryWitnessSave 10 hw.1 hw.2.1
  rw [hw.2.2] at this
  cases this

/-- the two rules differ at that close only -/
theorem old_rule_differs_at_close_only (fs : FS) (sv : Save) (k : Nat)
    (h : (plan maxB sv fs)[k]? ≠ some (.tmp .guardedClose)) :
    saveOld maxB sv k fs = save maxB sv k fs :=
  saveOld_eq maxB sv k fs h

/-! ## Non-vacuity: concrete, non-trivial instances -/

/-- four generations present; the fifth save (directory) fails at its last-but-one operation -/
def demoFs : FS := fun j =>
  if j = 0 then .good .dir 4 else if j = 1 then .good .zip 3 else if j = 2 then .good .dir 2
  else if j = 3 then .good .dir 1 else .absent

def demoSave : Save := { kind := .dir, g := 5, nrm := 4, body := plainBody 3 }

-- the plan: 4 × rm of `_BAK3`, three renames, `make_root`, four writes
example : (plan maxB demoSave demoFs).length = 12 := by decide +kernel
-- interrupted inside the `rmtree` of the oldest generation: everything else untouched
example : (save maxB demoSave 2 demoFs).1 0 = .good .dir 4 ∧
    (save maxB demoSave 2 demoFs).1 3 = .part .dir 1 := by decide +kernel
-- interrupted while writing: previous copy at `_BAK1`, path partial, oldest generation gone
example : (save maxB demoSave 10 demoFs).1 0 = .part .dir 5 ∧
    (save maxB demoSave 10 demoFs).1 1 = .good .dir 4 ∧
    (save maxB demoSave 10 demoFs).1 3 = .good .dir 2 ∧
    (save maxB demoSave 10 demoFs).2 = false := by decide +kernel
-- `single_fault_safe` applies to it
example : (save maxB demoSave 10 demoFs).1 0 = .good .dir 4 ∨
    (save maxB demoSave 10 demoFs).1 1 = .good .dir 4 :=
  single_fault_safe demoFs demoSave 10 .dir 4 (by decide +kernel)
-- uninterrupted
example : (save maxB demoSave 12 demoFs) = (save maxB demoSave 99 demoFs) ∧
    (save maxB demoSave 12 demoFs).2 = true ∧
    (save maxB demoSave 12 demoFs).1 0 = .good .dir 5 ∧
    (save maxB demoSave 12 demoFs).1 1 = .good .dir 4 := by
  refine ⟨?_, by decide, by decide, by decide⟩
  have h := successful_save_partial demoFs demoSave 12 (by decide) (by decide)
  have h' := successful_save_partial demoFs demoSave 99 (by decide) (by decide)
  rfl

-- six successful saves, formats mixed: the last four generations, in order, nothing at `_BAK4`
def demoSaves : List Save :=
  [{ kind := .dir, g := 1 }, { kind := .zip, g := 2, pre := [.create, .plain], n2 := 1 }, { kind := .dir, g := 3, body := plainBody 2 },
   { kind := .dir, g := 4 }, { kind := .zip, g := 5 }, { kind := .dir, g := 6, nrm := 3 }]

example : (runOk maxB FS.empty demoSaves) 0 = .good .dir 6 ∧
    (runOk maxB FS.empty demoSaves) 1 = .good .zip 5 ∧
    (runOk maxB FS.empty demoSaves) 2 = .good .dir 4 ∧
    (runOk maxB FS.empty demoSaves) 3 = .good .dir 3 ∧
    (runOk maxB FS.empty demoSaves) 4 = .absent := by
  refine ⟨?_, ?_, ?_, ?_, ?_⟩ <;> rw [generations_in_order] <;> decide +kernel

-- a zip save interrupted just before the move: the path is simply absent, `_BAK1` complete
def demoZip : Save := { kind := .zip, g := 2, pre := [.plain, .create, .plain, .plain, .plain], n2 := 2 }
example : (save maxB demoZip 5 witnessFs).1 0 = .absent ∧
    (save maxB demoZip 5 witnessFs).1 1 = .good .dir 1 ∧
    (save maxB demoZip 5 witnessFs).2 = false ∧
    -- an `OSError` of the `os.rename` inside `shutil.move` makes it copy instead
    (save maxB demoZip 6 witnessFs).1 0 = .good .zip 2 ∧
    NotTruncating witnessFs demoZip 5 := by
  decide +kernel
-- an `OSError` at the creation of the archive is retried by `zipfile`: the save just succeeds
example : save maxB demoZip 2 witnessFs = save maxB demoZip 99 witnessFs ∧
    (save maxB demoZip 2 witnessFs).2 = true := by
  constructor
  · have h := successful_save_partial witnessFs demoZip 2 (by decide) (by decide)
    rfl
  · decide
-- the truncation witness in full
example : (save maxB zipWitnessSave 6 zipWitnessFs).2 = true ∧
    (save maxB zipWitnessSave 6 zipWitnessFs).1 0 = .part .zip 2 ∧
    (save maxB zipWitnessSave 6 zipWitnessFs).1 1 = .good .zip 1 ∧
    ¬ NotTruncating zipWitnessFs zipWitnessSave 6 := by decide +kernel

-- the two-failure witness in full: `path` and `_BAK1` partial, the last complete copy at `_BAK2`
example : runHist maxB witnessFs witnessHist 0 = .part .dir 3 ∧
    runHist maxB witnessFs witnessHist 1 = .part .dir 2 ∧
    runHist maxB witnessFs witnessHist 2 = .good .dir 1 ∧
    ¬ PathWholeAtEachStart witnessFs witnessHist := by decide +kernel
-- … and a failed directory save followed by a successful one is inside the hypothesis
example : PathWholeAtEachStart witnessFs [({ kind := .dir, g := 2 }, 0), ({ kind := .zip, g := 3 }, 9)] := by
  decide +kernel

-- consequence of the same defect: four failed directory saves in a row push the last complete
-- copy out of the chain; the fifth rotation deletes it (nothing complete is left anywhere)
def lostHist : List (Save × Nat) :=
  [({ kind := .dir, g := 2, body := plainBody 3 }, 3), ({ kind := .dir, g := 3, body := plainBody 3 }, 4),
   ({ kind := .dir, g := 4, body := plainBody 3 }, 5), ({ kind := .dir, g := 5, nrm := 2, body := plainBody 3 }, 7)]
example : (runHist maxB witnessFs (lostHist.take 3)) 3 = .good .dir 1 ∧
    (runHist maxB witnessFs lostHist 0).isGood = false ∧
    (runHist maxB witnessFs lostHist 1).isGood = false ∧
    (runHist maxB witnessFs lostHist 2).isGood = false ∧
    (runHist maxB witnessFs lostHist 3).isGood = false ∧
    (runHist maxB witnessFs lostHist 4).isGood = false := by decide +kernel

-- the registry witness: model `A` exists, loading a file that defines `A` fails late
example : keys (loadReg [] (newModel [] {} (some "A")).1 "A" .afterRename) = ["A_BAK1"] := by
  decide +kernel
-- … fails while the root source is read: nothing changes
example : keys (loadReg [] (newModel [] {} (some "A")).1 "A" .rootSource) = ["A"] := by
  decide +kernel

-- fault policies on a zip save of a model with one IO data file (`ioSave`: … the re-opening for the
-- IO file at 8, `ZipFile.write` at 9, the close at 10, the move at 11, two clean-up operations)
def ioSave : Save :=
  { kind := .zip, g := 2, n2 := 2, pol := { exc := .perm },
    pre := [.plain, .create, .plain, .create, .plain, .reopen, .plain, .reopen, .plain, .plain] }
def ioSavePersist : Save := { ioSave with pol := { exc := .perm, persist := true } }
example : (plan maxB ioSave zipWitnessFs).length = 14 ∧
    (plan maxB ioSave zipWitnessFs)[8]? = some (.tmp .reopen) ∧
    (plan maxB ioSave zipWitnessFs)[9]? = some (.tmp .plain) ∧
    (plan maxB ioSave zipWitnessFs)[12]? = some (.tmp .guarded) := by decide +kernel
-- a PermissionError (transient or persistent) at `ZipFile.write` / the close inside copy_file: the
-- save raises, the path is absent (never a partial archive), the previous copy is at `_BAK1`
example : (save maxB ioSave 9 zipWitnessFs).2 = false ∧
    (save maxB ioSave 10 zipWitnessFs).2 = false ∧
    (save maxB ioSave 10 zipWitnessFs).1 0 = .absent ∧
    (save maxB ioSave 10 zipWitnessFs).1 1 = .good .zip 1 ∧
    (save maxB ioSavePersist 9 zipWitnessFs).2 = false :=
  ⟨unguarded_error_raises zipWitnessFs ioSave 9 (by decide),
   unguarded_error_raises zipWitnessFs ioSave 10 (by decide), by decide, by decide,
   unguarded_error_raises zipWitnessFs ioSavePersist 9 (by decide)⟩
-- a PermissionError that persists at the opening inside the loop: all attempts fail, the save raises,
-- nothing is truncated
example : (save maxB ioSavePersist 8 zipWitnessFs).2 = false ∧
    (save maxB ioSavePersist 8 zipWitnessFs).1 0 = .absent ∧
    (save maxB ioSavePersist 8 zipWitnessFs).1 1 = .good .zip 1 ∧
    NotTruncating zipWitnessFs ioSavePersist 8 := by
  have h8 : (plan maxB ioSavePersist zipWitnessFs)[8]? = some (.tmp .reopen) := by decide
  refine ⟨persistent_fault_raises zipWitnessFs ioSavePersist 8 rfl (by decide)
    (by intro g; rw [h8]; intro hc; cases hc), ?_, ?_, ?_⟩ <;> decide
-- a transient one there is the known `zipfile` case, the one thing `notTruncating_iff` excludes
example : ¬ NotTruncating zipWitnessFs ioSave 8 ∧ NotTruncating zipWitnessFs ioSave 9 ∧
    NotTruncating zipWitnessFs ioSave 10 := by
  refine ⟨?_, ?_, ?_⟩ <;> rw [notTruncating_iff] <;> decide +kernel
-- success ⇒ complete applies to every absorbed error but that one: the rename inside `shutil.move`
-- (persistent), the clean-up (transient PermissionError)
example : (save maxB ioSavePersist 11 zipWitnessFs).2 = true ∧
    (save maxB ioSavePersist 11 zipWitnessFs).1 0 = .good .zip 2 :=
  ⟨by decide +kernel, (persistent_fault_success_complete zipWitnessFs ioSavePersist 11 rfl (by decide +kernel)).1⟩
example : (save maxB ioSave 12 zipWitnessFs).1 0 = .good .zip 2 :=
  (success_complete_unless_transient_reopen zipWitnessFs ioSave 12 (by decide +kernel) (by decide +kernel)).1
example : save maxB ioSave 12 zipWitnessFs = save maxB ioSave 14 zipWitnessFs :=
  transient_permission_error_absorbed zipWitnessFs ioSave 12 rfl rfl (by decide)
-- a plain OSError in the clean-up is not absorbed
example : (save maxB { ioSave with pol := {} } 12 zipWitnessFs).2 = false :=
  guarded_other_error_raises zipWitnessFs { ioSave with pol := {} } 12 rfl (by decide +kernel)
-- the old rule's witness in full; under the present rule the same fault just ends the save
example : (saveOld maxB retryWitnessSave 10 zipWitnessFs).2 = true ∧
    (saveOld maxB retryWitnessSave 10 zipWitnessFs).1 0 = .part .zip 2 ∧
    (saveOld maxB retryWitnessSave 10 zipWitnessFs).1 1 = .good .zip 1 ∧
    (save maxB retryWitnessSave 10 zipWitnessFs).2 = false ∧
    (save maxB retryWitnessSave 10 zipWitnessFs).1 0 = .absent ∧
    saveOld maxB retryWitnessSave 9 zipWitnessFs = save maxB retryWitnessSave 9 zipWitnessFs :=
  ⟨by decide, by decide, by decide, by decide, by decide,
   old_rule_differs_at_close_only zipWitnessFs retryWitnessSave 9 (by decide)⟩
-- directory format with IO data: openpyxl's `ZipFile(path, "w")` of a workbook below the path
-- (index 4 of the plan) absorbs a transient error, not a persistent one
def demoDirIO : Save := { kind := .dir, g := 2, body := [none, none, some .create, none, some .plain, none] }
example : (save maxB demoDirIO 4 zipWitnessFs).2 = true ∧
    (save maxB demoDirIO 4 zipWitnessFs).1 0 = .good .dir 2 ∧
    (save maxB { demoDirIO with pol := { persist := true } } 4 zipWitnessFs).2 = false ∧
    (save maxB { demoDirIO with pol := { persist := true } } 4 zipWitnessFs).1 0 = .part .dir 2 ∧
    (save maxB { demoDirIO with pol := { persist := true } } 4 zipWitnessFs).1 1 = .good .zip 1 := by
  decide +kernel

/-! ## A failed load in the session-wide IOManager (`Kernels/IOSession.lean`)

`ModelReader.read_model` (f95f7ad): the unpicklers register specs and file objects before the values are bound;
when the load fails the half-read model is closed, the specs read are deleted and the file objects that were not
registered when the load began are removed - BY IDENTITY. -/

/-- **The clean-up of a failed load leaves the others alone**: a file object that was registered when the load
began (`snapshot`), none of whose specs the load read and none of whose values the half-read model references
(the values of a load are new objects), is in the registry afterwards as it was - identity, key, all specs;
whatever its group: another model's, or the session-wide group of absolute paths. -/
theorem failed_load_cleanup_leaves_others (ops : List IOSession.Op) (m : Nat) (snapshot read : List Nat)
    (io : IOSession.Io) (hio : io ∈ (IOSession.run {} ops).ios)
    (hsnap : snapshot.contains io.iid = true)
    (hread : ∀ s ∈ io.specs, read.contains s.sid = false)
    (hval : ∀ s ∈ io.specs, IOSession.boundIn (IOSession.run {} ops).refs m s.val = false) :
    io ∈ (IOSession.cleanup (IOSession.run {} ops) m snapshot read).ios :=
  IOSession.cleanup_keeps _ m snapshot read (IOSession.reachable_inv ops).det io hio hsnap hread hval

/-- **…and removes what the load created**: every file object left was registered when the load began and holds
none of the specs the load read. -/
theorem failed_load_cleanup_removes_created (st : IOSession.St) (m : Nat) (snapshot read : List Nat) :
    ∀ io ∈ (IOSession.cleanup st m snapshot read).ios,
      snapshot.contains io.iid = true ∧ ∀ s ∈ io.specs, read.contains s.sid = false :=
  IOSession.cleanup_removes st m snapshot read

/-- a whole failed load (a relative csv, a relative module, a csv under an absolute path, one value already bound)
next to two models with external files: the registry of file objects, the references and `iospecs` of the others
are exactly what they were; the same load succeeding registers three file objects -/
example :
    let items : List IOSession.Item := [⟨"S.df", ⟨false, "d.csv"⟩, false, none, 10, true⟩,
      ⟨".mod", ⟨false, "m.py"⟩, false, none, 11, false⟩, ⟨"S.e", ⟨true, "z/e.csv"⟩, false, none, 12, false⟩]
    (IOSession.load IOSession.demo items false).1.ios = IOSession.demo.ios ∧
    (IOSession.load IOSession.demo items false).2 = .loadFailed ∧
    IOSession.specsOf (IOSession.load IOSession.demo items false).1 0 = IOSession.specsOf IOSession.demo 0 ∧
    (IOSession.load IOSession.demo items true).1.ios.length = IOSession.demo.ios.length + 3 := by
  decide +kernel

/-- a load of a save whose external file is in use by an open model (C18-absolute-io-shared) fails at the
unpickler and is cleaned up the same way -/
example :
    (IOSession.load IOSession.demo [⟨"S.df", ⟨false, "d.csv"⟩, false, none, 10, true⟩,
      ⟨"S.e", ⟨true, "x/b.csv"⟩, false, none, 12, true⟩] true).1.ios = IOSession.demo.ios := by decide +kernel

/-- **C14-mutG is not the code**: a clean-up that selects the entries by `not group or group == io_group`
deletes the external file object of a model that has nothing to do with the load -/
example :
    let half := (IOSession.readSpecs (IOSession.run IOSession.demo [.newModel]) 2
      [⟨"S.df", ⟨false, "d.csv"⟩, false, none, 10, false⟩] []).1
    IOSession.specsOf (IOSession.cleanupMutG half 2) 0 ≠ IOSession.specsOf IOSession.demo 0 ∧
    IOSession.specsOf (IOSession.cleanup half 2 (IOSession.demo.ios.map (·.iid)) [4]) 0
      = IOSession.specsOf IOSession.demo 0 := by decide +kernel

/-- **A failed load leaves the io state of the session exactly as it was** - after EVERY history, for EVERY list of
entries a saved model may hold (relative and absolute paths, files already in use, some values already bound when the
failure strikes): the registry of file objects `IOManager.ios` is the same list (identities, keys, specs, order), and
every model of the session keeps its references and its `iospecs`. -/
theorem failed_load_restores_session (ops : List IOSession.Op) (items : List IOSession.Item) :
    let st := IOSession.run {} ops
    (IOSession.load st items false).1.ios = st.ios ∧
    ∀ m', m' ≠ st.nextModel →
      (IOSession.load st items false).1.refs.filter (fun r => r.model == m') =
        st.refs.filter (fun r => r.model == m') ∧
      IOSession.specsOf (IOSession.load st items false).1 m' = IOSession.specsOf st m' :=
  IOSession.failed_load_restores (IOSession.reachable_inv ops) items

end MxModel.C14
