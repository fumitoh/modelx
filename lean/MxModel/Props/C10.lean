import MxModel.Proofs.Relative
import MxModel.Proofs.RelativeHist
/-!
# C10 – object-valued references rebind relatively or stay absolute as their mode says

The model is `Kernels/Relative.lean`: `SpaceGraph.get_relative` on dotted names, and the
decision logic of `ReferenceImpl.on_inherit`, `SpaceManager.new_ref` / `change_ref` and
`DynBaseRefDict.wrap_impl`, for an arbitrary linearisation `mroOf` (`SpaceGraph.get_mro`)
and arbitrary nesting depths.  The theorems are the decision logic stated outright; the last
part states it of every state an edit history reaches (`Kernels/RelativeHist.lean`).

The model follows /repo after the repairs 6d7db1b, 39b86b9, e655c26, 069099b, 2f47edb, 4d6c07c
(the inputs on which the code failed before them are `example`s at the end) and 004f472
(`accepted_set_ref_agrees_with_inherit`; `unguarded_change_ref_fails` is the code before it:
`change_ref` accepted a `relative` reference whose target is outside a sub space's tree).  Two
places where the real code does not do what the property says:

* `dynamic_rebind_full_fails` – an `auto` reference that the ItemSpace's base tree derives from
  a space outside it with an absolute binding is not rebound although its target lies inside
  (known finding `C10-dyn-derived-absolute-inside`; `dynamic_rebind` is the partial statement);
* `binding_depends_on_enclosing_bases` – what a nested space's reference denotes depends on
  the bases of the enclosing spaces, which modelx does not re-derive after a base change there
  (known finding `C10-enclosing-base-change`; an incremental-maintenance defect, outside this
  from-scratch model).
-/
namespace MxModel.C10
open MxModel.Relative

/-! ## `get_relative` against its declarative specification -/

/-- **`get_relative` is: strip the common suffix, require the bases relation at the roots,
re-append the relative part.**  If `(rs, rb)` is the outermost pair of spaces below which
`sub` and `base` sit at the same relative position `t` and with `rb` in the linearisation of
`rs`, then the value has a counterpart iff it lies in `rb`'s tree, and the counterpart is the
same relative name below `rs`. -/
theorem getRelative_spec (mroOf : Path → List Path) (sub base value rs rb : Path) (t : List String)
    (hs : Clean sub) (hb : Clean base) (hv : Clean value)
    (ho : Outermost mroOf sub base rs rb t) :
    getRelative mroOf sub base value =
      if rb <+: value then .some (rs ++ value.drop rb.length) else .none := by
  rcases getRelative_cases mroOf hs hb hv with ⟨rs', rb', t', ho', h⟩ | ⟨hno, _⟩
  · obtain ⟨rfl, rfl⟩ := ho.unique ho'
    exact h
  · exact absurd ho.1 (hno rs rb t)

/-- … such an outermost pair exists as soon as the two spaces are related at all … -/
theorem getRelative_spec_total (mroOf : Path → List Path) (sub base : Path)
    (hs : sub ≠ []) (hb : base ≠ []) (h : ∃ rs rb t, Related mroOf sub base rs rb t) :
    ∃ rs rb t, Outermost mroOf sub base rs rb t :=
  exists_outermost mroOf hs hb h

/-- … and when they are not related at any level, the code raises
`RuntimeError("must not happen")` (unless value and base do not even share their top-level
space, which is checked first). -/
theorem getRelative_unrelated (mroOf : Path → List Path) (sub base value : Path)
    (hs : Clean sub) (hb : Clean base) (hv : Clean value)
    (hh : base.head? = value.head?)
    (h : ∀ rs rb t, ¬ Related mroOf sub base rs rb t) :
    getRelative mroOf sub base value = .mustNotHappen := by
  rcases getRelative_cases mroOf hs hb hv with ⟨rs, rb, t, ho, _⟩ | ⟨_, hg⟩
  · exact absurd ho.1 (h rs rb t)
  · rw [hg, if_neg (fun e => (lcp_eq_nil_iff.mp e).elim hb.1 (fun hne => hne hh))]

/-- a value under another top-level space never has a counterpart -/
theorem getRelative_other_top (mroOf : Path → List Path) (sub base value : Path)
    (hb : Clean base) (hv : Clean value) (hh : base.head? ≠ value.head?) :
    getRelative mroOf sub base value = .none := by
  unfold getRelative
  rw [sharedAsc_clean hb hv, lcp_eq_nil_iff.mpr (Or.inr hh)]
  rfl

/-- **inside the definer's tree**: for every space `sub` that has the definer `base` in its
linearisation and every relative name `rel` (empty: the definer itself; one name: a cells or
child; longer: anything deeper), the counterpart of `base.rel` is `sub.rel` – whatever the
depths of `sub` and `base` and whatever outer pair the loop stops at. -/
theorem getRelative_inside (mroOf : Path → List Path) (sub base : Path) (rel : List String)
    (hs : Clean sub) (hb : Clean base) (hrel : "" ∉ rel) (hd : base ∈ mroOf sub) :
    getRelative mroOf sub base (base ++ rel) = .some (sub ++ rel) := by
  have hv : Clean (base ++ rel) := ⟨by simp [hb.1], fun hm => (List.mem_append.mp hm).elim hb.2 hrel⟩
  obtain ⟨rs, rb, t, ho⟩ := exists_outermost mroOf hs.1 hb.1 ⟨sub, base, [], by simp, by simp, hs.1, hb.1, hd⟩
  rw [getRelative_spec mroOf sub base (base ++ rel) rs rb t hs hb hv ho]
  have h1 : rb <+: base ++ rel := ⟨t ++ rel, by rw [← List.append_assoc, ← ho.1.2.1]⟩
  simp only [h1, if_true]
  congr 1
  have : (base ++ rel).drop rb.length = t ++ rel := by
    rw [ho.1.2.1, List.append_assoc, List.drop_left]
  rw [this, ← List.append_assoc, ← ho.1.1]

/-- when the two spaces share no trailing name (`Sub` deriving `Base`, `P.Sub` deriving `Q.Base`)
the roots are the spaces themselves: exactly the definer's tree is rebound -/
theorem getRelative_plain (mroOf : Path → List Path) (sub base value : Path)
    (hs : Clean sub) (hb : Clean base) (hv : Clean value)
    (hl : sub.getLast? ≠ base.getLast?) (hd : base ∈ mroOf sub) :
    getRelative mroOf sub base value =
      if base <+: value then .some (sub ++ value.drop base.length) else .none := by
  apply getRelative_spec mroOf sub base value sub base [] hs hb hv
  refine ⟨⟨by simp, by simp, hs.1, hb.1, hd⟩, ?_⟩
  intro rs' rb' t' hrel
  cases ht : t'.getLast? with
  | none => simp [List.getLast?_eq_none_iff.mp ht]
  | some x =>
    exfalso
    apply hl
    rw [hrel.1, hrel.2.1, List.getLast?_append, List.getLast?_append, ht]
    simp

/-! ## static derivation: `ReferenceImpl.on_inherit` -/

/-- **absolute**: the base's object, whatever the spaces (`old` is the binding before) -/
theorem static_absolute (mroOf : Path → List Path) (exist : Path → Bool) (S D v : Path) (old : Binding) :
    onInherit mroOf exist .absolute S D (.obj v) old = .bound ⟨.obj v, false⟩ := rfl

/-- **relative / auto, target inside the definer's tree** (`rel = []`: the defining space itself
→ the deriving space; `rel = [c]`: its cells `c` → the deriving space's `c`; deeper: the same
relative name – bound to a null object when the deriving space has no such member, because
child spaces are not inherited). -/
theorem static_rebind (mroOf : Path → List Path) (exist : Path → Bool) (m : Mode)
    (S D : Path) (rel : List String) (old : Binding)
    (hm : m ≠ .absolute) (hs : Clean S) (hb : Clean D) (hrel : "" ∉ rel) (hd : D ∈ mroOf S) :
    onInherit mroOf exist m S D (.obj (D ++ rel)) old =
      .bound ⟨if exist (S ++ rel) then .obj (S ++ rel) else .null, true⟩ := by
  have hi : getRelativeInterface mroOf exist S D (D ++ rel) =
      some (true, if exist (S ++ rel) then .obj (S ++ rel) else .null) := by
    rw [getRelativeInterface_of_some (getRelative_inside mroOf S D rel hs hb hrel hd),
      if_neg (by simp [hs.1])]
    split <;> rfl
  cases m with
  | absolute => exact absurd rfl hm
  | auto => simp only [onInherit, hi]
  | relative => simp only [onInherit, hi, if_true]

/-- the deriving space itself -/
theorem static_rebind_self (mroOf : Path → List Path) (exist : Path → Bool) (m : Mode)
    (S D : Path) (old : Binding) (hm : m ≠ .absolute) (hs : Clean S) (hb : Clean D)
    (hd : D ∈ mroOf S) (hex : exist S = true) :
    onInherit mroOf exist m S D (.obj D) old = .bound ⟨.obj S, true⟩ := by
  have := static_rebind mroOf exist m S D [] old hm hs hb (by simp) hd
  simpa [hex] using this

/-- its corresponding cells -/
theorem static_rebind_cells (mroOf : Path → List Path) (exist : Path → Bool) (m : Mode)
    (S D : Path) (c : String) (old : Binding) (hm : m ≠ .absolute) (hs : Clean S) (hb : Clean D)
    (hcn : c ≠ "") (hd : D ∈ mroOf S) (hex : exist (S ++ [c]) = true) :
    onInherit mroOf exist m S D (.obj (D ++ [c])) old = .bound ⟨.obj (S ++ [c]), true⟩ := by
  have := static_rebind mroOf exist m S D [c] old hm hs hb (by simpa using Ne.symm hcn) hd
  simpa [hex] using this

/-- **outside**: when `get_relative` finds no counterpart, `auto` keeps the original object and
`relative` is rejected (`ValueError`) … -/
theorem static_outside (mroOf : Path → List Path) (exist : Path → Bool) (S D v : Path) (old : Binding)
    (h : getRelative mroOf S D v = .none) :
    onInherit mroOf exist .auto S D (.obj v) old = .bound ⟨.obj v, false⟩ ∧
    onInherit mroOf exist .relative S D (.obj v) old = .reject := by
  simp [onInherit, getRelativeInterface, h]

/-- … which is the case for every target under another top-level space, and, when the two
spaces share no trailing name, for every target outside the definer's tree. -/
theorem static_outside_tree (mroOf : Path → List Path) (exist : Path → Bool) (S D v : Path) (old : Binding)
    (hs : Clean S) (hb : Clean D) (hv : Clean v)
    (hl : S.getLast? ≠ D.getLast?) (hd : D ∈ mroOf S) (hout : ¬ D <+: v) :
    onInherit mroOf exist .auto S D (.obj v) old = .bound ⟨.obj v, false⟩ ∧
    onInherit mroOf exist .relative S D (.obj v) old = .reject := by
  apply static_outside
  rw [getRelative_plain mroOf S D v hs hb hv hl hd]
  simp [hout]

theorem static_outside_top (mroOf : Path → List Path) (exist : Path → Bool) (S D v : Path) (old : Binding)
    (hb : Clean D) (hv : Clean v) (hh : D.head? ≠ v.head?) :
    onInherit mroOf exist .auto S D (.obj v) old = .bound ⟨.obj v, false⟩ ∧
    onInherit mroOf exist .relative S D (.obj v) old = .reject :=
  static_outside mroOf exist S D v old (getRelative_other_top mroOf S D v hb hv hh)

/-- a value that is not a modelx object is copied, in every mode -/
theorem static_plain_value (mroOf : Path → List Path) (exist : Path → Bool) (m : Mode) (S D : Path)
    (x : Int) (old : Binding) :
    onInherit mroOf exist m S D (.plain x) old = .bound ⟨.plain x, old.isRelative⟩ := rfl

/-- in particular `RuntimeError("must not happen")` is unreachable from derivation: for a clean
value and a space that has the definer in its linearisation `get_relative` always answers -/
theorem static_never_must_not_happen (mroOf : Path → List Path) (S D v : Path)
    (hs : Clean S) (hb : Clean D) (hv : Clean v) (hd : D ∈ mroOf S) :
    getRelative mroOf S D v ≠ .mustNotHappen := by
  rcases getRelative_cases mroOf hs hb hv with ⟨rs, rb, t, _, hg⟩ | ⟨hno, _⟩
  · rw [hg]; split <;> simp
  · exact absurd ⟨by simp, by simp, hs.1, hb.1, hd⟩ (hno S D [])

/-! ## edits: `SpaceManager.new_ref` / `change_ref`, re-derivation -/

/-- creating the reference in the base gives each sub space what re-derivation gives it
(object-valued references that pass `_check_subs_relrefs`; `r` is whatever derived reference the
sub space held before) -/
theorem new_ref_agrees_with_inherit (mroOf : Path → List Path) (exist : Path → Bool) (m : Mode)
    (r : DRef) (S D v : Path) (hchk : checkSubRelref mroOf m S D (.obj v) = false) :
    newRefSub mroOf exist m S D (.obj v) = reinherit mroOf exist r m S D (.obj v) :=
  newRefSub_eq_reinherit mroOf exist m r S D v hchk

/-- `change_ref` gives the sub spaces the same derived references as `new_ref`: the same object
and the same flag `is_relative` (the computed flag is stored in the new reference) -/
theorem change_ref_agrees (mroOf : Path → List Path) (exist : Path → Bool) (m : Mode) (S D : Path)
    (v : Target) : changeRefSub mroOf exist m S D v = newRefSub mroOf exist m S D v := rfl

/-- **An accepted `new_ref` / `change_ref` leaves every sub space that takes the value with what
re-derivation gives it** (object-valued references; `r` is whatever derived reference the sub space
held before).  Full statement since the repair 004f472, which makes `_check_subs_relrefs` look at
the sub spaces `change_ref` rebinds; before it the check skipped them all, see
`unguarded_change_ref_fails`. -/
theorem accepted_set_ref_agrees_with_inherit (mroOf : Path → List Path) (exist : Path → Bool)
    (change : Bool) (m : Mode) (D v : Path) (subs : List Path) (out : List (Option DRef))
    (hacc : setRefGuarded mroOf exist change m D (.obj v) subs = some out) :
    ∀ (r : DRef), out = subs.map (fun S => reinherit mroOf exist r m S D (.obj v)) := by
  intro r
  obtain ⟨hall, rfl⟩ := setRefGuarded_some hacc
  refine List.map_congr_left (fun S hS => ?_)
  rw [← new_ref_agrees_with_inherit mroOf exist m r S D v (hall S hS)]
  cases change <;> rfl

/-- a refused edit is refused for a reason: some sub space that would take the value cannot be given
a relative binding -/
theorem refused_set_ref_has_culprit (mroOf : Path → List Path) (exist : Path → Bool)
    (change : Bool) (m : Mode) (D : Path) (v : Target) (subs : List Path)
    (href : setRefGuarded mroOf exist change m D v subs = none) :
    ∃ S ∈ subs, checkSubRelref mroOf m S D v = true := by
  unfold setRefGuarded at href
  split at href
  · rename_i hany
    exact List.any_eq_true.mp hany
  · simp at href

/-- Without the guard (the code before 004f472, where `_check_subs_relrefs` skipped every sub space
that already has the name, i.e. all those `change_ref` visits) the statement is false: re-assigning a
`relative` reference to an object outside a sub space's tree left that sub space with a
`relative`-mode reference bound absolutely - a state re-derivation rejects (finding
`C10-change-ref-relative-unchecked`, repaired; the witness stays in the corpus). -/
theorem unguarded_change_ref_fails :
    ¬ ∀ (mroOf : Path → List Path) (exist : Path → Bool) (m : Mode) (r : DRef) (S D v : Path),
        changeRefSub mroOf exist m S D (.obj v) = reinherit mroOf exist r m S D (.obj v) := by
  intro h
  have := h (fun p => if p = ["Sub"] then [["Sub"], ["Base"]] else [p]) (fun _ => true) .relative
    ⟨.relative, ⟨.obj ["Sub", "foo"], true⟩⟩ ["Sub"] ["Base"] ["Out", "oo"]
  revert this
  decide +kernel

/-- …and the guarded operation refuses exactly that edit -/
example : setRefGuarded (fun p => if p = ["Sub"] then [["Sub"], ["Base"]] else [p]) (fun _ => true)
    true .relative ["Base"] (.obj ["Out", "oo"]) [["Sub"]] = none := by decide +kernel

/-- the loop over the sub spaces gives every sub space its own step, whatever the other sub
spaces were bound to (each gets its own `subvalue`) -/
theorem ref_loop (mroOf : Path → List Path) (exist : Path → Bool) (change : Bool) (m : Mode)
    (D : Path) (v : Target) (subs : List Path) :
    refLoop mroOf exist change m D v subs = subs.map (fun S => newRefSub mroOf exist m S D v) := by
  unfold refLoop
  cases change <;> simp [changeRefSub]

/-- what a nested space's reference is bound to depends on the bases of the *enclosing* spaces
(`Xsp.Ch` derives `Ysp.Ch`; with `Xsp` deriving `Ysp` the reference `Ysp.Ch.rr = Ysp.foo` denotes
`Xsp.foo` in `Xsp.Ch`, without it `Ysp.foo`): a base change of `Xsp` therefore has to derive the
references of `Xsp.Ch` again.  modelx does not (`remove_bases` re-derives the space and the
spaces that *inherit* from it, not its children): known finding `C10-enclosing-base-change`. -/
theorem binding_depends_on_enclosing_bases :
    ∃ (mro1 mro2 : Path → List Path) (exist : Path → Bool),
      (∀ p, p ≠ ["Xsp"] → mro1 p = mro2 p) ∧
      onInherit mro1 exist .auto ["Xsp", "Ch"] ["Ysp", "Ch"] (.obj ["Ysp", "foo"]) ⟨.plain 0, true⟩
        = .bound ⟨.obj ["Xsp", "foo"], true⟩ ∧
      onInherit mro2 exist .auto ["Xsp", "Ch"] ["Ysp", "Ch"] (.obj ["Ysp", "foo"]) ⟨.plain 0, true⟩
        = .bound ⟨.obj ["Ysp", "foo"], false⟩ := by
  refine ⟨fun p => if p = ["Xsp"] then [["Xsp"], ["Ysp"]]
                   else if p = ["Xsp", "Ch"] then [["Xsp", "Ch"], ["Ysp", "Ch"]] else [p],
          fun p => if p = ["Xsp", "Ch"] then [["Xsp", "Ch"], ["Ysp", "Ch"]] else [p],
          fun _ => true, ?_, by decide +kernel, by decide +kernel⟩
  intro p hp
  simp [hp]

/-- re-derivation gives the reference the mode of its (possibly new) definer … -/
theorem reinherit_takes_definer_mode (mroOf : Path → List Path) (exist : Path → Bool) (r r' : DRef)
    (dm : Mode) (S D : Path) (v : Target) (h : reinherit mroOf exist r dm S D v = some r') :
    r'.mode = dm :=
  (RelHist.reinherit_expected h).1

/-- … hence **modes and bindings survive base changes**: re-derivation of an object-valued
reference does not depend on its history – whatever mode and binding the derived reference had
(from a former definer), the result is the one a freshly created derived reference gets. -/
theorem mode_stable (mroOf : Path → List Path) (exist : Path → Bool) (r : DRef)
    (definerMode : Mode) (S D v : Path) :
    reinherit mroOf exist r definerMode S D (.obj v) =
      reinherit mroOf exist (createDerived definerMode) definerMode S D (.obj v) := by
  by_cases hm : definerMode = .absolute
  · subst hm; rfl
  · rw [reinherit_obj r hm, reinherit_obj _ hm]

/-! ## ItemSpace trees: `DynBaseRefDict.wrap_impl` -/

/-- **any object inside the base's tree → the corresponding object of the dynamic tree**, for
every dynamic space `owner` of the tree that holds the reference: the ItemSpace itself for the
base (`rel = []`, also when the reference lives in a nested child), otherwise the same relative
name below the ItemSpace. -/
theorem dynamic_rebind (existsRel : Path → Bool) (root owner : Path) (rel : List String)
    (m : Mode) (defined : Bool) (hex : existsRel rel = true) :
    wrapImpl existsRel root owner ⟨m, true, defined, .obj (root ++ rel)⟩ = .dyn rel := by
  unfold wrapImpl
  by_cases h : rel = []
  · subst h; simp
  · have : root ≠ root ++ rel := by
      intro e
      have := congrArg List.length e
      simp at this
      exact h this
    simp [this, wrapLookup_inside root rel h, hex]

/-- **The full statement fails** without the flag: a reference that the base's tree *derives* from
a space outside it, bound absolutely there (its target is not in that definer's tree), is not
rebound although its mode is `auto` and its target lies inside the ItemSpace's base. -/
theorem dynamic_rebind_full_fails :
    ¬ ∀ (existsRel : Path → Bool) (root owner : Path) (rel : List String) (flag defined : Bool),
        existsRel rel = true →
        wrapImpl existsRel root owner ⟨.auto, flag, defined, .obj (root ++ rel)⟩ = .dyn rel := by
  intro h
  have := h (fun _ => true) ["Base"] ["Ch"] [] false false rfl
  revert this
  decide +kernel

/-- **absolute mode** (the flag is `False`): the base's reference itself – the original object -/
theorem dynamic_absolute (existsRel : Path → Bool) (root owner : Path) (m : Mode) (defined : Bool)
    (t : Target) :
    wrapImpl existsRel root owner ⟨m, false, defined, t⟩ = .keep := by
  unfold wrapImpl
  cases t <;> rfl

/-- **outside the base's tree** (by components: `Base2.foo` is outside `Base`): an `auto`
reference – defined in the base space or derived there – keeps denoting the object it denotes in
the base space, a `relative` one is rejected -/
theorem dynamic_outside (existsRel : Path → Bool) (root owner impl : Path) (defined : Bool)
    (h1 : ¬ root <+: impl) :
    wrapImpl existsRel root owner ⟨.auto, true, defined, .obj impl⟩ = .keep ∧
    wrapImpl existsRel root owner ⟨.relative, true, defined, .obj impl⟩ = .reject := by
  have hne : root ≠ impl := fun e => h1 (e ▸ List.prefix_refl _)
  simp [wrapImpl, hne, wrapLookup_outside h1]

/-- a value that is not a (valid) modelx object is kept -/
theorem dynamic_plain (existsRel : Path → Bool) (root owner : Path) (m : Mode) (f d : Bool) (x : Int) :
    wrapImpl existsRel root owner ⟨m, f, d, .plain x⟩ = .keep ∧
    wrapImpl existsRel root owner ⟨m, f, d, .null⟩ = .keep := ⟨rfl, rfl⟩

/-! ## Edit histories: every derived reference is what re-derivation gives NOW

`Kernels/RelativeHist.lean` drives the decision logic above by a state - spaces with ordered bases
(linearised by `C3.mro`), own cells, references defined (value, mode) or derived (mode, binding) - and the
operations `newSpace` (with bases), `setRef` (`new_ref` / `change_ref` behind `_check_subs_relrefs`:
`setRefGuarded`, `newRefSub`), `delRef`, `addBase`, `removeBase` (re-derivation by `reinherit`, refused
as a whole when it would raise).  `dirty` is ghost state: a space is marked when the linearisation of one
of its ENCLOSING spaces changed and it was not derived again since (`addBase` / `removeBase` derive the
space and the spaces that inherit from it again, not their child spaces).

LIMIT OF THE MODEL (R8C10): a target is a PATH (`Target.obj p`); what exists is asked of the current state
(`RState.exist`).  modelx has object identity: a cells that is deleted stays deleted, the references that
held it (the definer's and, copied by `on_inherit`, every deriver's) keep the dead object even when another
cells appears under the same path later (the space derives the name from a base, the name is created again,
a base is added again).  For the machine such a target is alive again.  The theorems of this section are
statements about the machine; they describe the code for references whose target object was not deleted
since it was assigned.  The `relhist` correspondence leaves out every derived reference that holds a deleted
object (harness/mxh/relhist.py, OBJECT IDENTITY; witnesses corpus/C10/family-deleted-target-*.json). -/

section histories
open MxModel.RelHist

/-- **After ANY history every derived reference of every space is what `on_inherit` from its first definer
gives in the CURRENT state**: it carries the definer's mode; when the definer holds an object it is
bound to what `reinherit` computes from the current linearisations, or to a null object in its place (the
machine binds to one when the counterpart did not exist at the time of the last derivation - children are
not inherited; the statement, `UpToNull`, does not say when); a value that is no object is copied.  For every space that is not `dirty`, i.e. no enclosing space had its
linearisation changed since the space was last derived (the hypothesis is needed:
`enclosing_base_change_full_fails`, known finding C10-enclosing-base-change).  Objects are paths here: see
LIMIT OF THE MODEL above for what that leaves out (targets deleted since they were assigned). -/
theorem derived_refs_always_rebound (ops : List ROp) (q : Path) (n : String) (r : DRef)
    (hr : (RState.run {} ops).ref q n = some ⟨false, r⟩) (hd : (RState.run {} ops).dirty q = false) :
    Expected (RState.run {} ops) q n r :=
  (rinv_run ops {} rinv_empty).rebound q n r hr hd

/-- **the hypothesis concerns nested spaces after base changes only**: a space is marked only by
`add_bases` / `remove_bases` - in a history without them no space is ever marked - and only a space that
lies strictly below another one: a top-level space is never marked, so for top-level spaces
`derived_refs_always_rebound` holds without hypothesis -/
theorem marked_only_below_base_changes (ops : List ROp) :
    ((∀ op ∈ ops, op.isRebase = false) → ∀ q, (RState.run {} ops).dirty q = false) ∧
    (∀ q, (RState.run {} ops).dirty q = true → 2 ≤ q.length) :=
  ⟨fun h => no_rebase_no_dirty ops {} h (fun _ => rfl),
   dirty_depth_run ops {} rinv_empty (fun q hq => by cases hq)⟩

/-- for top-level spaces: after ANY history, no hypothesis -/
theorem top_level_derived_refs_always_rebound (ops : List ROp) (s : String) (n : String) (r : DRef)
    (hr : (RState.run {} ops).ref [s] n = some ⟨false, r⟩) : Expected (RState.run {} ops) [s] n r := by
  apply derived_refs_always_rebound ops [s] n r hr
  cases hd : (RState.run {} ops).dirty [s] with
  | false => rfl
  | true => have := (marked_only_below_base_changes ops).2 [s] hd; simp at this

/-- the reachable states are well-formed: every space has a linearisation, bases exist, the tree of spaces
is closed under parents, names are clean -/
theorem reachable_shape (ops : List ROp) : RShape (RState.run {} ops) := (rinv_run ops {} rinv_empty).toRShape

/-- **absolute**: bound to the very object the definer holds, after any history -/
theorem derived_absolute_same_object (ops : List ROp) (q : Path) (n : String) (r : DRef) (D : Path) (dr : DRef)
    (v : Path)
    (hr : (RState.run {} ops).ref q n = some ⟨false, r⟩) (hd : (RState.run {} ops).dirty q = false)
    (hf : (RState.run {} ops).firstDefiner q n = some (D, dr)) (hm : dr.mode = .absolute)
    (ht : dr.binding.target = .obj v) : r = ⟨.absolute, ⟨.obj v, false⟩⟩ := by
  have he := (derived_refs_always_rebound ops q n r hr hd).of_definer hf
  rw [ht, hm] at he
  obtain ⟨_, b, hb, hu⟩ := he
  cases hb
  exact hu.eq_of_absolute rfl

/-- **relative / auto, the definer's target inside the definer's tree** (`rel = []`: the defining space
itself; `[c]`: one of its cells; longer: deeper): after any history the derived reference is bound
relatively, inside the deriving space's own tree: to `q ++ rel` - or to a null object (as when `q ++ rel`
did not exist at the last derivation; the statement does not say when) -/
theorem derived_relative_bound_inside_own_tree (ops : List ROp) (q : Path) (n : String) (r : DRef) (D : Path)
    (dr : DRef) (rel : List String)
    (hr : (RState.run {} ops).ref q n = some ⟨false, r⟩) (hd : (RState.run {} ops).dirty q = false)
    (hf : (RState.run {} ops).firstDefiner q n = some (D, dr)) (hm : dr.mode ≠ .absolute)
    (ht : dr.binding.target = .obj (D ++ rel)) (hrel : "" ∉ rel) :
    r.mode = dr.mode ∧ r.binding.isRelative = true ∧
      (r.binding.target = .obj (q ++ rel) ∨ r.binding.target = .null) := by
  have hsh := reachable_shape ops
  have he := (derived_refs_always_rebound ops q n r hr hd).of_definer hf
  rw [ht] at he
  obtain ⟨hmode, b, hb, hu⟩ := he
  have hs := static_rebind (RState.run {} ops).mroOf (fun _ => true) dr.mode q D rel (createDerived dr.mode).binding
    hm (hsh.clean q (ref_in_ids hsh hr)) (hsh.clean D (ref_in_ids hsh (definedRef_some_ref (firstDefiner_some hf).2))) hrel
    (List.mem_of_mem_tail (firstDefiner_some hf).1)
  simp only [if_true] at hs
  simp only [reinherit, hs, Option.some.injEq] at hb
  subst hb
  refine ⟨hmode, ?_⟩
  rcases hu with hu | ⟨_, h2, _, h4, _⟩
  · rw [hu]; exact ⟨rfl, Or.inl rfl⟩
  · exact ⟨h2, Or.inr h4⟩

/-- **auto, no counterpart** (`get_relative` answers `None` in the current state: the target is outside the
trees `get_relative` relates): the derived reference keeps denoting the original object -/
theorem derived_outside_keeps_object (ops : List ROp) (q : Path) (n : String) (r : DRef) (D : Path) (dr : DRef)
    (v : Path)
    (hr : (RState.run {} ops).ref q n = some ⟨false, r⟩) (hd : (RState.run {} ops).dirty q = false)
    (hf : (RState.run {} ops).firstDefiner q n = some (D, dr)) (hm : dr.mode = .auto)
    (ht : dr.binding.target = .obj v) (hg : getRelative (RState.run {} ops).mroOf q D v = .none) :
    r = ⟨.auto, ⟨.obj v, false⟩⟩ := by
  have he := (derived_refs_always_rebound ops q n r hr hd).of_definer hf
  rw [ht, hm] at he
  obtain ⟨_, b, hb, hu⟩ := he
  rw [reinherit_obj _ (by decide), getRelativeInterface_of_none hg] at hb
  cases hb
  exact hu.eq_of_absolute rfl

/-- a value that is no object is copied, whatever the mode -/
theorem derived_plain_value_copied (ops : List ROp) (q : Path) (n : String) (r : DRef) (D : Path) (dr : DRef) (x : Int)
    (hr : (RState.run {} ops).ref q n = some ⟨false, r⟩) (hd : (RState.run {} ops).dirty q = false)
    (hf : (RState.run {} ops).firstDefiner q n = some (D, dr)) (ht : dr.binding.target = .plain x) :
    r.mode = dr.mode ∧ r.binding.target = .plain x := by
  have he := (derived_refs_always_rebound ops q n r hr hd).of_definer hf
  rw [ht] at he
  exact he

/-- **a `relative` reference is never bound out of scope**: in every reachable state a derived reference in
`relative` mode whose definer holds an object is bound relatively (the operation that would have bound it
absolutely was refused) -/
theorem derived_relative_mode_is_relative (ops : List ROp) (q : Path) (n : String) (r : DRef) (D : Path) (dr : DRef)
    (v : Path)
    (hr : (RState.run {} ops).ref q n = some ⟨false, r⟩) (hd : (RState.run {} ops).dirty q = false)
    (hf : (RState.run {} ops).firstDefiner q n = some (D, dr)) (hm : dr.mode = .relative)
    (ht : dr.binding.target = .obj v) : r.binding.isRelative = true := by
  have he := (derived_refs_always_rebound ops q n r hr hd).of_definer hf
  rw [ht, hm] at he
  obtain ⟨_, b, hb, hu⟩ := he
  exact hu.isRelative (reinherit_relative_flag hb)

/-! ### the two known findings as witnesses -/

/-- `Xsp.Ch` derives `Ysp.Ch`, `Ysp.Ch.rr = Ysp.foo` (auto): absolute in `Xsp.Ch`; then `Xsp.add_bases(Ysp)` -/
def enclosingOps : List ROp := [
  .newSpace [] "Ysp" [] ["foo"], .newSpace ["Ysp"] "Ch" [] [],
  .newSpace [] "Xsp" [] ["foo"], .newSpace ["Xsp"] "Ch" [["Ysp", "Ch"]] [],
  .setRef ["Ysp", "Ch"] "rr" (.obj ["Ysp", "foo"]) .auto,
  .addBase ["Xsp"] ["Ysp"]]

/-- **Without the hypothesis on the enclosing spaces the statement is false** (known finding
C10-enclosing-base-change): after `Xsp.add_bases(Ysp)` the reference `Xsp.Ch.rr` still denotes `Ysp.foo`
absolutely, re-derivation NOW binds it to `Xsp.foo` relatively; the ghost flag marks exactly that space. -/
theorem enclosing_base_change_full_fails :
    ¬ ∀ (ops : List ROp) (q : Path) (n : String) (r : DRef),
        (RState.run {} ops).ref q n = some ⟨false, r⟩ → Expected (RState.run {} ops) q n r := by
  intro h
  have key : (RState.run {} enclosingOps).ref ["Xsp", "Ch"] "rr" = some ⟨false, ⟨.auto, ⟨.obj ["Ysp", "foo"], false⟩⟩⟩ ∧
      (RState.run {} enclosingOps).firstDefiner ["Xsp", "Ch"] "rr" =
        some (["Ysp", "Ch"], ⟨.auto, ⟨.obj ["Ysp", "foo"], true⟩⟩) ∧
      reinherit (RState.run {} enclosingOps).mroOf (fun _ => true) (createDerived .auto) .auto ["Xsp", "Ch"]
        ["Ysp", "Ch"] (.obj ["Ysp", "foo"]) = some ⟨.auto, ⟨.obj ["Xsp", "foo"], true⟩⟩ := by decide +kernel
  obtain ⟨hr, hf, hb0⟩ := key
  obtain ⟨_, b, hb, hu⟩ := (h enclosingOps _ _ _ hr).of_definer hf
  rw [hb0] at hb; cases hb
  cases hu.isRelative rfl

example : (RState.run {} enclosingOps).dirty ["Xsp", "Ch"] = true ∧
    (RState.run {} enclosingOps).dirty ["Xsp"] = false ∧ (RState.run {} enclosingOps).dirty ["Ysp", "Ch"] = false := by
  decide +kernel

/-- `Base` derives `Def`; `Def.r = Base.foo` (auto): the target is outside `Def`'s tree, so `Base.r` is bound
absolutely - correctly, by the theorems above -; an ItemSpace of `Base` then keeps the static `Base.foo`
although the target lies inside its base's tree (known finding C10-dyn-derived-absolute-inside,
`dynamic_rebind_full_fails` at the level of a reachable state) -/
def dynInsideOps : List ROp := [
  .newSpace [] "Def" [] [], .newSpace [] "Base" [["Def"]] ["foo"],
  .setRef ["Def"] "r" (.obj ["Base", "foo"]) .auto]

theorem dyn_derived_absolute_inside_witness :
    (RState.run {} dynInsideOps).ref ["Base"] "r" = some ⟨false, ⟨.auto, ⟨.obj ["Base", "foo"], false⟩⟩⟩ ∧
    (RState.run {} dynInsideOps).dirty ["Base"] = false ∧
    (RState.run {} dynInsideOps).itemView ["Base"] ["Base"] "r" = some .keep ∧
    (RState.run {} dynInsideOps).exist (["Base"] ++ ["foo"]) = true := by decide +kernel

/-- … while a reference that was bound relatively is bound to the object of the dynamic tree (`dynamic_rebind`
on a reachable state: `Base.s = Base.foo` defined in `Base`; `Sub` derives `Base`: `Sub[1].s` is `Sub[1].foo`) -/
example :
    let st := RState.run {} [.newSpace [] "Base" [] ["foo"], .setRef ["Base"] "s" (.obj ["Base", "foo"]) .auto,
      .newSpace [] "Sub" [["Base"]] []]
    st.ref ["Sub"] "s" = some ⟨false, ⟨.auto, ⟨.obj ["Sub", "foo"], true⟩⟩⟩ ∧
    st.itemView ["Sub"] ["Sub"] "s" = some (.dyn ["foo"]) := by decide +kernel

/-! ### non-vacuity: a history with every operation, accepted and refused -/

def histOps : List ROp := [
  .newSpace [] "Base" [] ["foo"], .newSpace [] "Out" [] ["oo"],
  .setRef ["Base"] "rr" (.obj ["Base", "foo"]) .auto,
  .newSpace [] "Sub" [["Base"]] [],
  .setRef ["Base"] "ra" (.obj ["Base"]) .relative,
  .setRef ["Base"] "rb" (.obj ["Out", "oo"]) .auto,
  .setRef ["Base"] "rc" (.obj ["Out", "oo"]) .relative,      -- refused: out of scope in `Sub`
  .setRef ["Base"] "rp" (.plain 7) .auto,
  .newSpace [] "Two" [] [], .setRef ["Two"] "rr" (.obj ["Out"]) .absolute,
  .addBase ["Sub"] ["Two"],                                    -- `Sub(Base, Two)`: `rr` still from `Base`
  .removeBase ["Sub"] ["Base"],                                -- now from `Two`: absolute, `Out`
  .addBase ["Sub"] ["Base"],                                   -- `Sub(Two, Base)`
  .delRef ["Two"] "rr"]                                        -- back to `Base.rr`: `Sub.foo`

example : (RState.run {} (histOps.take 8)).ref ["Sub"] "rr" = some ⟨false, ⟨.auto, ⟨.obj ["Sub", "foo"], true⟩⟩⟩ ∧
    (RState.run {} (histOps.take 8)).ref ["Sub"] "ra" = some ⟨false, ⟨.relative, ⟨.obj ["Sub"], true⟩⟩⟩ ∧
    (RState.run {} (histOps.take 8)).ref ["Sub"] "rb" = some ⟨false, ⟨.auto, ⟨.obj ["Out", "oo"], false⟩⟩⟩ ∧
    (RState.run {} (histOps.take 8)).ref ["Sub"] "rc" = none ∧
    (RState.run {} (histOps.take 8)).ref ["Sub"] "rp" = some ⟨false, ⟨.auto, ⟨.plain 7, false⟩⟩⟩ := by decide +kernel
example : ((RState.run {} (histOps.take 6)).apply (.setRef ["Base"] "rc" (.obj ["Out", "oo"]) .relative)).isNone = true := by
  decide +kernel
example : (RState.run {} (histOps.take 12)).ref ["Sub"] "rr" = some ⟨false, ⟨.absolute, ⟨.obj ["Out"], false⟩⟩⟩ ∧
    (RState.run {} (histOps.take 13)).ref ["Sub"] "rr" = some ⟨false, ⟨.absolute, ⟨.obj ["Out"], false⟩⟩⟩ ∧
    (RState.run {} histOps).ref ["Sub"] "rr" = some ⟨false, ⟨.auto, ⟨.obj ["Sub", "foo"], true⟩⟩⟩ ∧
    (RState.run {} histOps).firstDefiner ["Sub"] "rr" = some (["Base"], ⟨.auto, ⟨.obj ["Base", "foo"], true⟩⟩) ∧
    (RState.run {} histOps).dirty ["Sub"] = false := by decide +kernel

end histories

/-! ## non-vacuity: concrete instances of the hypotheses and of the rebinding -/

/-- `M.P.Sub` derives `M.Q.Def`; `M.P.Sub.Ch` derives `M.Q.Def.Ch` -/
def demoMro : Path → List Path
  | ["P", "Sub"] => [["P", "Sub"], ["Q", "Def"]]
  | ["P", "Sub", "Ch"] => [["P", "Sub", "Ch"], ["Q", "Def", "Ch"]]
  | p => [p]

example : Outermost demoMro ["P", "Sub", "Ch"] ["Q", "Def", "Ch"] ["P", "Sub"] ["Q", "Def"] ["Ch"] := by
  refine ⟨⟨rfl, rfl, by decide +kernel, by decide +kernel, by decide +kernel⟩, ?_⟩
  intro rs' rb' t' h
  have h1 : t' <:+ ["P", "Sub", "Ch"] := ⟨rs', h.1.symm⟩
  have h2 : t' <:+ ["Q", "Def", "Ch"] := ⟨rb', h.2.1.symm⟩
  have := (suffix_lcs t' _ _ h1 h2).length_le
  have e : lcs ["P", "Sub", "Ch"] ["Q", "Def", "Ch"] = ["Ch"] := by decide +kernel
  rw [e] at this
  simpa using this

example : getRelative demoMro ["P", "Sub", "Ch"] ["Q", "Def", "Ch"] ["Q", "Def", "foo"]
    = .some ["P", "Sub", "foo"] := by decide +kernel
example : getRelative demoMro ["P", "Sub"] ["Q", "Def"] ["Q", "Def", "Ch", "dd"]
    = .some ["P", "Sub", "Ch", "dd"] := by decide +kernel
example : getRelative demoMro ["P", "Sub"] ["Q", "Def"] ["Q", "Out", "oo"] = .none := by decide +kernel
example : Clean ["P", "Sub"] ∧ Clean ["Q", "Def"] ∧ ["Q", "Def"] ∈ demoMro ["P", "Sub"] := by
  decide +kernel
example : onInherit demoMro (fun p => p == ["P", "Sub", "cc"]) .relative ["P", "Sub"] ["Q", "Def"]
    (.obj ["Q", "Def", "cc"]) ⟨.plain 0, true⟩ = .bound ⟨.obj ["P", "Sub", "cc"], true⟩ := by decide +kernel
example : onInherit demoMro (fun _ => false) .auto ["P", "Sub"] ["Q", "Def"]
    (.obj ["Q", "Def", "Ch"]) ⟨.plain 0, true⟩ = .bound ⟨.null, true⟩ := by decide +kernel
example : onInherit demoMro (fun _ => true) .relative ["P", "Sub"] ["Q", "Def"]
    (.obj ["Out"]) ⟨.plain 0, true⟩ = .reject := by decide +kernel
example : newRefSub demoMro (fun _ => true) .auto ["P", "Sub"] ["Q", "Def"] (.obj ["Q", "Def"])
    = some ⟨.auto, ⟨.obj ["P", "Sub"], true⟩⟩ := by decide +kernel
example : checkSubRelref demoMro .relative ["P", "Sub"] ["Q", "Def"] (.obj ["Q", "Def", "cc"]) = false := by
  decide +kernel
/-- a reference held by the grandchild `Base.Ch.Gr` whose value is the base `Base` itself -/
example : wrapImpl (fun _ => true) ["Base"] ["Ch", "Gr"] ⟨.auto, true, true, .obj ["Base"]⟩ = .dyn [] := by
  decide +kernel
example : wrapImpl (fun _ => true) ["Base"] ["Ch"] ⟨.relative, true, true, .obj ["Base", "Ch", "Gr", "ee"]⟩
    = .dyn ["Ch", "Gr", "ee"] := by decide +kernel
example : ¬ ["Base"] <+: ["Out", "oo"] ∧ ¬ ["Base"] <+: ["Base2", "foo"] := by decide +kernel

/-! ### the inputs of the repaired defects: what the repaired code does with them -/

/-- `A.B` deriving a top-level `B` (6d7db1b): the reference to `B` denotes `A.B` -/
example : onInherit (fun p => if p = ["A", "B"] then [["A", "B"], ["B"]] else [p]) (fun _ => true)
    .auto ["A", "B"] ["B"] (.obj ["B"]) ⟨.plain 0, true⟩ = .bound ⟨.obj ["A", "B"], true⟩ := by decide +kernel
/-- … and a top-level `B` deriving `A.B` -/
example : onInherit (fun p => if p = ["B"] then [["B"], ["A", "B"]] else [p]) (fun _ => true)
    .relative ["B"] ["A", "B"] (.obj ["A", "B", "c"]) ⟨.plain 0, true⟩ = .bound ⟨.obj ["B", "c"], true⟩ := by
  decide +kernel
/-- `Sub(Bone, Btwo)`, `Bone.r` absolute, `Btwo.r = Btwo` auto, `Sub.remove_bases(Bone)` (39b86b9):
`Sub.r` becomes `auto` and denotes `Sub` -/
example : reinherit (fun p => if p = ["Sub"] then [["Sub"], ["Btwo"]] else [p]) (fun _ => true)
    ⟨.absolute, ⟨.obj ["Bone"], false⟩⟩ .auto ["Sub"] ["Btwo"] (.obj ["Btwo"])
    = some ⟨.auto, ⟨.obj ["Sub"], true⟩⟩ := by decide +kernel
/-- re-assigning an `auto` reference to an object outside (e655c26): the flag says absolute -/
example : changeRefSub (fun p => if p = ["Sub"] then [["Sub"], ["Base"]] else [p]) (fun _ => true) .auto
    ["Sub"] ["Base"] (.obj ["Out", "oo"]) = some ⟨.auto, ⟨.obj ["Out", "oo"], false⟩⟩ := by decide +kernel
/-- `Ysp.Ch.rr = Ysp.Other`, sub spaces `Xsp.Ch` (relative, no `Xsp.Other`: null object) and `Zsp`
(outside: the original), in this order (069099b) -/
example : refLoop (fun p => if p = ["Xsp", "Ch"] then [["Xsp", "Ch"], ["Ysp", "Ch"]]
                      else if p = ["Xsp"] then [["Xsp"], ["Ysp"]]
                      else if p = ["Zsp"] then [["Zsp"], ["Ysp", "Ch"]] else [p])
    (fun p => p != ["Xsp", "Other"]) false .auto ["Ysp", "Ch"] (.obj ["Ysp", "Other"]) [["Xsp", "Ch"], ["Zsp"]]
    = [some ⟨.auto, ⟨.null, true⟩⟩, some ⟨.auto, ⟨.obj ["Ysp", "Other"], false⟩⟩] := by decide +kernel
/-- a derived `auto` reference with `is_relative` set and a target outside the ItemSpace's base
(2f47edb), and a target whose name merely starts with the base's name (4d6c07c): kept -/
example : wrapImpl (fun _ => false) ["Xsp", "Ch"] [] ⟨.auto, true, false, .obj ["Xsp", "foo"]⟩ = .keep ∧
    wrapImpl (fun _ => false) ["Base"] [] ⟨.auto, true, true, .obj ["Base2", "foo"]⟩ = .keep := by decide +kernel

end MxModel.C10
