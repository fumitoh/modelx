import MxModel.Proofs.ExecCertRunOps
import MxModel.Proofs.ExecRecalc
/-!
# The fourteen-operation language: the edit language of the value layer plus the recalculating assignment

`OpR` extends `C02.Op` (thirteen operations) by `setValueRecalc n v` – `set_value_from_key` with
`System._recalc_dependents = True` (`St.setValueRecalc`, `Exec/Mech.lean`).  It is built as an EXTENSION
with a SIMULATION, not as a constructor added to `Op`:

* `stepR` / `runR` / `AdmissibleR` – the operational reading (same guard as the lazy assignment);
* `stepR_ci`, `runR_ci` – the certificate invariant `CI` is kept (returned, failed, refused);
* `expandOp` / `expand` – the history of the thirteen-operation language that a history with recalculating
  assignments stands for: each recalculating assignment is replaced by the lazy assignment followed by the
  evaluations of the former leaf dependents (`evaluatedTargets`: the prefix of `St.startNodesFrom` of the
  state BEFORE the assignment up to and including the first one whose evaluation fails);
* `stepR_eq_run`, `runR_eq_run` – the two histories reach the SAME pair (definitions, mechanism state),
  and the expanded one is admissible.  Hence every theorem about the reachable states of `Op` is a
  theorem about the reachable states of `OpR`.
-/
namespace MxModel.C02
open MxModel.Exec

-- whole mechanism states can be compared (used by the `decide` examples of the two-run statements)
deriving instance DecidableEq for MxModel.Exec.St

inductive OpR
  | base (op : Op)
  /-- `cells[key] = v` / `cells.set_value(...)` after `mx.set_recalc(True)` -/
  | setValueRecalc (n : Node) (v : Val)

/-- one operation; the recalculating assignment has the guard of the lazy one (`step`: an assignment
through the handle of a missing cells is refused; an uncached cells stores nothing) -/
def stepR : Env × St → OpR → Env × St
  | st, .base op => step st op
  | (env, s), .setValueRecalc n v =>
    (env, if env.cached n.1 && env.alive n.1 then (s.setValueRecalc env n v).1 else s)

def runR (st : Env × St) (ops : List OpR) : Env × St := ops.foldl stepR st

def AdmissibleR (lt : Node → Node → Prop) : Env × St → List OpR → Prop
  | _, [] => True
  | st, op :: ops => WF (stepR st op).1 lt ∧ AdmissibleR lt (stepR st op) ops

theorem setValueRecalc_ci {env : Env} {lt : Node → Node → Prop} (ho : StrictOrder lt) (hw : WF env lt)
    {s : St} (h : CI env lt s) (n : Node) (v : Val) (hc : env.cached n.1 = true) (hn : env.alive n.1 = true) :
    CI env lt (s.setValueRecalc env n v).1 := by
  have h1 := setValue_ci h n v hc hn
  by_cases hv : v = .none ∧ env.allowNone n.1 = false
  · rw [setValueRecalc_refused s n v hv]; exact h
  · rw [setValueRecalc_eq s n v hv]
    exact (recalcTargets_ci ho hw.ranked hw.noCatch (s.startNodesFrom n) _
      (fun t ht => (startNodes_alive h n t ht).1) h1).1

theorem stepR_ci (lt : Node → Node → Prop) (ho : StrictOrder lt) (st : Env × St) (op : OpR)
    (hw : WF st.1 lt) (h : CI st.1 lt st.2) : CI (stepR st op).1 lt (stepR st op).2 := by
  cases op with
  | base op => exact step_ci lt ho st op hw h
  | setValueRecalc n v =>
    obtain ⟨env, s⟩ := st
    simp only [stepR]
    split
    · rename_i hc
      simp only [Bool.and_eq_true] at hc
      exact setValueRecalc_ci ho hw h n v hc.1 hc.2
    · exact h

theorem runR_ci (lt : Node → Node → Prop) (ho : StrictOrder lt) : ∀ (ops : List OpR) (st : Env × St),
    WF st.1 lt → CI st.1 lt st.2 → AdmissibleR lt st ops →
    CI (runR st ops).1 lt (runR st ops).2 ∧ WF (runR st ops).1 lt :=
  fun ops st hw h hadm =>
    foldl_inv stepR (AdmissibleR lt) (fun st => WF st.1 lt) (fun st => CI st.1 lt st.2) (fun _ _ _ ha => ha)
      (fun st op hw h => stepR_ci lt ho st op hw h) ops st hw h hadm

def evaluatedTargets (env : Env) : List Node → St → List Node
  | [], _ => []
  | t :: ts, s =>
    match (evalTop env t s).1 with
    | .ok _ => t :: evaluatedTargets env ts (evalTop env t s).2
    | .formulaError _ _ => [t]

def expandOp : Env × St → OpR → List Op
  | _, .base op => [op]
  | (env, s), .setValueRecalc n v =>
    if env.cached n.1 && env.alive n.1 then
      match (s.setValue env n v).2 with
      | some _ => [.setValue n v]
      | none => .setValue n v ::
          (evaluatedTargets env (s.startNodesFrom n) (s.setValue env n v).1).map Op.eval
    else [.setValue n v]

def expand : Env × St → List OpR → List Op
  | _, [] => []
  | st, op :: ops => expandOp st op ++ expand (stepR st op) ops

theorem run_append (st : Env × St) (a b : List Op) : run st (a ++ b) = run (run st a) b := by
  simp [run, List.foldl_append]

theorem admissible_append (lt : Node → Node → Prop) : ∀ (a b : List Op) (st : Env × St),
    Admissible lt st a → Admissible lt (run st a) b → Admissible lt st (a ++ b)
  | [], _, _, _, hb => hb
  | op :: a, b, st, ha, hb => ⟨ha.1, admissible_append lt a b (step st op) ha.2 hb⟩

theorem evaluatedTargets_sub (env : Env) : ∀ (ts : List Node) (s : St), ∀ t ∈ evaluatedTargets env ts s, t ∈ ts
  | [], _, t, ht => by cases ht
  | t0 :: ts, s, t, ht => by
    simp only [evaluatedTargets] at ht
    split at ht
    · rcases List.mem_cons.mp ht with rfl | h
      · simp
      · exact List.mem_cons_of_mem _ (evaluatedTargets_sub env ts _ t h)
    · simp only [List.mem_singleton] at ht; subst ht; simp

theorem evaluatedTargets_ok (env : Env) : ∀ (ts : List Node) (s : St),
    (St.recalcTargets env ts s).1 = .ok → evaluatedTargets env ts s = ts
  | [], _, _ => rfl
  | t :: ts, s, hok => by
    simp only [St.recalcTargets, evaluatedTargets] at hok ⊢
    cases hr : (evalTop env t s).1 with
    | ok w =>
      simp only [hr] at hok ⊢
      rw [evaluatedTargets_ok env ts _ hok]
    | formulaError e tb => simp [hr] at hok

theorem evaluatedTargets_failed (env : Env) : ∀ (ts : List Node) (s : St) (t : Node) (e : Err) (tb : List Node),
    (St.recalcTargets env ts s).1 = .failed t e tb →
      ∃ pre post, ts = pre ++ t :: post ∧ evaluatedTargets env ts s = pre ++ [t]
  | [], s, t, e, tb, h => by simp [St.recalcTargets] at h
  | t0 :: ts, s, t, e, tb, h => by
    simp only [St.recalcTargets, evaluatedTargets] at h ⊢
    cases hr : (evalTop env t0 s).1 with
    | formulaError e' tb' =>
      simp only [hr, RecalcRes.failed.injEq] at h ⊢
      obtain ⟨rfl, _, _⟩ := h
      exact ⟨[], ts, rfl, rfl⟩
    | ok w =>
      simp only [hr] at h ⊢
      obtain ⟨pre, post, h1, h2⟩ := evaluatedTargets_failed env ts _ t e tb h
      exact ⟨t0 :: pre, post, by rw [h1]; rfl, by rw [h2]; rfl⟩

/-- the loop over the targets IS the run of their evaluations (the targets exist: `step` refuses the
evaluation through the handle of a missing cells, the loop does not ask) -/
theorem recalcTargets_eq_run (env : Env) : ∀ (ts : List Node) (s : St), (∀ t ∈ ts, env.alive t.1 = true) →
    (env, (St.recalcTargets env ts s).2) = run (env, s) ((evaluatedTargets env ts s).map Op.eval)
  | [], _, _ => rfl
  | t :: ts, s, hal => by
    have ht : env.alive t.1 = true := hal t (by simp)
    simp only [St.recalcTargets, evaluatedTargets]
    cases hr : (evalTop env t s).1 with
    | ok w =>
      simp only [List.map_cons, run, List.foldl_cons, step, ht, if_true]
      exact recalcTargets_eq_run env ts _ (fun u hu => hal u (by simp [hu]))
    | formulaError e tb =>
      simp only [List.map_cons, List.map_nil, run, List.foldl_cons, List.foldl_nil, step, ht, if_true]

theorem admissible_evals {env : Env} {lt : Node → Node → Prop} (hw : WF env lt) :
    ∀ (ts : List Node) (s : St), Admissible lt (env, s) (ts.map Op.eval)
  | [], _ => trivial
  | _ :: ts, _ => ⟨hw, admissible_evals hw ts _⟩

theorem stepR_eq_run {lt : Node → Node → Prop} (st : Env × St) (op : OpR) (h : CI st.1 lt st.2) :
    stepR st op = run st (expandOp st op) := by
  cases op with
  | base op => rfl
  | setValueRecalc n v =>
    obtain ⟨env, s⟩ := st
    simp only [stepR, expandOp]
    by_cases hg : (env.cached n.1 && env.alive n.1) = true
    · simp only [hg, if_true]
      unfold St.setValueRecalc
      cases hs : (s.setValue env n v).2 with
      | some e => simp only [run, List.foldl_cons, List.foldl_nil, step, hg, if_true]
      | none =>
        simp only [run, List.foldl_cons, step, hg, if_true]
        exact recalcTargets_eq_run env _ _ (fun t ht => (startNodes_alive h n t ht).1)
    · simp only [hg, Bool.false_eq_true, if_false, run, List.foldl_cons, List.foldl_nil, step]

theorem expandOp_admissible {lt : Node → Node → Prop} (st : Env × St) (op : OpR) (hw : WF st.1 lt)
    (hw' : WF (stepR st op).1 lt) : Admissible lt st (expandOp st op) := by
  cases op with
  | base op => exact ⟨hw', trivial⟩
  | setValueRecalc n v =>
    obtain ⟨env, s⟩ := st
    simp only [expandOp]
    split
    · split
      · exact ⟨hw, trivial⟩
      · exact ⟨hw, admissible_evals hw _ _⟩
    · exact ⟨hw, trivial⟩

theorem runR_eq_run (lt : Node → Node → Prop) (ho : StrictOrder lt) : ∀ (ops : List OpR) (st : Env × St),
    WF st.1 lt → CI st.1 lt st.2 → AdmissibleR lt st ops →
    runR st ops = run st (expand st ops) ∧ Admissible lt st (expand st ops) := by
  intro ops
  induction ops with
  | nil => intro st _ _ _; exact ⟨rfl, trivial⟩
  | cons op rest ih =>
    intro st hw h hadm
    obtain ⟨e1, a1⟩ := ih (stepR st op) hadm.1 (stepR_ci lt ho st op hw h) hadm.2
    have e0 := stepR_eq_run (lt := lt) st op h
    refine ⟨?_, ?_⟩
    · show runR (stepR st op) rest = run st (expandOp st op ++ expand (stepR st op) rest)
      rw [run_append, ← e0]; exact e1
    · show Admissible lt st (expandOp st op ++ expand (stepR st op) rest)
      refine admissible_append lt _ _ st (expandOp_admissible st op hw hadm.1) ?_
      rw [← e0]; exact a1

def OpR.valueOnly : OpR → Bool
  | .base (.eval _) => true
  | .base (.setValue _ _) => true
  | .base (.clearAt _) => true
  | .base (.clear _) => true
  | .base (.clearAll _) => true
  | .base (.admin _) => true
  | .setValueRecalc _ _ => true
  | _ => false

theorem stepR_valueOnly (st : Env × St) (op : OpR) (h : op.valueOnly = true) : (stepR st op).1 = st.1 := by
  obtain ⟨env, s⟩ := st
  cases op with
  | setValueRecalc n v => rfl
  | base op => cases op <;> first | rfl | cases h

theorem admissibleR_valueOnly {lt : Node → Node → Prop} : ∀ (ops : List OpR) (st : Env × St), WF st.1 lt →
    ops.all OpR.valueOnly = true → AdmissibleR lt st ops
  | [], _, _, _ => trivial
  | op :: ops, st, hw, hall => by
    simp only [List.all_cons, Bool.and_eq_true] at hall
    have hw' : WF (stepR st op).1 lt := by rw [stepR_valueOnly st op hall.1]; exact hw
    exact ⟨hw', admissibleR_valueOnly ops _ hw' hall.2⟩

end MxModel.C02
