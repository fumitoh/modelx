import MxModel.Proofs.ExprBind
import MxModel.Proofs.ExecHeld
import MxModel.Proofs.ExprInduct
import MxModel.Exec.Spelled
/-!
# Equal spellings denote the same element (helper lemmas for C01)

* top level (`evalSpelled`, the driver's `eval`): what a spelling evaluates is `evalTop` of the bound key
  and nothing else (that a successful evaluation of an element of a cached cells leaves the element held,
  under exactly one cache entry, is `evalTop_ok_held`, `evalTop_ok_one_entry` of `Proofs/ExecHeld.lean`);
* inside formulas (`Expr.callK`): after its arguments are evaluated, in source order, a spelled call IS
  the plain positional call of the bound key (`compile_callK`), or a `TypeError` raised in the caller
  with no call made; for argument expressions without effects (literals, parameters: `ArgVals`) two
  spellings that bind to the same key compile to the same behaviour (`compile_callK_pure`).
-/
namespace MxModel.Exec

theorem evalSpelled_of_bind {env : Env} {c : CellId} {a : Nat} {dflt pos : List Val} {kw : List (Nat × Val)}
    {key : Key} (h : bindKey a dflt pos kw = some key) (s : St) :
    evalSpelled env c a dflt pos kw s = (.res (evalTop env (c, key) s).1, (evalTop env (c, key) s).2) := by
  unfold evalSpelled; rw [h]

theorem evalSpelled_of_none {env : Env} {c : CellId} {a : Nat} {dflt pos : List Val} {kw : List (Nat × Val)}
    (h : bindKey a dflt pos kw = none) (s : St) :
    evalSpelled env c a dflt pos kw s = (.typeError, s) := by
  unfold evalSpelled; rw [h]

def valExpr : Val → Expr
  | .int i => .lit i
  | .none => .none

def argVal (params : List Val) : Expr → Option Val
  | .lit i => some (.int i)
  | .none => some .none
  | .param i => params[i]?
  | _ => none

def ArgVals (params : List Val) : List Expr → List Val → Prop
  | [], [] => True
  | e :: es, v :: vs => argVal params e = some v ∧ ArgVals params es vs
  | _, _ => False

theorem compile_argVal (ar : CellId → Option Nat) (params : List Val) (e : Expr) (v : Val)
    (h : argVal params e = some v) (k : Val → Prog) (hh : Bool → Err → Prog) :
    compile ar params e k hh = k v := by
  cases e with
  | lit i => cases h; rfl
  | none => cases h; rfl
  | param i => simp only [compile]; rw [show params[i]? = some v from h]
  | _ => cases h

theorem compileArgs_argVals (ar : CellId → Option Nat) (params : List Val) :
    ∀ (args : List Expr) (vs : List Val), ArgVals params args vs →
      ∀ (k : List Val → Prog) (hh : Bool → Err → Prog), compileArgs ar params args k hh = k vs
  | [], [], _, k, hh => by simp [compileArgs]
  | e :: es, v :: vs, h, k, hh => by
    simp only [ArgVals] at h
    simp only [compileArgs]
    rw [compile_argVal ar params _ _ h.1, compileArgs_argVals ar params es vs h.2]
  | [], _ :: _, h, _, _ => by simp [ArgVals] at h
  | _ :: _, [], h, _, _ => by simp [ArgVals] at h

theorem argVals_vals (params : List Val) : ∀ (vs : List Val), ArgVals params (vs.map valExpr) vs
  | [] => trivial
  | v :: vs => ⟨by cases v <;> rfl, argVals_vals params vs⟩

theorem compileArgs_vals (ar : CellId → Option Nat) (params : List Val) (vs : List Val)
    (k : List Val → Prog) (hh : Bool → Err → Prog) :
    compileArgs ar params (vs.map valExpr) k hh = k vs :=
  compileArgs_argVals ar params _ vs (argVals_vals params vs) k hh

theorem callWith_argVals (ar : CellId → Option Nat) (params : List Val) (c : CellId) (a : Nat) (args : List Expr)
    (vs : List Val) (bind : Nat → List Val → Option Key) (hc : ar c = some a) (hv : ArgVals params args vs)
    (k : Val → Prog) (hh : Bool → Err → Prog) :
    callWith ar params c args bind k hh =
      match bind a vs with
      | some key => .call (c, key) (retK k hh)
      | none => hh true (.user kType) := by
  unfold callWith
  rw [hc]
  exact compileArgs_argVals ar params args vs hv _ hh

theorem compile_call_vals (ar : CellId → Option Nat) (params : List Val) (c : CellId) (a : Nat) (key : Key)
    (hc : ar c = some a) (hl : key.length = a) (k : Val → Prog) (hh : Bool → Err → Prog) :
    compile ar params (.call c (key.map valExpr)) k hh =
      .call (c, key) (retK k hh) := by
  rw [compile_call_eq, callWith_argVals ar params c a _ key _ hc (argVals_vals params key), if_pos hl]

theorem compile_callK (ar : CellId → Option Nat) (params : List Val) (c : CellId) (a : Nat)
    (args : List Expr) (npos : Nat) (kws : List Nat) (dflt : List Val) (hc : ar c = some a)
    (k : Val → Prog) (hh : Bool → Err → Prog) :
    compile ar params (.callK c args npos kws dflt) k hh =
      compileArgs ar params args (fun vs =>
        match bindKey a dflt (vs.take npos) (kws.zip (vs.drop npos)) with
        | some key => compile ar params (.call c (key.map valExpr)) k hh
        | none => hh true (.user kType)) hh := by
  rw [compile_callK_eq, callWith, hc]
  refine congrArg (compileArgs ar params args · hh) (funext fun vs => ?_)
  cases hb : bindKey a dflt (vs.take npos) (kws.zip (vs.drop npos)) with
  | none => rfl
  | some key => exact (compile_call_vals ar params c a key hc (bindKey_length _ _ _ _ _ hb) k hh).symm

theorem compile_callK_pure (ar : CellId → Option Nat) (params : List Val) (c : CellId) (a : Nat)
    (args : List Expr) (vs : List Val) (npos : Nat) (kws : List Nat) (dflt : List Val) (key : Key)
    (hc : ar c = some a) (hv : ArgVals params args vs)
    (hb : bindKey a dflt (vs.take npos) (kws.zip (vs.drop npos)) = some key)
    (k : Val → Prog) (hh : Bool → Err → Prog) :
    compile ar params (.callK c args npos kws dflt) k hh =
      .call (c, key) (retK k hh) := by
  rw [compile_callK_eq, callWith_argVals ar params c a args vs _ hc hv, hb]

theorem compile_callK_unbound (ar : CellId → Option Nat) (params : List Val) (c : CellId) (a : Nat)
    (args : List Expr) (vs : List Val) (npos : Nat) (kws : List Nat) (dflt : List Val)
    (hc : ar c = some a) (hv : ArgVals params args vs)
    (hb : bindKey a dflt (vs.take npos) (kws.zip (vs.drop npos)) = none)
    (k : Val → Prog) (hh : Bool → Err → Prog) :
    compile ar params (.callK c args npos kws dflt) k hh = hh true (.user kType) := by
  rw [compile_callK_eq, callWith_argVals ar params c a args vs _ hc hv, hb]

end MxModel.Exec
