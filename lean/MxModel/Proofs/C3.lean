import MxModel.Kernels.C3
import MxModel.Struct.Derive
/-! Properties of the C3 merge as modelx computes it, and of derivation from scratch. -/
namespace MxModel.C3

variable {α : Type} [DecidableEq α]

theorem pick_mem (all : List (List α)) : ∀ (seqs : List (List α)) (c : α),
    pick all seqs = some c → ∃ s ∈ seqs, s.head? = some c ∧ all.any (inTail c) = false := by
  intro seqs
  induction seqs with
  | nil => intro c h; simp [pick] at h
  | cons s rest ih =>
    intro c h
    cases s with
    | nil =>
      simp only [pick] at h
      obtain ⟨s', hs', h1, h2⟩ := ih c h
      exact ⟨s', List.mem_cons_of_mem _ hs', h1, h2⟩
    | cons x xs =>
      simp only [pick] at h
      split at h
      · obtain ⟨s', hs', h1, h2⟩ := ih c h
        exact ⟨s', List.mem_cons_of_mem _ hs', h1, h2⟩
      · rename_i hany
        simp only [Option.some.injEq] at h
        subst h
        exact ⟨x :: xs, by simp, rfl, by simpa using hany⟩

theorem merge_some (fuel : Nat) (seqs : List (List α)) (res : List α) (h : merge fuel seqs = some res) :
    (res = [] ∧ seqs.filter (· ≠ []) = []) ∨
      ∃ f c r, fuel = f + 1 ∧ pick (seqs.filter (· ≠ [])) (seqs.filter (· ≠ [])) = some c ∧
        merge f (dropHead c (seqs.filter (· ≠ []))) = some r ∧ res = c :: r := by
  cases fuel with
  | zero =>
    simp only [merge] at h
    split at h
    · rename_i he
      exact Or.inl ⟨(Option.some.inj h).symm, List.isEmpty_iff.mp he⟩
    · cases h
  | succ f =>
    simp only [merge] at h
    split at h
    · rename_i he
      exact Or.inl ⟨(Option.some.inj h).symm, List.isEmpty_iff.mp he⟩
    · split at h
      · cases h
      · rename_i c hc
        cases hm : merge f (dropHead c (seqs.filter (· ≠ []))) with
        | none => rw [hm] at h; cases h
        | some r =>
          rw [hm] at h
          exact Or.inr ⟨f, c, r, rfl, hc, hm, (Option.some.inj h).symm⟩

/-- **local precedence and monotonicity**: every merged sequence is a subsequence of the result -/
theorem merge_sublist : ∀ (fuel : Nat) (seqs : List (List α)) (res : List α),
    merge fuel seqs = some res → ∀ s ∈ seqs, s.Sublist res := by
  intro fuel seqs res
  induction res generalizing fuel seqs with
  | nil =>
    intro h s hs
    rcases merge_some _ _ _ h with ⟨_, he⟩ | ⟨_, _, _, _, _, _, hr⟩
    · cases s with
      | nil => exact List.Sublist.refl _
      | cons x xs =>
        have : (x :: xs) ∈ seqs.filter (· ≠ []) := by simp [hs]
        rw [he] at this; cases this
    · cases hr
  | cons c r ih =>
    intro h s hs
    rcases merge_some _ _ _ h with ⟨hr, _⟩ | ⟨f, c', r', _, _, hm, hr⟩
    · cases hr
    · cases hr
      cases s with
      | nil => exact List.nil_sublist _
      | cons x xs =>
        have hmem : (x :: xs) ∈ seqs.filter (· ≠ []) := by simp [hs]
        have himg : (if x = c then xs else x :: xs) ∈ dropHead c (seqs.filter (· ≠ [])) := by
          unfold dropHead
          exact List.mem_map.mpr ⟨x :: xs, hmem, rfl⟩
        have := ih _ _ hm _ himg
        by_cases hx : x = c
        · subst hx
          simp only [if_true] at this
          exact List.Sublist.cons_cons _ this
        · simp only [hx, if_false] at this
          exact List.Sublist.cons _ this

theorem merge_mem : ∀ (fuel : Nat) (seqs : List (List α)) (res : List α),
    merge fuel seqs = some res → ∀ x ∈ res, ∃ s ∈ seqs, x ∈ s := by
  intro fuel seqs res
  induction res generalizing fuel seqs with
  | nil => intro _ x hx; cases hx
  | cons c r ih =>
    intro h x hx
    rcases merge_some _ _ _ h with ⟨hr, _⟩ | ⟨f, c', r', _, hc, hm, hr⟩
    · cases hr
    · cases hr
      simp only [List.mem_cons] at hx
      rcases hx with rfl | hx
      · obtain ⟨s, hs, hh, _⟩ := pick_mem _ _ _ hc
        refine ⟨s, (List.mem_filter.mp hs).1, ?_⟩
        cases s with
        | nil => cases hh
        | cons y ys => simp at hh; subst hh; simp
      · obtain ⟨s', hs', hxs'⟩ := ih _ _ hm x hx
        unfold dropHead at hs'
        obtain ⟨s, hs, rfl⟩ := List.mem_map.mp hs'
        refine ⟨s, (List.mem_filter.mp hs).1, ?_⟩
        cases s with
        | nil => cases hxs'
        | cons y ys =>
          simp only [] at hxs'
          split at hxs'
          · exact List.mem_cons_of_mem _ hxs'
          · exact hxs'

omit [DecidableEq α] in
theorem mapM_some_iff {β : Type} (f : α → Option β) : ∀ (l : List α) (ms : List β),
    l.mapM f = some ms ↔ l.map f = ms.map some := by
  intro l
  induction l with
  | nil => intro ms; cases ms <;> simp
  | cons a l ih =>
    intro ms
    cases ms with
    | nil => cases hf : f a <;> cases hl : l.mapM f <;> simp [List.mapM_cons, hf, hl]
    | cons z zs =>
      cases hf : f a <;> cases hl : l.mapM f <;>
        simp [List.mapM_cons, hf, hl, ← ih zs]

theorem mapM_congr {β : Type} (f g : α → Option β) (l : List α) (ms : List β)
    (h : l.mapM f = some ms) (hfg : ∀ x ∈ l, g x = f x) : l.mapM g = some ms := by
  rw [mapM_some_iff] at h ⊢
  rw [← h]
  exact List.map_congr_left hfg

theorem mapM_mem {β : Type} (f : α → Option β) (l : List α) (ms : List β) (h : l.mapM f = some ms) :
    (∀ x ∈ l, ∃ y ∈ ms, f x = some y) ∧ (∀ y ∈ ms, ∃ x ∈ l, f x = some y) := by
  rw [mapM_some_iff] at h
  constructor
  · intro x hx
    have : f x ∈ l.map f := List.mem_map.mpr ⟨x, hx, rfl⟩
    rw [h] at this
    obtain ⟨y, hy, hxy⟩ := List.mem_map.mp this
    exact ⟨y, hy, hxy.symm⟩
  · intro y hy
    have : some y ∈ ms.map some := List.mem_map.mpr ⟨y, hy, rfl⟩
    rw [← h] at this
    obtain ⟨x, hx, hxy⟩ := List.mem_map.mp this
    exact ⟨x, hx, hxy⟩

theorem mro_succ_some (bases : α → List α) (d : Nat) (s : α) (l : List α)
    (h : mro bases (d + 1) s = some l) :
    ∃ ms r, (bases s).mapM (mro bases d) = some ms ∧
      merge (totalLen (ms ++ [bases s])) (ms ++ [bases s]) = some r ∧ l = s :: r := by
  simp only [mro] at h
  cases hmm : (bases s).mapM (mro bases d) with
  | none => rw [hmm] at h; cases h
  | some ms =>
    rw [hmm] at h
    simp only [] at h
    cases hm : merge (totalLen (ms ++ [bases s])) (ms ++ [bases s]) with
    | none => rw [hm] at h; cases h
    | some r =>
      rw [hm] at h
      simp only [Option.map_some, Option.some.injEq] at h
      exact ⟨ms, r, rfl, hm, h.symm⟩

theorem mro_succ_of (bases : α → List α) (d : Nat) (s : α) (ms : List (List α)) (r : List α)
    (h1 : (bases s).mapM (mro bases d) = some ms)
    (h2 : merge (totalLen (ms ++ [bases s])) (ms ++ [bases s]) = some r) :
    mro bases (d + 1) s = some (s :: r) := by
  simp only [mro, h1, h2, Option.map_some]

theorem mro_head (bases : α → List α) : ∀ (d : Nat) (s : α) (l : List α),
    mro bases d s = some l → ∃ r, l = s :: r := by
  intro d s l h
  cases d with
  | zero => simp [mro] at h
  | succ d =>
    obtain ⟨_, r, _, _, hl⟩ := mro_succ_some bases d s l h
    exact ⟨r, hl⟩

theorem mro_sublist (bases : α → List α) (d : Nat) (s : α) (r : List α)
    (h : mro bases (d + 1) s = some (s :: r)) :
    (bases s).Sublist r ∧ ∀ b ∈ bases s, ∃ lb, mro bases d b = some lb ∧ lb.Sublist r := by
  obtain ⟨ms, r', h1, h2, h3⟩ := mro_succ_some bases d s _ h
  cases h3
  have hsub := merge_sublist (α := α) _ _ _ h2
  refine ⟨hsub _ (by simp), fun b hb => ?_⟩
  obtain ⟨lb, hlb, hbm⟩ := (mapM_mem _ _ _ h1).1 b hb
  exact ⟨lb, hbm, hsub lb (by simp [hlb])⟩

end MxModel.C3

namespace MxModel.Struct
variable {α : Type}

theorem mem_derivedNames (tail : List α) (defs : α → List String) (own : List String) (x : String) :
    x ∈ derivedNames tail defs own ↔ x ∉ own ∧ ∃ b ∈ tail, x ∈ defs b := by
  unfold derivedNames
  simp only [List.mem_filter, List.mem_eraseDups, List.mem_flatMap, Bool.not_eq_true',
    List.contains_eq_mem, decide_eq_false_iff_not]
  constructor
  · rintro ⟨⟨b, hb, hx⟩, ho⟩; exact ⟨ho, b, hb, hx⟩
  · rintro ⟨ho, b, hb, hx⟩; exact ⟨⟨b, hb, hx⟩, ho⟩

theorem firstDefiner_some (tail : List α) (defs : α → List String) (x : String)
    (h : ∃ b ∈ tail, x ∈ defs b) : ∃ b, firstDefiner tail defs x = some b := by
  unfold firstDefiner
  cases hf : tail.find? (fun b => (defs b).contains x) with
  | some b => exact ⟨b, rfl⟩
  | none =>
    obtain ⟨b, hb, hx⟩ := h
    have := List.find?_eq_none.mp hf b hb
    simp [hx] at this

theorem mem_derive (tail : List α) (defs : α → List String) (own : List String) (x : String) (b : α) :
    (x, b) ∈ derive tail defs own ↔ x ∈ derivedNames tail defs own ∧ firstDefiner tail defs x = some b := by
  unfold derive
  simp only [List.mem_filterMap, Option.map_eq_some_iff, Prod.mk.injEq]
  constructor
  · rintro ⟨y, hy, b', hb', rfl, rfl⟩; exact ⟨hy, hb'⟩
  · rintro ⟨hx, hb⟩; exact ⟨x, hx, b, hb, rfl, rfl⟩

theorem derive_names (tail : List α) (defs : α → List String) (own : List String) :
    (derive tail defs own).map (·.1) =
      (derivedNames tail defs own).filter (fun x => (firstDefiner tail defs x).isSome) := by
  unfold derive
  induction derivedNames tail defs own with
  | nil => rfl
  | cons y l ih => cases hf : firstDefiner tail defs y <;> simp [List.filterMap_cons, List.filter_cons, hf, ih]

theorem nodup_eraseDups (l : List String) : l.eraseDups.Nodup := by
  suffices ∀ n (l : List String), l.length ≤ n → l.eraseDups.Nodup from this _ l (Nat.le_refl _)
  intro n
  induction n with
  | zero => intro l hl; cases l with
    | nil => simp
    | cons a as => simp at hl
  | succ n ih =>
    intro l hl
    cases l with
    | nil => simp
    | cons a as =>
      rw [List.eraseDups_cons]
      refine List.nodup_cons.mpr ⟨?_, ih _ ?_⟩
      · simp [List.mem_eraseDups]
      · have := List.length_filter_le (fun b => !b == a) as
        simp only [List.length_cons] at hl
        omega

end MxModel.Struct
