import MxModel.Proofs.ExecResolveSM
import MxModel.Proofs.StructMechInv
/-!
# Derived cells evaluate with names resolved in the sub space

`withStruct` (`Proofs/ExecResolveSM.lean`) takes the NAMESPACES of the source-level definitions from
a structural state; the sources, homes and names of the cells stay those of an arbitrary `SEnv`.
`structEnv` takes them from the structural state as well:

* every cells member `(q, x)` of the state – own or derived – is a cells of its own (`ids.cid q x`)
  whose home is `q` and whose name is `x`;
* its SOURCE is the source of the formula its member entry carries (`srcOf payload`) – for a derived
  cells the payload of its first definer along the linearisation (`SM.Inv`,
  `C03.mech_derived_from_first_definer`): `CellsImpl.on_inherit` shares the definer's `Formula`
  object;
* its formula, as the executor sees it, is that source RESOLVED IN THE NAMESPACE OF `q`
  (`SEnv.toEnv`: `BoundFunction` rebuilds the function over `q.namespace`);
* a reference member `(q, x)` – own or derived – is a reference of its own (`ids.rid q x`) with the
  value its entry carries (`valOf payload`).

`Dec` decodes identities (`cellOf (ids.cid q x) = (q, x)` is a hypothesis of the theorems, needed only
at the members they speak about).
-/
namespace MxModel.SM
open MxModel.Exec

structure Dec where
  cellOf : CellId → Path × String
  refOf : RefId → Path × String
  num : Path → Nat
  pathOf : Nat → Path

def structEnv (se : SEnv) (ids : Ids) (D : Dec) (srcOf : Nat → Key → SProg) (valOf : Nat → Val) (st : St) : SEnv :=
  { se with
    src := fun n => match st.mem .cells (D.cellOf n.1).1 (D.cellOf n.1).2 with
      | some m => srcOf m.payload n.2
      | none => .raise errDead
    home := fun c => D.num (D.cellOf c).1
    cellName := fun c => (D.cellOf c).2
    nss := fun sp => nsOf ids st (D.pathOf sp)
    refs := fun r => match st.mem .refs (D.refOf r).1 (D.refOf r).2 with
      | some m => some (valOf m.payload)
      | none => se.refs r }

abbrev execEnv (se : SEnv) (ids : Ids) (D : Dec) (srcOf : Nat → Key → SProg) (valOf : Nat → Val) (st : St) : Env :=
  (structEnv se ids D srcOf valOf st).toEnv

theorem structEnv_eq_withStruct (se : SEnv) (ids : Ids) (D : Dec) (srcOf : Nat → Key → SProg)
    (valOf : Nat → Val) (st : St) :
    structEnv se ids D srcOf valOf st =
      withStruct { structEnv se ids D srcOf valOf st with nss := se.nss } ids D.pathOf st := rfl

theorem structEnv_alive (se : SEnv) (ids : Ids) (D : Dec) (srcOf : Nat → Key → SProg) (valOf : Nat → Val)
    (st : St) (q : Path) (n : String) (m : Member)
    (hdec : D.cellOf (ids.cid q n) = (q, n)) (hnum : D.pathOf (D.num q) = q)
    (hm : st.mem .cells q n = some m) :
    (structEnv se ids D srcOf valOf st).toEnv.alive (ids.cid q n) = true := by
  simp only [SEnv.toEnv, structEnv, hdec, hnum, nsOf, hm, Option.isSome_some, if_true, beq_self_eq_true]

section
variable (se : SEnv) (ids : Ids) (D : Dec) (srcOf : Nat → Key → SProg) (valOf : Nat → Val) (st : St) (q : Path)
  (x : String)

theorem structEnv_formula (n : String) (key : Key) (m : Member)
    (hdec : D.cellOf (ids.cid q n) = (q, n)) (hnum : D.pathOf (D.num q) = q)
    (hm : st.mem .cells q n = some m) :
    (structEnv se ids D srcOf valOf st).toEnv.formula (ids.cid q n, key) =
      resolve (nsOf ids st q) (srcOf m.payload key) := by
  simp only [SEnv.toEnv, structEnv, hdec, hnum, hm]

theorem structEnv_refs (m : Member) (hdec : D.refOf (ids.rid q x) = (q, x)) (hm : st.mem .refs q x = some m) :
    (structEnv se ids D srcOf valOf st).toEnv.refs (ids.rid q x) = some (valOf m.payload) := by
  simp only [SEnv.toEnv, structEnv, hdec, hm]

/-! ### what the namespace of `q` binds a name to: `q`'s own member of that name -/

theorem nsOf_cells (h : (st.mem .cells q x).isSome = true) :
    nsOf ids st q x = some (.cell (ids.cid q x)) := by
  simp only [nsOf, h, if_true]

theorem nsOf_refs (hc : st.mem .cells q x = none) (hch : (st.childNames q).contains x = false)
    (h : (st.mem .refs q x).isSome = true) :
    nsOf ids st q x = some (.ref (ids.rid q x)) := by
  simp only [nsOf, hc, Option.isSome_none, Bool.false_eq_true, if_false, hch, h, if_true]

theorem resolve_readN_ref (k : Option Val → SProg) (onCell onNone : SProg) (hc : st.mem .cells q x = none)
    (hch : (st.childNames q).contains x = false) (h : (st.mem .refs q x).isSome = true) :
    resolve (nsOf ids st q) (SProg.readN x k onCell onNone) =
      .read false (ids.rid q x) (fun o => resolve (nsOf ids st q) (k o)) := by
  simp only [SProg.readN, resolve, nsOf_refs ids st q x hc hch h]

theorem resolve_callN_cell (key : Key) (k : Res → SProg) (onRef : Option Val → SProg) (onNone : SProg)
    (h : (st.mem .cells q x).isSome = true) :
    resolve (nsOf ids st q) (SProg.callN x key k onRef onNone) =
      .call (ids.cid q x, key) (fun r => resolve (nsOf ids st q) (k r)) := by
  simp only [SProg.callN, resolve, nsOf_cells ids st q x h]

end

end MxModel.SM
