/-!
# What `List.foldl` keeps

`foldl_fixed_mem`, `foldl_keeps`: a fold over steps that each leave the value alone, or each keep a predicate;
the steps need only do so for the members of the list.  `foldl_filter_neutral`: members at which the step
does nothing may be filtered out.

`foldl_inv` is the form for machines.  A machine is a step function `f`; a history is run by `List.foldl f`.
`A s l` says that the history `l` is admissible from `s`: it passes on to the tail and keeps the machine in
the regime `W`.  An invariant `I` need only be kept by the steps taken inside the regime.
-/
namespace MxModel

theorem foldl_fixed_mem {α β : Type} {g : β → α → β} {b : β} {l : List α} (h : ∀ a ∈ l, g b a = b) :
    l.foldl g b = b := by
  induction l with
  | nil => rfl
  | cons a l ih =>
    rw [List.foldl_cons, h a List.mem_cons_self]
    exact ih fun a' ha => h a' (List.mem_cons_of_mem _ ha)

theorem foldl_keeps {α β : Type} {g : β → α → β} (P : β → Prop) {l : List α}
    (h : ∀ b, ∀ a ∈ l, P b → P (g b a)) {b : β} (hb : P b) : P (l.foldl g b) := by
  induction l generalizing b with
  | nil => exact hb
  | cons a l ih =>
    exact ih (fun b a' ha => h b a' (List.mem_cons_of_mem _ ha)) (h b a List.mem_cons_self hb)

theorem foldl_inv {σ α : Type} (f : σ → α → σ) (A : σ → List α → Prop) (W I : σ → Prop)
    (hA : ∀ s a l, A s (a :: l) → W (f s a) ∧ A (f s a) l)
    (hI : ∀ s a, W s → I s → I (f s a)) :
    ∀ (l : List α) (s : σ), W s → I s → A s l → I (l.foldl f s) ∧ W (l.foldl f s)
  | [], _, hw, h, _ => ⟨h, hw⟩
  | a :: l, s, hw, h, ha =>
    foldl_inv f A W I hA hI l (f s a) (hA s a l ha).1 (hI s a hw h) (hA s a l ha).2

theorem foldl_filter_neutral {σ α : Type} (f : σ → α → σ) (p : α → Bool)
    (h : ∀ s a, p a = false → f s a = s) : ∀ (l : List α) (s : σ), (l.filter p).foldl f s = l.foldl f s
  | [], _ => rfl
  | a :: l, s => by
    cases hp : p a with
    | true => rw [List.filter_cons_of_pos hp]; exact foldl_filter_neutral f p h l (f s a)
    | false =>
      rw [List.filter_cons_of_neg (by rw [hp]; exact Bool.false_ne_true), List.foldl_cons, h s a hp]
      exact foldl_filter_neutral f p h l s

end MxModel
