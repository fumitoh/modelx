import MxModel.Proofs.StructMechOps4
/-!
# Preservation of `Inv` by `delSpace`

The spaces of the deleted tree (`removed`) disappear from the list of spaces and from every list of
direct bases; the sub spaces of removed spaces are re-derived.  A space that is not a sub space of
any removed space has no removed space in its linearisation, so its linearisation is unchanged.
-/
namespace MxModel.SM
open MxModel.C3

theorem ids_without (st : St) (removed : List Path) :
    (st.without removed).ids = st.ids.filter (fun q => !removed.contains q) := by
  unfold St.without St.ids
  simp only [List.map_map, List.filter_map]
  rfl

theorem mem_ids_without (st : St) (removed : List Path) (q : Path) :
    q ∈ (st.without removed).ids ↔ q ∈ st.ids ∧ q ∉ removed := by
  rw [ids_without]
  simp

@[simp] theorem id_stripBases (removed : List Path) (s : Space) : (stripBases removed s).id = s.id := rfl

theorem find_without (st : St) (removed : List Path) (q : Path) :
    (st.without removed).find q =
      if q ∈ removed then none
      else (st.find q).map (stripBases removed) := by
  unfold St.without St.find
  simp only
  rw [List.find?_map, List.find?_filter]
  by_cases hq : q ∈ removed
  · simp only [hq, if_true, Option.map_eq_none_iff, List.find?_eq_none]
    intro s _
    simp only [Function.comp, Bool.not_eq_true', List.contains_eq_mem, decide_eq_false_iff_not,
      beq_iff_eq, decide_eq_true_eq, not_and]
    intro hs e
    exact hs (e ▸ hq)
  · simp only [hq, if_false]
    congr 1
    apply find?_congr'
    intro s _
    simp only [Function.comp, Bool.not_eq_true', List.contains_eq_mem, decide_eq_false_iff_not, beq_iff_eq]
    by_cases hs : s.id = q
    · simp [hs, hq]
    · simp [hs]

theorem cont_without (st : St) (removed : List Path) (a : Attr) (q : Path) :
    (st.without removed).cont a q = if q ∈ removed then [] else st.cont a q := by
  unfold St.cont
  rw [find_without]
  by_cases hq : q ∈ removed
  · simp only [hq, if_true]
  · simp only [hq, if_false]
    cases st.find q with
    | none => rfl
    | some s => cases a <;> rfl

theorem basesOf_without (st : St) (removed : List Path) (q : Path) :
    (st.without removed).basesOf q =
      if q ∈ removed then [] else (st.basesOf q).filter (fun b => !removed.contains b) := by
  unfold St.basesOf
  rw [find_without]
  by_cases hq : q ∈ removed
  · simp only [hq, if_true]
  · simp only [hq, if_false]
    cases st.find q with
    | none => rfl
    | some s => rfl

theorem isPrefix_of_dropLast (p q : Path) (h : isPrefix p q.dropLast = true) : isPrefix p q = true := by
  unfold isPrefix at h ⊢
  simp only [beq_iff_eq] at h ⊢
  rw [List.dropLast_eq_take, List.take_take] at h
  have hl : p.length ≤ q.length - 1 := by
    have := congrArg List.length h
    simp at this
    omega
  rw [Nat.min_eq_left hl] at h
  exact h

theorem inv_delSpace (st st' : St) (h : Inv st) (p : Path) (hop : st.delSpace p = some st') : Inv st' := by
  obtain ⟨_, hguard, rfl⟩ := delSpace_some hop
  generalize hupd : st.rederivedBy p = toUpdate at hguard ⊢
  unfold St.rederivedBy at hupd
  generalize hrem : st.removedBy p = removed at hupd hguard ⊢
  generalize hst1 : st.without removed = st1 at hguard ⊢
  have hmemids : ∀ q, q ∈ st1.ids ↔ q ∈ st.ids ∧ q ∉ removed := by
    intro q; rw [← hst1]; exact mem_ids_without st removed q
  have hidsf : st1.ids = st.ids.filter (fun q => !removed.contains q) := by
    rw [← hst1]; exact ids_without st removed
  have hglob : st1.globals = st.globals := by rw [← hst1]; rfl
  have hcont : ∀ a q, st1.cont a q = if q ∈ removed then [] else st.cont a q := by
    intro a q; rw [← hst1]; exact cont_without st removed a q
  have hbases : ∀ q, st1.basesOf q =
      if q ∈ removed then [] else (st.basesOf q).filter (fun b => !removed.contains b) := by
    intro q; rw [← hst1]; exact basesOf_without st removed q
  have hcont' : ∀ a q, q ∈ st1.ids → st1.cont a q = st.cont a q := by
    intro a q hq
    rw [hcont]
    simp [((hmemids q).mp hq).2]
  have hbsub : ∀ q, st1.basesOf q ⊆ st.basesOf q := by
    intro q b hb
    rw [hbases] at hb
    split at hb
    · cases hb
    · exact (List.mem_filter.mp hb).1
  have hlen : st1.spaces.length = st1.ids.length := by simp [St.ids]
  -- a space that is not re-derived has no removed space in its linearisation
  have hclean : ∀ q ∈ st1.ids, q ∉ toUpdate → ∀ x ∈ q :: st.tail q, x ∉ removed := by
    intro q hq hnu x hx hxr
    obtain ⟨hqi, hqr⟩ := (hmemids q).mp hq
    simp only [List.mem_cons] at hx
    rcases hx with rfl | hx
    · exact hqr hxr
    · apply hnu
      rw [← hupd, List.mem_filter, List.mem_eraseDups, List.mem_flatMap]
      refine ⟨⟨x, hxr, (mem_subs x q).mpr ⟨hqi, fun e => hqr (e ▸ hxr), hx⟩⟩, by simpa using hqr⟩
  have hmro_old : ∀ q ∈ st1.ids, q ∉ toUpdate → st1.mro q = some (q :: st.tail q) := by
    intro q hq hnu
    have hcl := hclean q hq hnu
    apply mro_transfer_st st st1 q _ (h.wf.mro_all q)
    · intro x hx
      rw [hbases]
      simp only [hcl x hx, if_false]
      rw [List.filter_eq_self]
      intro b hb
      have hbl : b ∈ q :: st.tail q := mro_bases_subset _ _ q _ (h.wf.mro_all q) x hx b hb
      simpa using hcl b hbl
    · have hnd := h.wf.tail_nodup q
      have hsub : (q :: st.tail q) ⊆ st1.ids := by
        intro x hx
        rw [hmemids]
        refine ⟨?_, hcl x hx⟩
        simp only [List.mem_cons] at hx
        rcases hx with rfl | hx
        · exact ((hmemids _).mp hq).1
        · exact h.wf.tail_mem_ids q x hx
      have := List.Nodup.length_le_of_subset hnd hsub
      omega
  have hwf1 : WF st1 := by
    refine ⟨?_, ?_, ?_, ?_, ?_⟩
    · rw [hidsf]; exact List.Nodup.sublist List.filter_sublist h.wf.nodup
    · intro q b hb
      rw [hbases] at hb
      split at hb
      · cases hb
      · rw [List.mem_filter] at hb
        rw [hmemids]
        exact ⟨h.wf.bases q b hb.1, by simpa using hb.2⟩
    · intro q hq
      by_cases hu : q ∈ toUpdate
      · exact hguard q hu
      · rw [hmro_old q hq hu]; rfl
    · intro a q
      rw [hcont]
      split
      · simp [keys]
      · exact h.wf.keys a q
    · intro q hq
      obtain ⟨hqi, hqr⟩ := (hmemids q).mp hq
      obtain ⟨h1, h2⟩ := h.wf.tree q hqi
      refine ⟨h1, h2.imp id (fun h3 => ?_)⟩
      rw [hmemids]
      refine ⟨h3, ?_⟩
      intro hdr
      apply hqr
      rw [← hrem, mem_removedBy] at hdr ⊢
      exact ⟨hqi, isPrefix_of_dropLast p q hdr.2⟩
  have htail : ∀ q ∈ st1.ids, q ∉ toUpdate → st1.tail q = st.tail q := by
    intro q hq hnu
    unfold St.tail
    rw [hmro_old q hq hnu, h.wf.mro_all q]
  have R := rederived_updateAll st1 hwf1.keys toUpdate
  refine ⟨hwf1.of_shape R.shape R.keys, good_rebase st st1 h hwf1 hcont' _ htail, ?_⟩
  refine h.disj.mono
    (mem_isSome_of_shrunk st st1 h hwf1 hbsub
      (fun a q n hq => by rw [St.mem_eq, St.mem_eq, hcont' a q hq]) _)
    ?_ (fun n hn => by rw [R.shape.globals, hglob] at hn; exact hn)
  intro q n hn
  rw [R.shape.childNames, mem_childNames, hmemids] at hn
  exact (mem_childNames st q n).mpr hn.1

end MxModel.SM
