import MxModel.Kernels.SaveFiles
/-! The save step by file name (`Kernels/SaveFiles.lean`): the rotation slot by slot (`incr_untouched`,
`incr_start_absent`, `incr_shift`), the in-place writer entry by entry.  The rotation leaves the path free, so `save`
never fails and the directory writer starts from nothing (`save_eq`); the theorems are in `Props/C04.lean`. -/
namespace MxModel.SaveFiles

@[simp] theorem FS.set_same (fs : FS) (i : Nat) (s : Node) : (fs.set i s) i = s := by
  simp [FS.set]

theorem FS.set_other (fs : FS) {i j : Nat} (s : Node) (h : j ≠ i) : (fs.set i s) j = fs j := by
  simp [FS.set, h]

/-- a slot the rotation does not reach stays as it is: one below the start, one beyond `nth + fuel`
(= `max_backups`), one behind a missing slot (the rotation stops at the first) -/
theorem incr_untouched (fs : FS) : ∀ (fuel nth j : Nat),
    (nth ≤ j → j ≤ nth + fuel → ∃ k, nth ≤ k ∧ k < j ∧ fs k = .absent) → incr fs fuel nth j = fs j := by
  intro fuel
  induction fuel with
  | zero =>
    intro nth j h
    unfold incr
    split
    · rfl
    · refine FS.set_other _ _ (fun e => ?_)
      obtain ⟨k, h1, h2, _⟩ := h (by omega) (by omega)
      omega
  | succ fuel ih =>
    intro nth j h
    unfold incr
    split
    · rfl
    · rename_i hn
      -- the missing slot is not `nth`
      have hk : nth ≤ j → j ≤ nth + (fuel + 1) → ∃ k, nth + 1 ≤ k ∧ k < j ∧ fs k = .absent := fun a b => by
        obtain ⟨k, h1, h2, h3⟩ := h a b
        exact ⟨k, Nat.lt_of_le_of_ne h1 (fun e => hn (e ▸ h3)), h2, h3⟩
      have hj : j ≠ nth ∧ j ≠ nth + 1 := by
        by_cases a : nth ≤ j ∧ j ≤ nth + (fuel + 1)
        · obtain ⟨k, h1, h2, _⟩ := hk a.1 a.2
          omega
        · omega
      simp only []
      rw [FS.set_other _ _ hj.1, FS.set_other _ _ hj.2]
      exact ih (nth + 1) j (fun a b => hk (by omega) (by omega))

theorem incr_start_absent (fs : FS) : ∀ (fuel nth : Nat), incr fs fuel nth nth = .absent := by
  intro fuel nth
  cases fuel with
  | zero =>
    unfold incr
    split
    · assumption
    · exact FS.set_same _ _ _
  | succ fuel =>
    unfold incr
    split
    · assumption
    · exact FS.set_same _ _ _

theorem incr_shift (fs : FS) : ∀ (fuel nth j : Nat), nth ≤ j → j < nth + fuel →
    (∀ i, nth ≤ i → i ≤ j → fs i ≠ .absent) → incr fs fuel nth (j + 1) = fs j := by
  intro fuel
  induction fuel with
  | zero => intro nth j h1 h2; omega
  | succ fuel ih =>
    intro nth j h1 h2 hex
    have hn : fs nth ≠ .absent := hex nth (Nat.le_refl _) h1
    unfold incr
    rw [if_neg hn]
    rw [FS.set_other _ _ (by omega)]
    by_cases hj : j = nth
    · subst hj
      rw [FS.set_same]
      exact incr_untouched fs fuel (j + 1) j (fun h => by omega)
    · rw [FS.set_other _ _ (by omega)]
      exact ih (nth + 1) j (by omega) (by omega) (fun i a b => hex i (by omega) b)

theorem upsert_fresh (e : Entry) : ∀ (es : List Entry), (∀ x ∈ es, x.1 ≠ e.1) → upsert e es = es ++ [e] := by
  intro es
  induction es with
  | nil => intro _; rfl
  | cons x xs ih =>
    intro h
    have hx : x.1 ≠ e.1 := h x (List.mem_cons_self ..)
    simp only [upsert, if_neg hx, List.cons_append]
    rw [ih (fun y hy => h y (List.mem_cons_of_mem _ hy))]

theorem writeAll_fresh (g : Nat) : ∀ (names : List String) (old : List Entry), names.Nodup →
    (∀ n ∈ names, ∀ x ∈ old, x.1 ≠ n) → writeAll g names old = old ++ names.map (fun n => (n, g)) := by
  intro names
  induction names with
  | nil => intro old _ _; simp [writeAll]
  | cons n ns ih =>
    intro old hnd hfresh
    have hn : ∀ x ∈ old, x.1 ≠ (n, g).1 := fun x hx => hfresh n (List.mem_cons_self ..) x hx
    have hnd' := List.nodup_cons.mp hnd
    show writeAll g ns (upsert (n, g) old) = _
    rw [upsert_fresh (n, g) old hn, ih (old ++ [(n, g)]) hnd'.2]
    · simp [List.append_assoc]
    · intro m hm x hx
      rcases List.mem_append.mp hx with h | h
      · exact hfresh m (List.mem_cons_of_mem _ hm) x h
      · have : x = (n, g) := by simpa using h
        subst this
        intro e
        have e' : n = m := e
        exact hnd'.1 (e' ▸ hm)

/-- `save` never fails: the rotation has freed the path, so either writer finds nothing there -/
theorem save_eq (fs : FS) (maxB : Nat) (k : Kind) (g : Nat) (names : List String) :
    save maxB k g names fs = some ((incr fs maxB 0).set 0 (.node k
      (match k with | .dir => writeAll g names [] | .zip => names.map (fun n => (n, g))))) := by
  have h0 : incr fs maxB 0 0 = .absent := incr_start_absent fs maxB 0
  cases k <;> simp [save, writer, writeDir, writeZip, h0]

theorem upsert_keeps (e x : Entry) : ∀ (es : List Entry), x ∈ es → x.1 ≠ e.1 → x ∈ upsert e es := by
  intro es
  induction es with
  | nil => intro h; cases h
  | cons y ys ih =>
    intro h hne
    simp only [upsert]
    split
    · rename_i hy
      rcases List.mem_cons.mp h with h | h
      · subst h; exact absurd hy hne
      · exact List.mem_cons_of_mem _ h
    · rcases List.mem_cons.mp h with h | h
      · subst h; exact List.mem_cons_self ..
      · exact List.mem_cons_of_mem _ (ih h hne)

theorem writeAll_keeps (g : Nat) (x : Entry) : ∀ (names : List String) (old : List Entry),
    x ∈ old → x.1 ∉ names → x ∈ writeAll g names old := by
  intro names
  induction names with
  | nil => intro old h _; simpa [writeAll] using h
  | cons n ns ih =>
    intro old h hn
    show x ∈ writeAll g ns (upsert (n, g) old)
    have h1 : x.1 ≠ n := fun e => hn (by simp [e])
    exact ih _ (upsert_keeps (n, g) x old h h1) (fun m => hn (List.mem_cons_of_mem _ m))

end MxModel.SaveFiles
