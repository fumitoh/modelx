import MxModel.Proofs.IOSpecFrame
/-! The invariant `RInv` (C18's statement on the model) and its preservation by the operations of
the ReferenceManager. -/
namespace MxModel.IOSpec

/-- the entry of `_valid_to_refs` for value `v` of model `m` is right: it lists, without
repetition, exactly the live references of the model bound to `v`; there is no entry only if
no tracked reference is bound to `v` -/
def EntryOK (refs : List Ref) (m : Nat) (v : Val) : Option (List Ref) → Prop
  | some l => l ≠ [] ∧ l.Nodup ∧ v.tracked = true ∧
      ∀ r, r ∈ l ↔ (r ∈ refs ∧ r.owner.model = m ∧ r.val = v)
  | none => ∀ r ∈ refs, r.owner.model = m → r.val = v → v.tracked = false

structure RInvX (ex : Spec → Prop) (st : St) : Prop where
  ridLt : ∀ r ∈ st.refs, r.rid < st.nextRid
  /-- one reference per (parent, name) -/
  refKey : ∀ r ∈ st.refs, ∀ r' ∈ st.refs, r.owner = r'.owner → r.name = r'.name → r = r'
  entry : ∀ m v, EntryOK st.refs m v (alookup st.v2r (m, v))
  keys : (st.v2r.map (·.1)).Nodup
  /-- every spec's value is bound to a reference of its model (`ex`: the spec `new_pandas` has
  just created and is about to bind) -/
  specRef : ∀ σ ∈ st.specs, ¬ ex σ → ∃ r ∈ st.refs, r.owner.model = σ.group ∧ r.val = σ.val
  /-- one spec per value and model -/
  specVal : ∀ σ ∈ st.specs, ∀ τ ∈ st.specs, σ.group = τ.group → σ.val = τ.val → σ = τ
  specPandas : ∀ σ ∈ st.specs, σ.val.isPandas = true
  sid : SidOK (sp st)

/-- the invariant of C18 -/
abbrev RInv (st : St) : Prop := RInvX (fun _ => False) st

section entries
variable {κ β : Type} [DecidableEq κ]

/-- a dict of lists read (`ent`) and written (`setEntry`) without telling an absent entry from an empty one -/
def ent (l : List (κ × List β)) (k : κ) : List β := (alookup l k).getD []

def setEntry (l : List (κ × List β)) (k : κ) (x : List β) : List (κ × List β) :=
  if x = [] then aerase l k else ainsert l k x

theorem ent_setEntry (l : List (κ × List β)) (k k' : κ) (x : List β) :
    ent (setEntry l k x) k' = if k = k' then x else ent l k' := by
  unfold ent setEntry
  split
  · rename_i hx
    rw [alookup_aerase]
    split
    · exact hx.symm
    · rfl
  · rw [alookup_ainsert]
    split <;> rfl

theorem setEntry_noEmpty {l : List (κ × List β)} (h : ∀ k', alookup l k' ≠ some []) (k : κ) (x : List β)
    (k' : κ) : alookup (setEntry l k x) k' ≠ some [] := by
  unfold setEntry
  split
  · rw [alookup_aerase]
    split
    · exact nofun
    · exact h k'
  · rename_i hx
    rw [alookup_ainsert]
    split
    · exact fun e => hx (Option.some.inj e)
    · exact h k'

theorem setEntry_keys_nodup {l : List (κ × List β)} (hn : (l.map (·.1)).Nodup) (k : κ) (x : List β) :
    ((setEntry l k x).map (·.1)).Nodup := by
  unfold setEntry
  split
  · exact aerase_keys_nodup hn k
  · exact ainsert_keys_nodup hn k x

theorem mem_of_mem_ent {l : List (κ × List β)} {k : κ} {b : β} (h : b ∈ ent l k) : (k, ent l k) ∈ l := by
  unfold ent at h ⊢
  cases hl : alookup l k with
  | none => rw [hl] at h; cases h
  | some x => exact alookup_mem hl

end entries

theorem dropIfEmpty_cases (st : St) (m : Nat) (v : Val) (l : List Ref) :
    ∃ L, dropIfEmpty st m v l = { st with v2r := setEntry st.v2r (m, v) l, specs := L } ∧
      ((L = st.specs ∧ (l = [] → getSpecFromValue st m v = none)) ∨
       (l = [] ∧ ∃ σ, getSpecFromValue st m v = some σ ∧ L = st.specs.filter (fun τ => τ.sid ≠ σ.sid))) := by
  unfold dropIfEmpty setEntry
  split
  · rename_i hl
    cases getSpecFromValue st m v with
    | none => exact ⟨st.specs, rfl, Or.inl ⟨rfl, fun _ => rfl⟩⟩
    | some σ => exact ⟨_, rfl, Or.inr ⟨hl, σ, rfl, rfl⟩⟩
  · rename_i hl
    exact ⟨st.specs, rfl, Or.inl ⟨rfl, fun h => absurd h hl⟩⟩

/-- `RInvX` without "one reference per (parent, name)": holds also in the middle of `change_ref`, when the new
reference is registered and the previous one not yet dropped.  What `_valid_to_refs` lists is said of the entries read
as lists (`ent`: no entry, no element), so that an entry that is rewritten and one that is dropped are one case. -/
structure RCore (ex : Spec → Prop) (st : St) : Prop where
  ridLt : ∀ r ∈ st.refs, r.rid < st.nextRid
  noEmpty : ∀ k, alookup st.v2r k ≠ some []
  entNodup : ∀ k, (ent st.v2r k).Nodup
  entMem : ∀ m v r, r ∈ ent st.v2r (m, v) ↔ r ∈ st.refs ∧ r.owner.model = m ∧ r.val = v ∧ v.tracked = true
  keys : (st.v2r.map (·.1)).Nodup
  specRef : ∀ σ ∈ st.specs, ¬ ex σ → ∃ r ∈ st.refs, r.owner.model = σ.group ∧ r.val = σ.val
  specVal : ∀ σ ∈ st.specs, ∀ τ ∈ st.specs, σ.group = τ.group → σ.val = τ.val → σ = τ
  specPandas : ∀ σ ∈ st.specs, σ.val.isPandas = true
  sid : SidOK (sp st)

variable {ex : Spec → Prop}

theorem entryOK_iff {refs : List Ref} {m : Nat} {v : Val} {e : Option (List Ref)} :
    EntryOK refs m v e ↔ e ≠ some [] ∧ (e.getD []).Nodup ∧
      ∀ r, r ∈ e.getD [] ↔ r ∈ refs ∧ r.owner.model = m ∧ r.val = v ∧ v.tracked = true := by
  cases e with
  | none =>
    refine ⟨fun h => ⟨nofun, .nil, fun r => ⟨fun hr => (List.not_mem_nil hr).elim, fun ⟨a, b, c, d⟩ => ?_⟩⟩,
      fun h r a b c => Bool.eq_false_iff.2 fun d => List.not_mem_nil ((h.2.2 r).mpr ⟨a, b, c, d⟩)⟩
    exact Bool.noConfusion ((h r a b c).symm.trans d)
  | some l =>
    constructor
    · rintro ⟨h1, h2, h3, h4⟩
      exact ⟨fun e => h1 (Option.some.inj e), h2,
        fun r => (h4 r).trans ⟨fun ⟨a, b, c⟩ => ⟨a, b, c, h3⟩, fun ⟨a, b, c, _⟩ => ⟨a, b, c⟩⟩⟩
    · rintro ⟨h1, h2, h3⟩
      -- an element of the entry shows that the value is tracked
      have hne : l ≠ [] := fun e => h1 (e ▸ rfl)
      obtain ⟨r0, hr0⟩ := List.exists_mem_of_ne_nil l hne
      have ht := ((h3 r0).mp hr0).2.2.2
      exact ⟨hne, h2, ht, fun r => (h3 r).trans ⟨fun ⟨a, b, c, _⟩ => ⟨a, b, c⟩, fun ⟨a, b, c⟩ => ⟨a, b, c, ht⟩⟩⟩

theorem RInvX.core {st : St} (h : RInvX ex st) : RCore ex st :=
  ⟨h.ridLt, fun k => (entryOK_iff.mp (h.entry k.1 k.2)).1, fun k => (entryOK_iff.mp (h.entry k.1 k.2)).2.1,
    fun m v => (entryOK_iff.mp (h.entry m v)).2.2, h.keys, h.specRef, h.specVal, h.specPandas, h.sid⟩

theorem RCore.withKey {st : St} (c : RCore ex st) (k : RefKey st.refs) : RInvX ex st :=
  ⟨c.ridLt, k, fun m v => entryOK_iff.mpr ⟨c.noEmpty _, c.entNodup _, c.entMem m v⟩, c.keys, c.specRef, c.specVal,
    c.specPandas, c.sid⟩

theorem RCore.untracked_of_none {st : St} (c : RCore ex st) {r : Ref} (hr : r ∈ st.refs)
    (hlk : alookup st.v2r (r.owner.model, r.val) = none) : ¬ r.val.tracked = true := by
  intro ht
  have := (c.entMem _ _ r).mpr ⟨hr, rfl, rfl, ht⟩
  rw [ent, hlk] at this
  cases this

theorem tracked_of_isPandas {v : Val} (h : v.isPandas = true) : v.tracked = true := by
  cases v <;> simp_all [Val.isPandas, Val.tracked]

theorem mem_refErase_of_lookup {st : St} (h : RInvX ex st) {o : Owner} {n : String} {prev : Ref}
    (hl : refLookup st.refs o n = some prev) (r : Ref) :
    r ∈ refErase st.refs o n ↔ r ∈ st.refs ∧ r ≠ prev := by
  obtain ⟨hp, ho, hn⟩ := refLookup_some hl
  rw [mem_refErase]
  constructor
  · rintro ⟨hr, hne⟩
    exact ⟨hr, fun e => hne (e ▸ ⟨ho, hn⟩)⟩
  · rintro ⟨hr, hne⟩
    exact ⟨hr, fun ⟨e1, e2⟩ => hne (h.refKey r hr prev hp (e1.trans ho.symm) (e2.trans hn.symm))⟩

/-- references to untracked values (Interfaces) come or go: nothing else changes -/
theorem rcore_untracked {st s' : St} (h : RCore ex st)
    (hrefs : ∀ r, r.val.tracked = true → (r ∈ s'.refs ↔ r ∈ st.refs))
    (hlt : ∀ r ∈ s'.refs, r.rid < s'.nextRid) (hv : s'.v2r = st.v2r) (hs : s'.specs = st.specs)
    (hsid : SidOK (sp s')) : RCore ex s' := by
  refine ⟨hlt, hv ▸ h.noEmpty, hv ▸ h.entNodup, fun m v r => ?_, hv ▸ h.keys, fun σ hσ hex => ?_,
    hs ▸ h.specVal, hs ▸ h.specPandas, hsid⟩
  · rw [hv, h.entMem]
    exact ⟨fun ⟨a, b, c, d⟩ => ⟨(hrefs r (c ▸ d)).mpr a, b, c, d⟩, fun ⟨a, b, c, d⟩ => ⟨(hrefs r (c ▸ d)).mp a, b, c, d⟩⟩
  · rw [hs] at hσ
    obtain ⟨r, hr, hm, hv'⟩ := h.specRef σ hσ hex
    exact ⟨r, (hrefs r (by rw [hv']; exact tracked_of_isPandas (h.specPandas σ hσ))).mpr hr, hm, hv'⟩

theorem refs_rmNewRef (st : St) (o : Owner) (n : String) (v : Val) :
    (rmNewRef st o n v).refs = st.refs ++ [mkRef st o n v] ∧ (rmNewRef st o n v).specs = st.specs := by
  unfold rmNewRef; split <;> exact ⟨rfl, rfl⟩

theorem rcore_rmNewRef {st : St} (h : RCore ex st) (o : Owner) (n : String) (v : Val) :
    RCore ex (rmNewRef st o n v) := by
  have hfresh : ∀ r ∈ st.refs, r ≠ mkRef st o n v := fun r hr e => Nat.lt_irrefl _ (e ▸ h.ridLt r hr)
  have hsid : SidOK (sp (rmNewRef st o n v)) :=
    sidOK_strans (Q := fun _ _ => True) (evolves_rmNewRef st o n v).1 h.sid
  obtain ⟨hrefs, hspecs⟩ := refs_rmNewRef st o n v
  have hlt : ∀ r ∈ (rmNewRef st o n v).refs, r.rid < (rmNewRef st o n v).nextRid := by
    rw [hrefs, show (rmNewRef st o n v).nextRid = st.nextRid + 1 by unfold rmNewRef; split <;> rfl]
    intro r hr
    rcases List.mem_append.1 hr with hr | hr
    · exact Nat.lt_succ_of_lt (h.ridLt r hr)
    · rw [List.mem_singleton.1 hr]; exact Nat.lt_succ_self _
  by_cases htr : v.tracked = true
  · have hv2r : (rmNewRef st o n v).v2r =
        setEntry st.v2r (o.model, v) (ent st.v2r (o.model, v) ++ [mkRef st o n v]) := by
      unfold rmNewRef setEntry
      rw [if_pos htr, if_neg (List.append_ne_nil_of_right_ne_nil _ (List.cons_ne_nil _ _))]; rfl
    refine ⟨hlt, hv2r ▸ setEntry_noEmpty h.noEmpty _ _, fun k => ?_, fun m' v' r => ?_,
      hv2r ▸ setEntry_keys_nodup h.keys _ _, fun σ hσ hex => ?_, hspecs ▸ h.specVal, hspecs ▸ h.specPandas, hsid⟩
    · rw [hv2r, ent_setEntry]
      by_cases hk : (o.model, v) = k
      · rw [if_pos hk]
        refine List.nodup_append.2 ⟨h.entNodup _, List.nodup_cons.2 ⟨List.not_mem_nil, .nil⟩, fun a ha b hb => ?_⟩
        rw [List.mem_singleton.1 hb]
        exact hfresh a ((h.entMem _ _ a).mp ha).1
      · rw [if_neg hk]; exact h.entNodup k
    · rw [hv2r, ent_setEntry, hrefs, List.mem_append, List.mem_singleton]
      by_cases hk : (o.model, v) = (m', v')
      · rw [if_pos hk]
        obtain ⟨rfl, rfl⟩ := Prod.mk.inj hk
        rw [List.mem_append, List.mem_singleton, h.entMem]
        constructor
        · rintro (hr | rfl)
          · exact ⟨Or.inl hr.1, hr.2⟩
          · exact ⟨Or.inr rfl, rfl, rfl, htr⟩
        · rintro ⟨hr | hr, hm⟩
          · exact Or.inl ⟨hr, hm⟩
          · exact Or.inr hr
      · rw [if_neg hk, h.entMem]
        constructor
        · rintro ⟨hr, hm⟩; exact ⟨Or.inl hr, hm⟩
        · rintro ⟨hr | rfl, hm, hv, ht⟩
          · exact ⟨hr, hm, hv, ht⟩
          · exact absurd (Prod.ext hm hv) hk
    · rw [hspecs] at hσ; rw [hrefs]
      obtain ⟨r, hr, hm, hv⟩ := h.specRef σ hσ hex
      exact ⟨r, List.mem_append_left _ hr, hm, hv⟩
  · refine rcore_untracked h (fun r hr => ?_) hlt (by unfold rmNewRef; rw [if_neg htr]; rfl) hspecs hsid
    rw [hrefs, List.mem_append, List.mem_singleton]
    exact ⟨fun hr' => hr'.resolve_right fun e => htr (by rw [e] at hr; exact hr), Or.inl⟩

theorem rinv_rmNewRef {st : St} (h : RInvX ex st) {o : Owner} {n : String} (v : Val)
    (hl : refLookup st.refs o n = none) : RInvX ex (rmNewRef st o n v) := by
  refine (rcore_rmNewRef h.core o n v).withKey ?_
  rw [(refs_rmNewRef st o n v).1]
  exact refKey_snoc h.refKey (refLookup_none hl)

/-- a reference `prev` has left the references and `changeDrop` looks after the entry of its value: the invariant
holds again, and a spec goes only with the last reference to its value -/
theorem changeDrop_spec {st : St} (h : RCore ex st) {prev : Ref} (hp : prev ∈ st.refs) {R : List Ref}
    (hR : ∀ r, r ∈ R ↔ r ∈ st.refs ∧ r ≠ prev) :
    RCore ex (changeDrop { st with refs := R } prev.owner.model prev) ∧
    (changeDrop { st with refs := R } prev.owner.model prev).refs = R ∧
    Survives st (changeDrop { st with refs := R } prev.owner.model prev) := by
  unfold changeDrop
  dsimp only
  cases hl : alookup st.v2r (prev.owner.model, prev.val) with
  | none =>
    have ht := h.untracked_of_none hp hl
    exact ⟨rcore_untracked h
        (fun r hr => (hR r).trans ⟨And.left, fun hr' => ⟨hr', fun e => ht (by rw [e] at hr; exact hr)⟩⟩)
        (fun r hr => h.ridLt r ((hR r).mp hr).1) rfl rfl h.sid, rfl, .of_specs rfl⟩
  | some l =>
    dsimp only
    have hsid := sidOK_strans (Q := fun _ _ => True)
      (evolves_dropIfEmpty { st with refs := R } prev.owner.model prev.val (l.erase prev)).1 h.sid
    have hent : ent st.v2r (prev.owner.model, prev.val) = l := by rw [ent, hl]; rfl
    have hnd : l.Nodup := hent ▸ h.entNodup _
    obtain ⟨r0, hr0⟩ := List.exists_mem_of_ne_nil l fun e => h.noEmpty _ (e ▸ hl)
    have ht : prev.val.tracked = true := ((h.entMem _ _ r0).mp (hent ▸ hr0)).2.2.2
    have hmem : ∀ r, r ∈ l.erase prev ↔ r ∈ R ∧ r.owner.model = prev.owner.model ∧ r.val = prev.val := by
      intro r
      rw [hnd.mem_erase_iff, ← hent, h.entMem, hR]
      exact ⟨fun ⟨a, b, c, d, _⟩ => ⟨⟨b, a⟩, c, d⟩, fun ⟨⟨b, a⟩, c, d⟩ => ⟨a, b, c, d, ht⟩⟩
    obtain ⟨L, e, hL⟩ := dropIfEmpty_cases { st with refs := R } prev.owner.model prev.val (l.erase prev)
    rw [e] at hsid ⊢
    -- no spec is new; the spec of the value goes if the entry is empty, and only then
    have hspecs : (∀ τ ∈ L, τ ∈ st.specs) ∧
        (∀ σ ∈ st.specs, (∃ τ ∈ L, τ.sid = σ.sid) ∨
          (l.erase prev = [] ∧ σ.group = prev.owner.model ∧ σ.val = prev.val)) ∧
        (l.erase prev = [] → ∀ τ ∈ L, ¬ (τ.group = prev.owner.model ∧ τ.val = prev.val)) := by
      rcases hL with ⟨rfl, hnone⟩ | ⟨hemp, σ0, hg, rfl⟩
      · exact ⟨fun τ hτ => hτ, fun σ hσ => Or.inl ⟨σ, hσ, rfl⟩, fun he => getSpec_none (hnone he)⟩
      · obtain ⟨g1, g2, g3⟩ := getSpec_some hg
        refine ⟨fun τ hτ => (List.mem_filter.1 hτ).1, fun σ hσ => ?_, fun _ τ hτ ⟨a, b⟩ => ?_⟩
        · by_cases hs : σ.sid = σ0.sid
          · rw [h.sid.sidUnique σ hσ σ0 g1 hs]; exact Or.inr ⟨hemp, g2, g3⟩
          · exact Or.inl ⟨σ, List.mem_filter.2 ⟨hσ, decide_eq_true hs⟩, rfl⟩
        · obtain ⟨h1, h2⟩ := List.mem_filter.1 hτ
          exact of_decide_eq_true h2 (congrArg Spec.sid (h.specVal τ h1 σ0 g1 (a.trans g2.symm) (b.trans g3.symm)))
    obtain ⟨hsub, hgone, hkept⟩ := hspecs
    refine ⟨⟨fun r hr => h.ridLt r ((hR r).mp hr).1, setEntry_noEmpty h.noEmpty _ _, fun k => ?_,
        fun m v r => ?_, setEntry_keys_nodup h.keys _ _, fun σ hσ hex => ?_,
        fun σ hσ τ hτ => h.specVal σ (hsub σ hσ) τ (hsub τ hτ), fun σ hσ => h.specPandas σ (hsub σ hσ), hsid⟩,
      rfl, fun σ hσ ⟨r, hr, hb⟩ => (hgone σ hσ).resolve_right fun ⟨hemp, hg, hval⟩ => ?_⟩
    · show (ent (setEntry st.v2r _ _) k).Nodup
      rw [ent_setEntry]
      by_cases hk : (prev.owner.model, prev.val) = k
      · rw [if_pos hk]; exact hnd.erase _
      · rw [if_neg hk]; exact h.entNodup k
    · show r ∈ ent (setEntry st.v2r _ _) (m, v) ↔ r ∈ R ∧ _
      rw [ent_setEntry]
      by_cases hk : (prev.owner.model, prev.val) = (m, v)
      · rw [if_pos hk]
        obtain ⟨rfl, rfl⟩ := Prod.mk.inj hk
        exact (hmem r).trans ⟨fun ⟨a, b, c⟩ => ⟨a, b, c, ht⟩, fun ⟨a, b, c, _⟩ => ⟨a, b, c⟩⟩
      · rw [if_neg hk, h.entMem, hR]
        exact ⟨fun ⟨a, b, c, d⟩ => ⟨⟨a, fun e => hk (by rw [← b, ← c, e])⟩, b, c, d⟩, fun ⟨⟨a, _⟩, b⟩ => ⟨a, b⟩⟩
    · obtain ⟨r, hr, hm, hv⟩ := h.specRef σ (hsub σ hσ) hex
      by_cases hrp : r = prev
      · -- the spec's value is `prev`'s: the spec is still there, so the entry is not empty
        subst hrp
        obtain ⟨r2, hr2⟩ := List.exists_mem_of_ne_nil _ fun he => hkept he σ hσ ⟨hm.symm, hv.symm⟩
        obtain ⟨h1, h2, h3⟩ := (hmem r2).mp hr2
        exact ⟨r2, h1, h2.trans hm, h3.trans hv⟩
      · exact ⟨r, (hR r).mpr ⟨hr, hrp⟩, hm, hv⟩
    · have := (hmem r).mpr ⟨hr, hb.1.trans hg, hb.2.trans hval⟩
      rw [hemp] at this
      cases this

theorem rmDelRef_spec {st : St} (h : RInvX ex st) {o : Owner} {n : String} {prev : Ref}
    (hl : refLookup st.refs o n = some prev) :
    (rmDelRef st o n).2 = .ok () ∧ RInvX ex (rmDelRef st o n).1 ∧
    (rmDelRef st o n).1.refs = refErase st.refs o n ∧ Survives st (rmDelRef st o n).1 := by
  obtain ⟨hp, ho, hn⟩ := refLookup_some hl
  have herase := mem_refErase_of_lookup h hl
  subst ho
  -- with the invariant, `del_ref` is the removal followed by `changeDrop`
  have heq : rmDelRef st prev.owner n = (changeDrop (implDelRef st prev.owner n) prev.owner.model prev, .ok ()) := by
    unfold rmDelRef changeDrop
    rw [hl]
    show (if (!prev.val.tracked) = true then _ else
      match alookup st.v2r (prev.owner.model, prev.val) with | none => _ | some [] => _ | some l => _) =
      (match alookup st.v2r (prev.owner.model, prev.val) with | none => _ | some l => _, _)
    cases hlk : alookup st.v2r (prev.owner.model, prev.val) with
    | none => rw [Bool.eq_false_iff.2 (h.core.untracked_of_none hp hlk)]; rfl
    | some l =>
      obtain ⟨e1, _, e3, e4⟩ := hlk ▸ h.entry prev.owner.model prev.val
      have hin : prev ∈ l := (e4 prev).mpr ⟨hp, rfl, rfl⟩
      cases l with
      | nil => exact absurd rfl e1
      | cons a rest => simp only [e3, Bool.not_true, Bool.false_eq_true, if_false, hin, if_true]
  rw [heq]
  obtain ⟨c1, c2, c3⟩ := changeDrop_spec (R := refErase st.refs prev.owner n) h.core hp herase
  refine ⟨rfl, c1.withKey ?_, c2, c3⟩
  rw [c2]
  exact refKey_sub h.refKey fun r hr => ((herase r).mp hr).1

/-! ### `change_ref`: the new reference is registered (`new_ref`'s bookkeeping), then the previous
one is dropped (`del_ref`'s bookkeeping); in between the parent has two references of one name,
which `RCore` allows -/

theorem afterAppend_eq (st : St) (o : Owner) (n : String) (v : Val) :
    afterAppend st o n v = { rmNewRef st o n v with refs := refErase st.refs o n ++ [mkRef st o n v] } := by
  unfold afterAppend rmNewRef
  split <;> rfl

theorem rmChangeRef_spec {st : St} (h : RInvX ex st) {o : Owner} {n : String} {prev : Ref} (v : Val)
    (hl : refLookup st.refs o n = some prev) :
    (rmChangeRef st o n v).2 = .ok () ∧ RInvX ex (rmChangeRef st o n v).1 ∧
    (rmChangeRef st o n v).1.refs = refErase st.refs o n ++ [mkRef st o n v] ∧
    Survives st (rmChangeRef st o n v).1 := by
  obtain ⟨hp, ho, hn⟩ := refLookup_some hl
  have heq : rmChangeRef st o n v = (changeDrop (afterAppend st o n v) o.model prev, .ok ()) := by
    rcases rmChangeRef_cases st o n v with ⟨hn', _⟩ | ⟨p, hp', e⟩
    · rw [hl] at hn'; cases hn'
    · rw [hl] at hp'; cases hp'; exact e
  subst ho
  rw [heq, afterAppend_eq]
  obtain ⟨n1, n2⟩ := refs_rmNewRef st prev.owner n v
  have hnewne : mkRef st prev.owner n v ≠ prev := fun e => Nat.lt_irrefl _ (e ▸ h.ridLt prev hp)
  have hR : ∀ r, r ∈ refErase st.refs prev.owner n ++ [mkRef st prev.owner n v] ↔
      r ∈ (rmNewRef st prev.owner n v).refs ∧ r ≠ prev := by
    intro r
    rw [n1]
    simp only [List.mem_append, List.mem_singleton, mem_refErase_of_lookup h hl r]
    constructor
    · rintro (⟨x, y⟩ | rfl)
      · exact ⟨Or.inl x, y⟩
      · exact ⟨Or.inr rfl, hnewne⟩
    · rintro ⟨x | x, y⟩
      · exact Or.inl ⟨x, y⟩
      · exact Or.inr x
  obtain ⟨c1, c2, c3⟩ := changeDrop_spec (rcore_rmNewRef h.core prev.owner n v) (n1 ▸ List.mem_append_left _ hp) hR
  refine ⟨rfl, c1.withKey ?_, c2, fun σ hσ => c3 σ (n2 ▸ hσ)⟩
  rw [c2]
  exact refKey_snoc (refKey_sub h.refKey fun r hr => (mem_refErase.mp hr).1) (refErase_free st.refs prev.owner n)

end MxModel.IOSpec
