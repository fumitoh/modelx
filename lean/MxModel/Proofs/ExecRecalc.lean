import MxModel.Proofs.ExecCertTop
import MxModel.Proofs.ExecLog
import MxModel.Proofs.ExecHeld
import MxModel.Proofs.Reach
import MxModel.Proofs.ExecKeep
/-!
# Value assignment with the recalculation option on (`St.setValueRecalc`)

`set_value_from_key` with `System._recalc_dependents = True` = the lazy assignment (`St.setValue`)
followed by one top-level evaluation per former leaf dependent (`St.recalcTargets` over
`St.startNodesFrom`, taken before the clearing).

* `mem_startNodesFrom` – which elements are recomputed: the dependents of `n` (other than `n`) without
  dependents of their own;
* `recalcTargets_ci` – the loop keeps the certificate invariant `CI`, changes no held value (`Ext`), and
  executes only elements that held nothing when it started;
* `recalcTargets_held` – when no recomputation fails, every target holds a value afterwards;
* `inpOf_recalcTargets` – the inputs (elements and values) are those of the lazy assignment.
-/
namespace MxModel.Exec

variable {env : Env} {lt : Node → Node → Prop}

theorem mem_startNodesFrom {s : St} (hedge : ∀ x y, (x, y) ∈ s.ge → y ∈ s.gn) (n t : Node) :
    t ∈ s.startNodesFrom n ↔
      GNode.elem n ∈ s.gn ∧ Reach s.ge (.elem n) (.elem t) ∧ t ≠ n ∧ ∀ y, (GNode.elem t, y) ∉ s.ge := by
  unfold St.startNodesFrom
  by_cases hn : GNode.elem n ∈ s.gn
  · have hc : s.gn.contains (.elem n) = true := by simpa using hn
    simp only [hc, if_true, mem_elemsOf, List.mem_filter, descs_iff s hedge _ _ hn, hn, true_and]
    constructor
    · rintro ⟨⟨hr, hne⟩, hs⟩
      refine ⟨hr, ?_, ?_⟩
      · intro h; subst h; simp at hne
      · intro y hy
        have hm := (mem_succsOf s.ge _ _).mpr hy
        rw [List.isEmpty_iff] at hs
        rw [hs] at hm; cases hm
    · rintro ⟨hr, hne, hs⟩
      refine ⟨⟨hr, ?_⟩, ?_⟩
      · simp only [bne_iff_ne, ne_eq, GNode.elem.injEq]; exact hne
      · rw [List.isEmpty_iff]
        apply List.eq_nil_iff_forall_not_mem.mpr
        intro y hy
        exact hs y ((mem_succsOf s.ge _ _).mp hy)
  · have hc : s.gn.contains (.elem n) = false := by simpa using hn
    simp [hn]

theorem recalcTargets_keeps (env : Env) : ∀ (ts : List Node) (s : St), Keeps s (St.recalcTargets env ts s).2
  | [], s => Keeps.refl s
  | t :: ts, s => by
    simp only [St.recalcTargets]
    split
    · exact (evalTop_keeps env t s).trans (recalcTargets_keeps env ts _)
    · exact evalTop_keeps env t s

theorem recalcTargets_held (env : Env) : ∀ (ts : List Node) (s : St),
    (St.recalcTargets env ts s).1 = .ok → ∀ t ∈ ts, env.cached t.1 = true →
      (lookup (St.recalcTargets env ts s).2.data t).isSome = true
  | [], _, _, t, ht, _ => by cases ht
  | t0 :: ts, s, hok, t, ht, hc => by
    simp only [St.recalcTargets] at hok ⊢
    cases hr : (evalTop env t0 s).1 with
    | formulaError e tb => simp [hr] at hok
    | ok w =>
      simp only [hr] at hok ⊢
      rcases List.mem_cons.mp ht with rfl | ht'
      · have h1 := evalTop_ok_held env t s w hc hr
        exact (recalcTargets_keeps env ts _).1 t (by rw [h1]; rfl)
      · exact recalcTargets_held env ts _ hok t ht' hc

/-- a failure is the failure of one target's top-level evaluation; the targets before it were evaluated
and returned; the targets after it were not evaluated -/
theorem recalcTargets_failed (env : Env) : ∀ (ts : List Node) (s : St) (t : Node) (e : Err) (tb : List Node),
    (St.recalcTargets env ts s).1 = .failed t e tb →
      ∃ pre post s0, ts = pre ++ t :: post ∧ (St.recalcTargets env pre s).1 = .ok ∧
        s0 = (St.recalcTargets env pre s).2 ∧ (evalTop env t s0).1 = .formulaError e tb ∧
        (St.recalcTargets env ts s).2 = (evalTop env t s0).2
  | [], s, t, e, tb, h => by simp [St.recalcTargets] at h
  | t0 :: ts, s, t, e, tb, h => by
    simp only [St.recalcTargets] at h ⊢
    cases hr : (evalTop env t0 s).1 with
    | formulaError e' tb' =>
      simp only [hr, RecalcRes.failed.injEq] at h ⊢
      obtain ⟨rfl, rfl, rfl⟩ := h
      exact ⟨[], ts, s, rfl, rfl, rfl, hr, rfl⟩
    | ok w =>
      simp only [hr] at h ⊢
      obtain ⟨pre, post, s0, h1, h2, h3, h4, h5⟩ := recalcTargets_failed env ts _ t e tb h
      refine ⟨t0 :: pre, post, s0, by rw [h1]; rfl, ?_, ?_, h4, h5⟩
      · simp only [St.recalcTargets, hr]; exact h2
      · simp only [St.recalcTargets, hr]; exact h3

theorem ext_unheld {s s' : St} (hx : Ext s s') {m : Node} (h : lookup s'.data m = none) : lookup s.data m = none := by
  cases hl : lookup s.data m with
  | none => rfl
  | some v => rw [hx m v hl] at h; cases h

theorem recalcTargets_ci (ho : StrictOrder lt) (hr : Ranked env lt) (hnc : NoCatchEnv env) :
    ∀ (ts : List Node) (s : St), (∀ t ∈ ts, env.alive t.1 = true) → CI env lt s →
      CI env lt (St.recalcTargets env ts s).2 ∧ Ext s (St.recalcTargets env ts s).2 ∧
      ∃ new, (St.recalcTargets env ts s).2.log = new ++ s.log ∧
        ∀ m ∈ new, env.cached m.1 = true → lookup s.data m = none
  | [], s, _, h => ⟨h, Ext.refl s, [], rfl, fun m hm => by cases hm⟩
  | t :: ts, s, hal, h => by
    have hci1 : CI env lt (evalTop env t s).2 := evalTop_ci ho hr hnc t (hal t (by simp)) h
    have hx1 : Ext s (evalTop env t s).2 := (h.gi.topCall ho hr h.quiet.stack h.quiet.idx t).2.2.2
    obtain ⟨new1, _, hl1, hn1, _⟩ := evalTop_log ho hr h.gi h.quiet.stack h.quiet.idx t
    simp only [St.recalcTargets]
    split
    · obtain ⟨hci2, hx2, new2, hl2, hn2⟩ :=
        recalcTargets_ci ho hr hnc ts (evalTop env t s).2 (fun u hu => hal u (by simp [hu])) hci1
      refine ⟨hci2, hx1.trans hx2, new2 ++ new1, by rw [hl2, hl1, List.append_assoc], ?_⟩
      intro m hm hc
      rcases List.mem_append.mp hm with hm | hm
      · exact ext_unheld hx1 (hn2 m hm hc)
      · exact hn1 m hm hc
    · exact ⟨hci1, hx1, new1, hl1, hn1⟩

theorem inpOf_recalcTargets (ho : StrictOrder lt) (hr : Ranked env lt) (hnc : NoCatchEnv env)
    (ts : List Node) {s : St} (hal : ∀ t ∈ ts, env.alive t.1 = true) (h : CI env lt s) :
    inpOf (St.recalcTargets env ts s).2 = inpOf s :=
  inpOf_of_ext (recalcTargets_ci ho hr hnc ts s hal h).2.1 (recalcTargets_keeps env ts s).2 h.gi.inputsHeld

theorem setValue_mem_inputs (s : St) (n : Node) (v : Val) (hv : ¬ (v = .none ∧ env.allowNone n.1 = false)) :
    n ∈ (s.setValue env n v).1.inputs :=
  ((setValue_assigned s n v hv).inputs n).mpr (Or.inr rfl)

theorem clearValueAt_log (s : St) (n : Node) (ci : Bool) : (s.clearValueAt n ci).log = s.log := by
  unfold St.clearValueAt
  split
  · split
    · unfold St.clearWithDescs; split <;> rfl
    · rfl
  · rfl

theorem setValue_log (s : St) (n : Node) (v : Val) : (s.setValue env n v).1.log = s.log := by
  rcases setValue_cases env s n v with ⟨_, heq⟩ | ⟨_, _, ha⟩
  · rw [heq]
  · exact ha.log.trans (clearValueAt_log s n true)

/-- **definitional unfolding made explicit**: an accepted recalculating assignment is the lazy
assignment followed by the loop over the former leaf dependents, taken BEFORE the clearing -/
theorem setValueRecalc_eq (s : St) (n : Node) (v : Val) (hv : ¬ (v = .none ∧ env.allowNone n.1 = false)) :
    s.setValueRecalc env n v =
      ((St.recalcTargets env (s.startNodesFrom n) (s.setValue env n v).1).2,
       (St.recalcTargets env (s.startNodesFrom n) (s.setValue env n v).1).1) := by
  unfold St.setValueRecalc
  rw [setValue_accepted s n v hv]

theorem setValueRecalc_refused (s : St) (n : Node) (v : Val) (hv : v = .none ∧ env.allowNone n.1 = false) :
    s.setValueRecalc env n v = (s, .refused .noneNotAllowed) := by
  unfold St.setValueRecalc
  rw [setValue_refused s n v hv]

/-- the targets are graph nodes, hence elements of cells that exist and are cached -/
theorem startNodes_alive {s : St} (h : CI env lt s) (n t : Node) (ht : t ∈ s.startNodesFrom n) :
    env.alive t.1 = true ∧ env.cached t.1 = true ∧ (lookup s.data t).isSome = true := by
  have hm := (mem_startNodesFrom (fun x y hxy => (h.gi.edgeNodes x y hxy).2) n t).mp ht
  have hgn : GNode.elem t ∈ s.gn := by
    obtain ⟨y, hy⟩ := hm.2.1.pred (by intro h'; cases h'; exact hm.2.2.1 rfl)
    exact (h.gi.edgeNodes _ _ hy).2
  exact ⟨h.alive.nodes _ hgn, h.gi.elemCached t hgn, h.nodeHeld hgn⟩

end MxModel.Exec
