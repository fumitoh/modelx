import MxModel.Proofs.StructMechOps3
/-!
# Preservation of `Inv` by `newSpace`

The new space is appended with empty tables and then re-derived; no old space has it in its
linearisation, so the old spaces keep theirs (`mro_eq_of_transfer`) and `good_rebase` applies with the
new space as the only re-derived one.  Its tables are disjoint because its linearisation passed `noConflict`.
-/
namespace MxModel.SM
open MxModel.C3

theorem ids_push (st : St) (ns : Space) : (st.push ns).ids = st.ids ++ [ns.id] := by
  simp [St.push, St.ids]

theorem find_push (st : St) (ns : Space) (hid : ns.id ∉ st.ids) (q : Path) :
    (st.push ns).find q = if q = ns.id then some ns else st.find q := by
  unfold St.push St.find
  simp only [List.find?_append]
  by_cases hq : q = ns.id
  · subst hq
    have : st.find ns.id = none := (find_none_iff st _).mpr hid
    unfold St.find at this
    rw [this]
    simp
  · have : (ns.id == q) = false := by simpa using fun e => hq e.symm
    simp [hq, this]

theorem cont_push (st : St) (ns : Space) (hid : ns.id ∉ st.ids) (a : Attr) (q : Path) :
    (st.push ns).cont a q = if q = ns.id then ns.get a else st.cont a q := by
  unfold St.cont
  rw [find_push st ns hid]
  by_cases hq : q = ns.id
  · simp only [hq, if_true]
  · simp only [hq, if_false]

theorem basesOf_push (st : St) (ns : Space) (hid : ns.id ∉ st.ids) (q : Path) :
    (st.push ns).basesOf q = if q = ns.id then ns.bases else st.basesOf q := by
  unfold St.basesOf
  rw [find_push st ns hid]
  by_cases hq : q = ns.id
  · simp only [hq, if_true]
  · simp only [hq, if_false]

theorem inv_newSpace (kw : List String) (st st' : St) (h : Inv st) (parent : Path) (name : String)
    (bases : List Path) (hop : st.newSpace kw parent name bases = some st') : Inv st' := by
  obtain ⟨hpar, hbs, hca, _, ⟨l, hmro, hnc⟩, rfl⟩ := newSpace_some hop
  generalize hns : freshSpace parent name bases = ns at hmro hnc ⊢
  have hnsid : ns.id = parent ++ [name] := by rw [← hns]; rfl
  rw [← hnsid] at hmro ⊢
  have hnsb : ns.bases = dedupLast bases := by rw [← hns]; rfl
  have hnsg : ∀ a, ns.get a = [] := by intro a; rw [← hns]; cases a <;> rfl
  obtain ⟨hfresh, hcn⟩ := canAdd_space_free h.wf parent name hca
  rw [← hnsid] at hfresh
  generalize hst1 : st.push ns = st1 at hmro hnc ⊢
  have hids : st1.ids = st.ids ++ [ns.id] := by rw [← hst1]; exact ids_push st ns
  have hlen : st1.spaces.length = st.spaces.length + 1 := by rw [← hst1]; simp [St.push]
  have hglob : st1.globals = st.globals := by rw [← hst1]; rfl
  have hcont : ∀ a q, st1.cont a q = if q = ns.id then [] else st.cont a q := by
    intro a q; rw [← hst1, cont_push st ns hfresh, hnsg]
  have hbases : ∀ q, st1.basesOf q = if q = ns.id then dedupLast bases else st.basesOf q := by
    intro q; rw [← hst1, basesOf_push st ns hfresh, hnsb]
  have hcont' : ∀ a q, q ∈ st1.ids → st1.cont a q = st.cont a q := by
    intro a q _
    rw [hcont]
    split
    · rename_i e; rw [e, St.cont_of_not_mem st a _ hfresh]
    · rfl
  have hne : ∀ q ∈ st.ids, q ≠ ns.id := fun q hq e => hfresh (e ▸ hq)
  have hmro_old : ∀ q ∈ st.ids, st1.mro q = some (q :: st.tail q) := by
    intro q hq
    apply mro_eq_of_transfer st st1 q _ (h.wf.mro_all q) _ (by omega)
    intro x hx
    rw [hbases]
    have hxi : x ∈ st.ids := by
      simp only [List.mem_cons] at hx
      rcases hx with rfl | hx
      · exact hq
      · exact h.wf.tail_mem_ids q x hx
    simp [hne x hxi]
  have hwf1 : WF st1 := by
    refine ⟨?_, ?_, ?_, ?_, ?_⟩
    · rw [hids, List.nodup_append]
      refine ⟨h.wf.nodup, by simp, ?_⟩
      intro a ha b hb
      simp only [List.mem_singleton] at hb
      subst hb
      exact hne a ha
    · intro q b hb
      rw [hids, List.mem_append]
      left
      rw [hbases] at hb
      split at hb
      · exact hbs b ((mem_dedupLast bases b).mp hb)
      · exact h.wf.bases q b hb
    · intro q hq
      rw [hids, List.mem_append, List.mem_singleton] at hq
      rcases hq with hq | rfl
      · rw [hmro_old q hq]; rfl
      · rw [hmro]; rfl
    · intro a q
      rw [hcont]
      split
      · simp [keys]
      · exact h.wf.keys a q
    · intro q hq
      rw [hids, List.mem_append, List.mem_singleton] at hq
      rcases hq with hq | rfl
      · obtain ⟨h1, h2⟩ := h.wf.tree q hq
        refine ⟨h1, h2.imp id (fun h3 => ?_)⟩
        rw [hids, List.mem_append]; exact Or.inl h3
      · rw [hnsid]
        refine ⟨by simp, ?_⟩
        rw [List.dropLast_concat]
        rcases hpar with hp | hp
        · exact Or.inl hp
        · right; rw [hids, List.mem_append]; exact Or.inl hp
  have htail : ∀ q ∈ st1.ids, q ∉ [ns.id] → st1.tail q = st.tail q := by
    intro q hq hqn
    rw [hids, List.mem_append] at hq
    have hq' : q ∈ st.ids := hq.resolve_right hqn
    unfold St.tail
    rw [hmro_old q hq', h.wf.mro_all q]
  show Inv (st1.updateAll [ns.id])
  have R := rederived_updateAll st1 hwf1.keys [ns.id]
  refine ⟨hwf1.of_shape R.shape R.keys, good_rebase st st1 h hwf1 hcont' _ htail, ?_⟩
  have hl : l = ns.id :: st1.tail ns.id := by
    have := hwf1.mro_all ns.id
    rw [hmro] at this
    exact Option.some.inj this
  rw [hl] at hnc
  have hdn := disj_of_noConflict R ns.id [] hnc
  have hold : ∀ a q n, q ≠ ns.id → (st1.updateAll [ns.id]).mem a q n = st.mem a q n := by
    intro a q n hq
    rw [St.mem_eq, R.other a q (by simpa using hq), hcont, St.mem_eq]
    simp [hq]
  have hchild : ∀ q n, n ∈ (st1.updateAll [ns.id]).childNames q ↔
      n ∈ st.childNames q ∨ (q = parent ∧ n = name) := by
    intro q n
    rw [R.shape.childNames, mem_childNames, mem_childNames, hids, List.mem_append, List.mem_singleton, hnsid]
    simp
  have hpne : parent ≠ ns.id := by
    intro e
    have := congrArg List.length e
    rw [hnsid] at this
    simp at this
  refine ⟨?_, ?_, ?_⟩
  · intro q n hc
    by_cases hq : q = ns.id
    · subst hq; exact hdn.1 n hc
    · rw [hold .cells q n hq] at hc
      rw [hold .refs q n hq]
      exact h.disj.cr q n hc
  · intro q n hn
    rw [hchild] at hn
    rcases hn with hn | ⟨rfl, rfl⟩
    · by_cases hq : q = ns.id
      · -- a child of the new space would be an old space without a parent
        exfalso
        have hci := (mem_childNames st q n).mp hn
        obtain ⟨_, h2⟩ := h.wf.tree _ hci
        rw [List.dropLast_concat] at h2
        rcases h2 with h2 | h2
        · rw [hq, hnsid] at h2; simp at h2
        · exact hfresh (hq ▸ h2)
      · rw [hold .cells q n hq, hold .refs q n hq]
        exact h.disj.child q n hn
    · rw [hold .cells q n hpne, hold .refs q n hpne]
      exact ⟨hcn.1, hcn.2.1⟩
  · intro n hn
    rw [R.shape.globals, hglob] at hn
    rw [hchild]
    rintro (hc | ⟨hp, rfl⟩)
    · exact h.disj.glob n hn hc
    · exact hcn.2.2 hp.symm hn

end MxModel.SM
