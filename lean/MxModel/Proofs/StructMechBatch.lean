import MxModel.Struct.MechBatch
import MxModel.Proofs.StructMechEffect
/-!
# A call that creates several cells: the loop of the code and the atomic call accept the same calls

`St.newCellsSeq` (the loop of single `new_cells` calls the code runs) and `St.newCellsBatch` (all checks
first, in the state the call was given) are the same function on every state without a space of empty id
- in particular on every reachable state.  The point of the proof: putting a cells `n` into `p` changes
the answer of `_can_add` in `p` for the name `n` only (to "no"), so checking the later names in the
original state, plus pairwise distinctness, is checking them where the loop checks them.
-/
namespace MxModel.SM
open MxModel.C3

theorem cellsOk_iff (kw : List String) (st : St) (p : Path) (name : String) :
    st.cellsOk kw p name = true ↔
      st.has p = true ∧ Names.isValidName kw name = true ∧ st.canAdd p name .cells = true := by
  simp only [St.cellsOk, Bool.and_eq_true, and_assoc]

theorem newCells_eq_put (kw : List String) (st : St) (p : Path) (name : String) (v : Nat) :
    st.newCells kw p name v = if st.cellsOk kw p name then some (st.putCells p name v) else none :=
  newCells_eq kw st p name v

theorem shape_putCells (st : St) (p : Path) (n : String) (v : Nat) : Shape st (st.putCells p n v) :=
  (shape_setMem st .cells p n _).trans (shape_foldl _ (fun s q' => (newMemberSub_derivedSet s .cells p n v q').shape) _ _)

theorem mem_newMemberSub_ne (st : St) (a : Attr) (p : Path) (n : String) (v : Nat) (q' : Path) (a' : Attr)
    (q : Path) (n' : String) (h : n' ≠ n) : (st.newMemberSub a p n v q').mem a' q n' = st.mem a' q n' := by
  rcases newMemberSub_derivedSet st a p n v q' with e | ⟨w, _, e⟩
  · rw [e]
  · rw [e, mem_setMem_ne _ _ _ _ _ _ _ _ h]

theorem mem_putCells_ne (st : St) (p : Path) (n : String) (v : Nat) (a' : Attr) (q : Path) (n' : String)
    (h : n' ≠ n) : (st.putCells p n v).mem a' q n' = st.mem a' q n' := by
  unfold St.putCells
  simp only
  rw [foldl_rel (fun s s' => s'.mem a' q n' = s.mem a' q n') (fun _ => rfl) (fun h h' => h'.trans h) _ _
    (fun s q' _ => mem_newMemberSub_ne s .cells p n v q' a' q n' h)]
  exact mem_setMem_ne _ _ _ _ _ _ _ _ h

theorem mem_putCells_self (st : St) (p : Path) (n : String) (v : Nat) (hp : p ∈ st.ids) :
    ((st.putCells p n v).mem .cells p n).isSome = true :=
  St.mem_isSome_of_defd (by
    show ((st.newMember .cells p n v).defd .cells p n).isSome = true
    rw [(effect_newMember st .cells p n v hp).2 .cells p n]; simp)

theorem kindOf_putCells_ne (st : St) (p : Path) (n : String) (v : Nat) (q : Path) (n' : String) (h : n' ≠ n) :
    (st.putCells p n v).kindOf q n' = st.kindOf q n' := by
  unfold St.kindOf
  rw [mem_putCells_ne st p n v .cells q n' h, mem_putCells_ne st p n v .refs q n' h,
    (shape_putCells st p n v).globals, (shape_putCells st p n v).childNames]

theorem canAdd_putCells_ne (st : St) (p : Path) (n : String) (v : Nat) (p' : Path) (n' : String) (k : Kind)
    (h : n' ≠ n) : (st.putCells p n v).canAdd p' n' k = st.canAdd p' n' k := by
  unfold St.canAdd
  rw [(shape_putCells st p n v).globals, (shape_putCells st p n v).childNames,
    (shape_putCells st p n v).subs, kindOf_putCells_ne st p n v p' n' h]
  simp only [kindOf_putCells_ne st p n v _ n' h]

theorem canAdd_putCells_self (st : St) (p : Path) (n : String) (v : Nat) (k : Kind) (hp : p ∈ st.ids)
    (hne : p ≠ []) : (st.putCells p n v).canAdd p n k = false := by
  unfold St.canAdd St.kindOf
  simp [hne, mem_putCells_self st p n v hp]

theorem has_putCells (st : St) (p : Path) (n : String) (v : Nat) (q : Path) :
    (st.putCells p n v).has q = st.has q := (shape_putCells st p n v).has q

theorem cellsOk_putCells (kw : List String) (st : St) (p : Path) (n : String) (v : Nat) (n' : String)
    (hroot : st.has [] = false) (hp : st.has p = true) :
    (st.putCells p n v).cellsOk kw p n' = (n' != n && st.cellsOk kw p n') := by
  have hpi : p ∈ st.ids := (has_iff_mem_ids st p).mp hp
  have hne : p ≠ [] := by intro h; rw [h, hroot] at hp; cases hp
  unfold St.cellsOk
  rw [has_putCells]
  by_cases h : n' = n
  · subst h
    rw [canAdd_putCells_self st p n' v .cells hpi hne]
    simp
  · rw [canAdd_putCells_ne st p n v p n' .cells h]
    simp [h]

theorem newCellsSeq_cons (kw : List String) (st : St) (p : Path) (e : String × Nat) (es : List (String × Nat)) :
    st.newCellsSeq kw p (e :: es) =
      if st.cellsOk kw p e.1 then (st.putCells p e.1 e.2).newCellsSeq kw p es else none := by
  rw [St.newCellsSeq, newCells_eq_put]
  cases st.cellsOk kw p e.1 <;> rfl

theorem newCellsLoop_cons (kw : List String) (st : St) (p : Path) (e : String × Nat) (es : List (String × Nat)) :
    st.newCellsLoop kw p (e :: es) =
      if st.cellsOk kw p e.1 then (st.putCells p e.1 e.2).newCellsLoop kw p es else (st, false) := by
  rw [St.newCellsLoop, newCells_eq_put]
  cases st.cellsOk kw p e.1 <;> rfl

theorem batchOk_cons (kw : List String) (st : St) (p : Path) (e : String × Nat) (es : List (String × Nat))
    (hroot : st.has [] = false) (hok : st.cellsOk kw p e.1 = true) :
    st.batchOk kw p (e :: es) = (st.putCells p e.1 e.2).batchOk kw p es := by
  have hp := ((cellsOk_iff kw st p e.1).mp hok).1
  unfold St.batchOk
  simp only [nodupNames, List.all_cons, hok, Bool.true_and, cellsOk_putCells kw st p e.1 e.2 _ hroot hp,
    all_and_split, Bool.and_assoc, Bool.and_left_comm]

theorem newCellsBatch_eq_seq (kw : List String) (p : Path) :
    ∀ (es : List (String × Nat)) (st : St), st.has [] = false →
      st.newCellsBatch kw p es = st.newCellsSeq kw p es := by
  intro es
  induction es with
  | nil => intro st _; rfl
  | cons e es ih =>
    intro st hroot
    rw [newCellsSeq_cons]
    cases hok : st.cellsOk kw p e.1 with
    | false =>
      unfold St.newCellsBatch St.batchOk
      simp [hok]
    | true =>
      simp only [if_true]
      rw [← ih (st.putCells p e.1 e.2) (by rw [has_putCells]; exact hroot)]
      unfold St.newCellsBatch
      rw [batchOk_cons kw st p e es hroot hok]
      rfl

theorem newCellsSeq_eq_loop (kw : List String) (p : Path) :
    ∀ (es : List (String × Nat)) (st : St),
      st.newCellsSeq kw p es =
        if (st.newCellsLoop kw p es).2 then some (st.newCellsLoop kw p es).1 else none := by
  intro es
  induction es with
  | nil => intro st; rfl
  | cons e es ih =>
    intro st
    rw [newCellsSeq_cons, newCellsLoop_cons]
    cases st.cellsOk kw p e.1 with
    | false => rfl
    | true => simp only [if_true]; exact ih _

theorem newCellsSeq_some (kw : List String) (p : Path) :
    ∀ (es : List (String × Nat)) (st st' : St), st.newCellsSeq kw p es = some st' →
      st' = st.putCellsAll p es ∧
      ∀ (k : Nat) (hk : k < es.length), (st.putCellsAll p (es.take k)).acceptsNewCells kw p es[k].1 = true := by
  intro es
  induction es with
  | nil =>
    intro st st' h
    simp only [St.newCellsSeq, Option.some.injEq] at h
    exact ⟨h.symm, fun k hk => absurd hk (Nat.not_lt_zero k)⟩
  | cons e es ih =>
    intro st st' h
    rw [newCellsSeq_cons] at h
    cases hok : st.cellsOk kw p e.1 with
    | false => rw [hok] at h; cases h
    | true =>
      rw [hok] at h
      simp only [if_true] at h
      obtain ⟨h1, h2⟩ := ih _ _ h
      refine ⟨h1, ?_⟩
      intro k hk
      cases k with
      | zero => exact hok
      | succ k => exact h2 k (Nat.lt_of_succ_lt_succ hk)

theorem mem_cells_none_of_canAdd (st : St) (p : Path) (n : String) (k : Kind) (hne : p ≠ [])
    (h : st.canAdd p n k = true) : st.mem .cells p n = none :=
  (kindOf_none st p n (canAdd_space hne h).1).1

theorem mem_loop_keeps (kw : List String) (p : Path) (n : String) :
    ∀ (es : List (String × Nat)) (s : St), (s.mem .cells p n).isSome = true →
      ((s.newCellsLoop kw p es).1.mem .cells p n).isSome = true := by
  intro es
  induction es with
  | nil => intro s h; exact h
  | cons e es ih =>
    intro s h
    rw [newCellsLoop_cons]
    cases hok : s.cellsOk kw p e.1 with
    | false => exact h
    | true =>
      simp only [if_true]
      apply ih
      by_cases hn : n = e.1
      · rw [hn]
        exact mem_putCells_self s p e.1 e.2 ((has_iff_mem_ids s p).mp ((cellsOk_iff kw s p e.1).mp hok).1)
      · rw [mem_putCells_ne s p e.1 e.2 .cells p n hn]
        exact h

/-- No hypothesis that a later creation is refused: the first cells is there wherever the loop stops
(`mem_loop_keeps`), so the state differs from the one the call was given also when the loop fails. -/
theorem loop_refused_differs (kw : List String) (st : St) (p : Path) (e : String × Nat)
    (es : List (String × Nat)) (hroot : st.has [] = false) (hok : st.cellsOk kw p e.1 = true) :
    ((st.newCellsLoop kw p (e :: es)).1.mem .cells p e.1).isSome = true ∧ st.mem .cells p e.1 = none ∧
    (st.newCellsLoop kw p (e :: es)).1 ≠ st := by
  obtain ⟨hp, _, hca⟩ := (cellsOk_iff kw st p e.1).mp hok
  have hne : p ≠ [] := by intro h; rw [h, hroot] at hp; cases hp
  have h1 : ((st.newCellsLoop kw p (e :: es)).1.mem .cells p e.1).isSome = true := by
    rw [newCellsLoop_cons, hok]
    simp only [if_true]
    exact mem_loop_keeps kw p e.1 es _ (mem_putCells_self st p e.1 e.2 ((has_iff_mem_ids st p).mp hp))
  have h2 := mem_cells_none_of_canAdd st p e.1 .cells hne hca
  refine ⟨h1, h2, ?_⟩
  intro heq
  rw [heq, h2] at h1
  cases h1

theorem run_no_root (kw : List String) (ops : List Op) : (St.run kw {} ops).has [] = false := by
  cases h : (St.run kw {} ops).has [] with
  | false => rfl
  | true => exact absurd rfl ((run_inv kw ops).wf.tree [] ((has_iff_mem_ids _ _).mp h)).1

end MxModel.SM
