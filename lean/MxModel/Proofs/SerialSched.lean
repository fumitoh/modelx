import MxModel.Proofs.SerialParse
/-! The schedule of the instructions of a description: which of the instructions of one space run in which of the
five phases (`filter_opsOfSpace`). -/
namespace MxModel.Serial
open MxModel.PathCodec MxModel.Generated

/-- `a` is scheduled for phase `k` -/
def inPhase {α : Type} (ph : α → Option Nat) (k : Nat) (a : α) : Bool := decide (ph a = some k)

theorem schedule_eq {α : Type} (ph : α → Option Nat) (l : List α) :
    schedule ph l = l.filter (inPhase ph 0) ++ l.filter (inPhase ph 1) ++ l.filter (inPhase ph 2) ++
      l.filter (inPhase ph 3) ++ l.filter (inPhase ph 4) := by
  simp only [schedule, readerPhases_length, List.range_succ, List.range_zero, List.nil_append, List.flatMap_append,
    List.flatMap_singleton]
  rfl

theorem phase_trailerOps (c : CellsD) : ∀ o ∈ trailerOps c, o.phase = some 0 := by
  intro o ho
  rcases mem_trailerOps ho with ⟨d, rfl⟩ | ⟨v, rfl⟩ | ⟨b, rfl⟩
  · exact phase_cellsDoc _ _
  · exact phase_cellsAllowNone _ _
  · exact phase_cellsCached _ _

theorem phase_refOpOf (isModel : Bool) (model : Name) (owner : Path) (r : Name × RefVal × Name) :
    (refOpOf isModel model owner r).phase = some 3 := by
  unfold refOpOf
  split
  · exact phase_setRef _ _ _
  · exact phase_setAttr _ _

theorem filter_all_phase (l : List Op) (j k : Nat) (h : ∀ o ∈ l, o.phase = some j) :
    l.filter (inPhase Op.phase k) = if j = k then l else [] := by
  by_cases hjk : j = k
  · rw [if_pos hjk]
    exact List.filter_eq_self.mpr (fun o ho => by simp [inPhase, h o ho, hjk])
  · rw [if_neg hjk]
    exact List.filter_eq_nil_iff.mpr (fun o ho => by simp [inPhase, h o ho, hjk])

theorem filter_map_phase {α : Type} (f : α → Op) (l : List α) (j k : Nat) (h : ∀ a, (f a).phase = some j) :
    (l.map f).filter (inPhase Op.phase k) = if j = k then l.map f else [] :=
  filter_all_phase _ j k (fun o ho => by obtain ⟨a, _, rfl⟩ := List.mem_map.mp ho; exact h a)

/-- what a cells definition contributes to the first phase -/
def cellOps0 (c : CellsD) : List Op := Op.newCells c.name (readFormula c.formula) :: trailerOps c

theorem phase_cellOps0 (c : CellsD) : ∀ o ∈ cellOps0 c, o.phase = some 0 := by
  intro o ho
  rcases List.mem_cons.mp ho with rfl | ho
  · exact phase_newCells _ _
  · exact phase_trailerOps c o ho

theorem filter_cellOps (c : CellsD) (k : Nat) :
    (cellOps c).filter (inPhase Op.phase k) =
      (if 0 = k then cellOps0 c else []) ++ if 2 = k then [Op.loadPickle c.name c.inputs] else [] := by
  show (cellOps0 c ++ [Op.loadPickle c.name c.inputs]).filter (inPhase Op.phase k) = _
  rw [List.filter_append, filter_all_phase _ 0 k (phase_cellOps0 c),
    filter_all_phase [Op.loadPickle c.name c.inputs] 2 k (fun o ho => List.mem_singleton.mp ho ▸ phase_loadPickle _ _)]

def docOps (d : Option Text) : List Op :=
  match d with
  | some d => [Op.setDoc d]
  | none => []

theorem phase_docOps (d : Option Text) : ∀ o ∈ docOps d, o.phase = some 0 := by
  intro o ho
  cases d with
  | none => cases ho
  | some d =>
    obtain rfl := List.mem_singleton.mp ho
    exact phase_setDoc d

def refOps (model : Name) (parent : Path) (i : SpaceInfo) : List Op :=
  (spaceRefs i).map (refOpOf false model (parent ++ [i.name]))

def dynOpsOf (model : Name) (parent : Path) (i : SpaceInfo) : List Op :=
  i.dynInputs.map (dynOpOf model (parent ++ [i.name]))

theorem opsOfSpace_eq (model : Name) (parent : Path) (i : SpaceInfo) :
    opsOfSpace model parent i = docOps i.doc ++
      [Op.setFormula (readOptFormula i.formula), Op.addBases (i.bases.map (dotted model)),
       Op.setAllowNone i.allowNone] ++ i.cells.flatMap cellOps ++ refOps model parent i ++
      dynOpsOf model parent i := by
  unfold opsOfSpace stmtOpsOfSpace docOps refOps dynOpsOf
  cases i.doc <;> simp

theorem filter_opsOfSpace (model : Name) (parent : Path) (i : SpaceInfo) (k : Nat) :
    (opsOfSpace model parent i).filter (inPhase Op.phase k) =
      (if 0 = k then docOps i.doc ++ [Op.setFormula (readOptFormula i.formula), Op.setAllowNone i.allowNone] ++
        i.cells.flatMap cellOps0 else []) ++
      (if 1 = k then [Op.addBases (i.bases.map (dotted model))] else []) ++
      (if 2 = k then i.cells.map (fun c => Op.loadPickle c.name c.inputs) else []) ++
      (if 3 = k then refOps model parent i else []) ++ if 4 = k then dynOpsOf model parent i else [] := by
  rw [opsOfSpace_eq]
  simp only [List.filter_append, List.filter_flatMap, filter_cellOps, filter_all_phase _ 0 k (phase_docOps i.doc),
    refOps, dynOpsOf, filter_map_phase _ _ 3 k (phase_refOpOf false model (parent ++ [i.name])),
    filter_map_phase (dynOpOf model (parent ++ [i.name])) _ 4 k (fun _ => phase_dynInput _ _ _),
    List.filter_cons, List.filter_nil, inPhase, phase_setFormula, phase_addBases, phase_setAllowNone]
  -- every part is taken or left by `k`: the five phases one by one, and the numbers beyond
  rcases k with _ | _ | _ | _ | _ | k <;> simp [List.map_eq_flatMap]

end MxModel.Serial
