import MxModel.Proofs.StructMechOps2
/-!
# Preservation of `Inv` by `removeBases` and `addBases`

Common part (`good_rebase`): the base relation changed, every space whose linearisation may have
changed is re-derived; the other spaces keep their members, their linearisation and the definitions
along it.
-/
namespace MxModel.SM
open MxModel.C3

theorem good_rebase (st st1 : St) (h : Inv st) (hwf1 : WF st1)
    (hcont : ∀ a q, q ∈ st1.ids → st1.cont a q = st.cont a q) (ds : List Path)
    (htail : ∀ q ∈ st1.ids, q ∉ ds → st1.tail q = st.tail q) :
    ∀ a q n, Good1 (st1.updateAll ds) a q n := by
  apply good_updateAll_all st1 hwf1.keys
  intro a q n hq
  by_cases hqi : q ∈ st1.ids
  · have ht := htail q hqi hq
    refine (h.good a q n).congr ?_ ht ?_
    · rw [St.mem_eq, St.mem_eq, hcont a q hqi]
    · intro b hb
      have hbi : b ∈ st1.ids := hwf1.tail_mem_ids q b (by rw [ht]; exact hb)
      unfold St.defd
      rw [St.mem_eq, St.mem_eq, hcont a b hbi]
  · exact Good1.of_not_mem st1 a q n hqi

theorem mem_isSome_of_shrunk (st st1 : St) (h : Inv st) (hwf1 : WF st1)
    (hbsub : ∀ q, st1.basesOf q ⊆ st.basesOf q)
    (hmem : ∀ a q n, q ∈ st1.ids → st1.mem a q n = st.mem a q n) (ds : List Path) (a : Attr) (q : Path)
    (n : String) (hh : ((st1.updateAll ds).mem a q n).isSome = true) : (st.mem a q n).isSome = true := by
  obtain ⟨b, hb, hbm⟩ := (rederived_updateAll st1 hwf1.keys ds).mem_source a q n hh
  rw [hmem a b n (mem_ids_of_mem_isSome st1 a b n hbm)] at hbm
  refine h.mem_isSome_of_source a (hb.imp id (fun hb => ?_)) hbm
  -- fewer base relations, fewer spaces in the linearisation
  have hsub := mro_subset_of_bases_subset st.basesOf st1.basesOf hbsub _ _ q _ _
    (h.wf.mro_all q) (hwf1.mro_all q)
  have hd1 : b ∈ q :: st.tail q := hsub (List.mem_cons_of_mem _ hb)
  have hne : b ≠ q := fun e => hwf1.not_mem_tail_self q (e ▸ hb)
  simpa [hne] using hd1

theorem ids_rebase (st : St) (p : Path) (g : List Path → List Path) : (st.rebase p g).ids = st.ids :=
  ids_upd st p _ (fun _ => rfl)

theorem cont_rebase (st : St) (p : Path) (g : List Path → List Path) (a : Attr) (q : Path) :
    (st.rebase p g).cont a q = st.cont a q := by
  unfold St.cont St.rebase
  rw [find_upd st p (fun s => { s with bases := g s.bases }) (fun _ => rfl)]
  by_cases hqp : q = p
  · subst hqp
    simp only [if_true]
    cases st.find q with
    | none => rfl
    | some s => cases a <;> rfl
  · simp [hqp]

theorem basesOf_rebase (st : St) (p : Path) (g : List Path → List Path) (q : Path) :
    (st.rebase p g).basesOf q = if q = p ∧ p ∈ st.ids then g (st.basesOf p) else st.basesOf q := by
  unfold St.basesOf St.rebase
  rw [find_upd st p (fun s => { s with bases := g s.bases }) (fun _ => rfl)]
  by_cases hqp : q = p
  · subst hqp
    simp only [if_true, true_and]
    cases hf : st.find q with
    | none =>
      have := (find_none_iff st q).mp hf
      simp [this]
    | some s =>
      have : q ∈ st.ids := (find_isSome_iff st q).mp (by rw [hf]; rfl)
      simp [this]
  · simp [hqp]

theorem wf_rebase {st : St} (h : WF st) (p : Path) (g : List Path → List Path)
    (hg : ∀ b ∈ g (st.basesOf p), b ∈ st.ids)
    (hmro : ∀ q ∈ (st.rebase p g).ids, ((st.rebase p g).mro q).isSome = true) : WF (st.rebase p g) := by
  refine ⟨by rw [ids_rebase]; exact h.nodup, ?_, hmro, fun a q => by rw [cont_rebase]; exact h.keys a q,
    by rw [ids_rebase]; exact h.tree⟩
  intro q b hb
  rw [ids_rebase]
  rw [basesOf_rebase] at hb
  split at hb
  · exact hg b hb
  · exact h.bases q b hb

theorem tail_eq_off (st st' : St) (h : WF st) (p : Path) (hb : ∀ x, x ≠ p → st'.basesOf x = st.basesOf x)
    (hl : st.spaces.length ≤ st'.spaces.length) (q : Path) (hqi : q ∈ st.ids) (hq : q ∉ p :: st.subs p) :
    st'.tail q = st.tail q := by
  simp only [List.mem_cons, not_or] at hq
  have hpt : p ∉ st.tail q := not_mem_tail_of_not_sub p q hqi hq.1 hq.2
  refine tail_eq_of_mro_transfer st st' q (h.mro_all q) (fun x hx => hb x ?_) hl
  rintro rfl
  rcases List.mem_cons.mp hx with hx | hx
  · exact hq.1 hx.symm
  · exact hpt hx

theorem length_rebase (st : St) (p : Path) (g : List Path → List Path) :
    (st.rebase p g).spaces.length = st.spaces.length := length_upd st p _

theorem basesOf_rebase_off (st : St) (p : Path) (g : List Path → List Path) (x : Path) (hx : x ≠ p) :
    (st.rebase p g).basesOf x = st.basesOf x := by
  rw [basesOf_rebase]; simp [hx]

theorem inv_removeBases (st st' : St) (h : Inv st) (p : Path) (bs : List Path)
    (hop : st.removeBases p bs = some st') : Inv st' := by
  generalize hst1 : st.rebase p (fun l => l.filter (fun b => !bs.contains b)) = st1
  obtain ⟨_, hmro, rfl⟩ := removeBases_some hop st1 hst1.symm
  have hids : st1.ids = st.ids := by rw [← hst1]; exact ids_rebase st p _
  have hcont : ∀ a q, st1.cont a q = st.cont a q := by
    intro a q; rw [← hst1]; exact cont_rebase st p _ a q
  have hbsub : ∀ q, st1.basesOf q ⊆ st.basesOf q := by
    intro q b hb
    rw [← hst1, basesOf_rebase] at hb
    split at hb
    · rename_i hc; rw [hc.1]; exact (List.mem_filter.mp hb).1
    · exact hb
  have hwf1 : WF st1 := by
    rw [← hst1] at hmro ⊢
    exact wf_rebase h.wf p _ (fun b hb => h.wf.bases p b (List.mem_filter.mp hb).1) hmro
  have htail : ∀ q ∈ st1.ids, q ∉ p :: st.subs p → st1.tail q = st.tail q := by
    intro q hqi hq
    rw [hids] at hqi
    rw [← hst1]
    exact tail_eq_off st _ h.wf p (basesOf_rebase_off st p _) (Nat.le_of_eq (length_rebase st p _).symm) q hqi hq
  have R := rederived_updateAll st1 hwf1.keys (p :: st.subs p)
  refine ⟨hwf1.of_shape R.shape R.keys,
    good_rebase st st1 h hwf1 (fun a q _ => hcont a q) _ htail, ?_⟩
  -- names only disappear
  refine h.disj.mono
    (mem_isSome_of_shrunk st st1 h hwf1 hbsub (fun a q n _ => by rw [St.mem_eq, St.mem_eq, hcont]) _)
    (fun q n hn => by rwa [R.shape.childNames, childNames_eq, hids, ← childNames_eq] at hn)
    (fun n hn => by rw [R.shape.globals, ← hst1] at hn; exact hn)

theorem mem_allNames (st : St) (a : Attr) (l : List Path) (n : String) :
    n ∈ st.allNames a l ↔ ∃ b ∈ l, (st.mem a b n).isSome = true := by
  have hk : st.allNames a l = l.flatMap (fun b => keys (st.cont a b)) := by
    unfold St.allNames St.cont
    congr 1
    funext b
    cases st.find b <;> rfl
  simp only [hk, List.mem_flatMap, St.mem_eq, mget_isSome_iff]

theorem disjoint_iff (xs ys : List String) : disjoint xs ys = true ↔ ∀ x ∈ xs, x ∉ ys := by
  unfold disjoint
  simp only [List.all_eq_true, Bool.not_eq_true', List.contains_eq_mem, decide_eq_false_iff_not]

theorem names_in_allNames {st1 s2 : St} {D : Attr → Path → Prop} (R : Rederived st1 s2 D) (d : Path)
    (a : Attr) (n : String) (h : (s2.mem a d n).isSome = true) :
    n ∈ st1.allNames a (d :: st1.tail d) := by
  obtain ⟨b, hb, hbm⟩ := R.mem_source a d n h
  exact (mem_allNames st1 a _ n).mpr ⟨b, List.mem_cons.mpr hb, hbm⟩

theorem disj_of_noConflict {st1 s2 : St} {D : Attr → Path → Prop} (R : Rederived st1 s2 D) (d : Path)
    (childs : List String)
    (hnc : st1.noConflict (d :: st1.tail d) childs = true) :
    (∀ n, (s2.mem .cells d n).isSome = true → s2.mem .refs d n = none) ∧
    (∀ n ∈ childs, s2.mem .cells d n = none ∧ s2.mem .refs d n = none) := by
  unfold St.noConflict at hnc
  simp only [Bool.and_eq_true, disjoint_iff] at hnc
  obtain ⟨⟨h1, h2⟩, h3⟩ := hnc
  -- a name the re-derived space has is a name of its linearisation, and those passed the check
  refine ⟨fun n hc => Option.not_isSome_iff_eq_none.mp fun hr =>
      h1 n (names_in_allNames R d .cells n hc) (names_in_allNames R d .refs n hr),
    fun n hn => ⟨Option.not_isSome_iff_eq_none.mp fun hr => h2 n (names_in_allNames R d .cells n hr) hn,
      Option.not_isSome_iff_eq_none.mp fun hr => h3 n (names_in_allNames R d .refs n hr) hn⟩⟩

theorem mem_dedupLast (l : List Path) (x : Path) : x ∈ dedupLast l ↔ x ∈ l := by
  unfold dedupLast
  simp [List.mem_eraseDups]

theorem inv_addBases (st st' : St) (h : Inv st) (p : Path) (bs : List Path)
    (hop : st.addBases p bs = some st') : Inv st' := by
  generalize hst1 :
    st.rebase p (fun l => l.filter (fun b => !(dedupLast bs).contains b) ++ dedupLast bs) = st1
  obtain ⟨_, hbsall, hmro, hconf, rfl⟩ := addBases_some hop st1 hst1.symm
  have hids : st1.ids = st.ids := by rw [← hst1]; exact ids_rebase st p _
  have hcont : ∀ a q, st1.cont a q = st.cont a q := by
    intro a q; rw [← hst1]; exact cont_rebase st p _ a q
  have hwf1 : WF st1 := by
    rw [← hst1] at hmro ⊢
    refine wf_rebase h.wf p _ (fun b hb => ?_) hmro
    rcases List.mem_append.mp hb with hb | hb
    · exact h.wf.bases p b (List.mem_filter.mp hb).1
    · exact hbsall b ((mem_dedupLast bs b).mp hb)
  have htail : ∀ q ∈ st1.ids, q ∉ p :: st1.subs p → st1.tail q = st.tail q := by
    intro q hqi hq
    refine (tail_eq_off st1 st hwf1 p (fun x hx => ?_) ?_ q hqi hq).symm
    · rw [← hst1]; exact (basesOf_rebase_off st p _ x hx).symm
    · rw [← hst1]; exact Nat.le_of_eq (length_rebase st p _)
  have R := rederived_updateAll st1 hwf1.keys (p :: st1.subs p)
  refine ⟨hwf1.of_shape R.shape R.keys,
    good_rebase st st1 h hwf1 (fun a q _ => hcont a q) _ htail, ?_⟩
  have hchild : ∀ q, (st1.updateAll (p :: st1.subs p)).childNames q = st.childNames q := by
    intro q; rw [R.shape.childNames, childNames_eq, childNames_eq, hids]
  have hch1 : ∀ q, st1.childNames q = st.childNames q := by
    intro q; rw [childNames_eq, childNames_eq, hids]
  -- a re-derived space passed the conflict check; the others are as they were
  have hnew : ∀ q ∈ p :: st1.subs p, _ :=
    fun q hq => disj_of_noConflict R q (st1.childNames q) (hconf q hq _ (hwf1.mro_all q))
  have hold : ∀ a q n, q ∉ p :: st1.subs p →
      (st1.updateAll (p :: st1.subs p)).mem a q n = st.mem a q n := by
    intro a q n hq
    rw [St.mem_eq, R.other a q hq, hcont, ← St.mem_eq]
  refine ⟨?_, ?_, ?_⟩
  · intro q n hc
    by_cases hq : q ∈ p :: st1.subs p
    · exact (hnew q hq).1 n hc
    · rw [hold .cells q n hq] at hc
      rw [hold .refs q n hq]
      exact h.disj.cr q n hc
  · intro q n hn
    rw [hchild] at hn
    by_cases hq : q ∈ p :: st1.subs p
    · exact (hnew q hq).2 n (by rw [hch1]; exact hn)
    · rw [hold .cells q n hq, hold .refs q n hq]
      exact h.disj.child q n hn
  · intro n hn
    rw [R.shape.globals, ← hst1] at hn
    rw [hchild]
    exact h.disj.glob n hn

end MxModel.SM
