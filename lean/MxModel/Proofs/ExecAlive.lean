import MxModel.Proofs.ExecGraph
import MxModel.Proofs.Reach
/-!
# Only cells that exist get graph nodes

`AliveG env s`: every node of the trace graph – element node or object node – belongs to a cells
that exists (`env.alive`), and so does every frame of the call stack.  An evaluation preserves
it: `eval_node` is entered from a formula only for a cells whose name is bound (`evalNode` answers
the caller of a missing cells itself, without touching the state), so frames – and hence the
nodes and edges that `pop` / a cache hit add – are of existing cells only.  Consequences: a
deleted cells holds nothing and has no node (C13), and every recorded callee of a certificate
exists (used by the soundness theorem `cinv_sound`).  `RgHeld`, kept the same way: the reference
graph points at held elements only.
-/
namespace MxModel.Exec

structure AliveG (env : Env) (s : St) : Prop where
  nodes : ∀ x ∈ s.gn, env.alive x.cell = true
  stack : ∀ m ∈ s.stack, env.alive m.1 = true
  objs : ∀ c, GNode.obj c ∈ s.gn → env.cached c = false

variable {env : Env}

theorem AliveG.empty (env : Env) : AliveG env {} :=
  ⟨fun x hx => by simp at hx, fun m hm => by simp at hm, fun c hc => by simp at hc⟩

theorem AliveG.of_same {s s' : St} (h : AliveG env s) (hgn : s'.gn = s.gn) (hst : s'.stack = s.stack) :
    AliveG env s' :=
  ⟨fun x hx => h.nodes x (hgn ▸ hx), fun m hm => h.stack m (hst ▸ hm), fun c hc => h.objs c (hgn ▸ hc)⟩

def NodeOK (env : Env) (a : GNode) : Prop :=
  env.alive a.cell = true ∧ ∀ c, a = .obj c → env.cached c = false

theorem NodeOK.elem {n : Node} (h : env.alive n.1 = true) : NodeOK env (.elem n) :=
  ⟨h, fun _ hc => by cases hc⟩

theorem AliveG.addNode {s : St} (h : AliveG env s) (a : GNode) (ha : NodeOK env a) :
    AliveG env (s.addNode a) := by
  refine ⟨?_, by rw [(graphOnly_addNode s a).stack]; exact h.stack, ?_⟩
  · intro x hx
    rcases (mem_addNode_gn s a x).mp hx with hx | rfl
    · exact h.nodes x hx
    · exact ha.1
  · intro c hc
    rcases (mem_addNode_gn s a _).mp hc with hc | hc
    · exact h.objs c hc
    · exact ha.2 c hc.symm

theorem AliveG.addEdge {s : St} (h : AliveG env s) (a b : GNode) (ha : NodeOK env a)
    (hb : NodeOK env b) : AliveG env (s.addEdge a b) := by
  refine ⟨?_, by rw [(graphOnly_addEdge s a b).stack]; exact h.stack, ?_⟩
  · intro x hx
    rcases (mem_addEdge_gn s a b x).mp hx with hx | rfl | rfl
    · exact h.nodes x hx
    · exact ha.1
    · exact hb.1
  · intro c hc
    rcases (mem_addEdge_gn s a b _).mp hc with hc | hc | hc
    · exact h.objs c hc
    · exact ha.2 c hc.symm
    · exact hb.2 c hc.symm

theorem AliveG.hitEdge {s : St} (h : AliveG env s) (n : Node) (hn : env.alive n.1 = true) :
    AliveG env (s.hitEdge n) := by
  unfold St.hitEdge
  split
  · rename_i t ht
    exact h.addEdge _ _ (NodeOK.elem hn) (NodeOK.elem (h.stack t (edgeTarget_mem s t ht)))
  · exact h

theorem AliveG.dropFrame {s : St} (h : AliveG env s) : AliveG env s.dropFrame :=
  ⟨h.nodes, fun m hm => h.stack m (List.dropLast_subset _ hm), h.objs⟩

theorem AliveG.pop {s : St} (h : AliveG env s) (n : Node) (hn : env.alive n.1 = true) :
    AliveG env (s.pop env n) := by
  unfold St.pop
  have h1 := h.dropFrame
  have h2 : AliveG env (s.dropFrame.popEdge env n) := by
    unfold St.popEdge
    split
    · rename_i t ht
      refine h1.addEdge _ _ ?_ (NodeOK.elem (h1.stack t (edgeTarget_mem _ t ht)))
      split
      · exact NodeOK.elem hn
      · rename_i hc
        refine ⟨hn, fun c hcc => ?_⟩
        cases hcc
        simpa using hc
    · split
      · exact h1.addNode _ (NodeOK.elem hn)
      · exact h1
  have hd := drainSame env (s.dropFrame.popEdge env n) n
  exact h2.of_same hd.gn hd.stack

theorem AliveG.rollback {s : St} (h : AliveG env s) (n : Node) : AliveG env (s.rollback n) := by
  unfold St.rollback
  have hsub : ∀ x, x ∈ (({ s.dropFrame with rolledback := s.rolledback ++ [(n, s.curExc)] } : St).removeNode
      (.elem n)).gn → x ∈ s.gn := by
    intro x hx
    simp only [St.removeNode, St.dropFrame, List.mem_filter] at hx
    exact hx.1
  refine ⟨fun x hx => h.nodes x (hsub x hx), ?_, fun c hc => h.objs c (hsub _ hc)⟩
  intro m hm
  have : m ∈ s.stack.dropLast := by simpa [St.removeNode, St.dropFrame] using hm
  exact h.stack m (List.dropLast_subset _ this)

theorem AliveG.push {s : St} (h : AliveG env s) (n : Node) (hn : env.alive n.1 = true) :
    AliveG env (s.push env n) := by
  refine ⟨h.nodes, ?_, h.objs⟩
  intro m hm
  simp only [St.push, List.mem_append, List.mem_singleton] at hm
  rcases hm with hm | rfl
  · exact h.stack m hm
  · exact hn

/-- `Pre`: the evaluator proper is entered for cells that exist only -/
theorem alive_steps (env : Env) :
    EvalSteps env (fun n _ => env.alive n.1 = true) (fun s s' => AliveG env s → AliveG env s') where
  refl _ h := h
  trans h1 h2 h := h2 (h1 h)
  newExc _ h := h.of_same rfl rfl
  noteRead s a r h := by obtain ⟨_, e⟩ := noteRead_eq s a r; rw [e]; exact h.of_same rfl rfl
  hitEdge s n ha _ _ h := h.hitEdge n ha
  restore _ _ _ h := h.of_same rfl rfl
  hit _ h := h.of_same rfl rfl
  store _ _ _ h := h.of_same rfl rfl
  enter _ _ ha _ := ha
  rollback n s s1 ha hb h := (hb (h.push n ha)).rollback n
  pop n s s1 ha _ hb h := (hb (h.push n ha)).pop n ha
  finish _ _ _ h := h.of_same rfl rfl

theorem evalTop_alive (n : Node) (s : St) (hn : env.alive n.1 = true) (h : AliveG env s) :
    AliveG env (evalTop env n s).2 :=
  evalTop_rel (alive_steps env) n s (fun _ => hn) h

theorem AliveG.of_gn_sub {env' : Env} {s s' : St} (h : AliveG env s) (hgn : ∀ x ∈ s'.gn, x ∈ s.gn)
    (hst : s'.stack = s.stack) (hal : ∀ x ∈ s'.gn, env'.alive x.cell = env.alive x.cell)
    (hca : ∀ c, GNode.obj c ∈ s'.gn → env'.cached c = env.cached c)
    (hstack : s.stack = []) : AliveG env' s' :=
  ⟨fun x hx => (hal x hx).trans (h.nodes x (hgn x hx)),
   fun m hm => (by rw [hst, hstack] at hm; cases hm),
   fun c hc => (hca c hc).trans (h.objs c (hgn _ hc))⟩

/-! ### the reference graph points at held elements only

An edge `(r, n)` enters the reference graph when the frame of the cached element `n` is popped,
right after its value was stored; clearing an element removes the edges into it. -/

def RgHeld (s : St) : Prop := ∀ e ∈ s.rg, (lookup s.data e.2).isSome = true

theorem RgHeld.of_same {s s' : St} (h : RgHeld s) (hrg : s'.rg = s.rg) (hext : Ext s s') : RgHeld s' := by
  intro e he
  rw [hrg] at he
  cases hl : lookup s.data e.2 with
  | none => have := h e he; rw [hl] at this; cases this
  | some v => rw [hext e.2 v hl]; rfl

theorem RgHeld.rollback {s : St} (h : RgHeld s) (n : Node) : RgHeld (s.rollback n) :=
  h.of_same rfl (Ext.of_data rfl)

theorem mem_pop_rg (env : Env) (s : St) (n : Node) (e : RefId × Node) (he : e ∈ (s.pop env n).rg) :
    e ∈ s.rg ∨ (env.cached n.1 = true ∧ e.2 = n) := by
  have h1 : (s.dropFrame.popEdge env n).rg = s.rg := (graphOnly_popEdge env s.dropFrame n).rg
  unfold St.pop at he
  generalize s.dropFrame.popEdge env n = s1 at he h1
  unfold St.drainRefs at he
  split at he
  · rename_i hc
    simp only [List.mem_append, List.mem_filter] at he
    rcases he with he | ⟨he, _⟩
    · exact Or.inl (h1 ▸ he)
    · rw [mem_eraseDups, List.mem_map] at he
      obtain ⟨r, _, rfl⟩ := he
      exact Or.inr ⟨hc, rfl⟩
  · split at he <;> exact Or.inl (h1 ▸ he)

theorem RgHeld.pop {s : St} (h : RgHeld s) (n : Node)
    (hn : env.cached n.1 = true → (lookup s.data n).isSome = true) : RgHeld (s.pop env n) := by
  intro e he
  rw [(sameCache_pop env s n).data]
  rcases mem_pop_rg env s n e he with h1 | ⟨hc, h2⟩
  · exact h e h1
  · rw [h2]; exact hn hc

theorem rgHeld_steps (env : Env) : EvalSteps env (fun _ _ => True) (fun s s' => RgHeld s → RgHeld s') where
  refl _ h := h
  trans h1 h2 h := h2 (h1 h)
  newExc _ h := h.of_same rfl (Ext.of_data rfl)
  noteRead s a r h := by obtain ⟨_, e⟩ := noteRead_eq s a r; rw [e]; exact h.of_same rfl (Ext.of_data rfl)
  hitEdge s n _ _ _ h := h.of_same (graphOnly_hitEdge s n).rg (Ext.of_data (sameCache_hitEdge s n).data)
  restore _ _ _ h := h.of_same rfl (Ext.of_data rfl)
  hit _ h := h.of_same rfl (Ext.of_data rfl)
  store s n v h e he := by
    show (lookup (insert s.data n v) e.2).isSome = true
    rw [lookup_insert]; split
    · rfl
    · exact h e he
  enter _ _ _ _ := trivial
  rollback n s s1 _ hb h := (hb (h.of_same rfl (Ext.of_data rfl))).rollback n
  pop n s s1 _ hheld hb h := (hb (h.of_same rfl (Ext.of_data rfl))).pop n hheld
  finish _ _ _ h := h.of_same rfl (Ext.of_data rfl)

theorem evalTop_rgHeld (n : Node) (s : St) (h : RgHeld s) : RgHeld (evalTop env n s).2 :=
  evalTop_rel (rgHeld_steps env) n s (fun _ => trivial) h

end MxModel.Exec
