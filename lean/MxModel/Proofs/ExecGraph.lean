import MxModel.Proofs.ExecKeep
/-!
# The trace graph agrees with the cache, and is acyclic

Regime: *terminating* programs – environments whose call relation respects a strict order
`lt` (`Ranked`): every call a formula of `n` can make, on any path and whatever its callees
return, goes to an element below `n`.  (This is the formal counterpart of "formulas drawn
from a terminating expression grammar"; it needs no hypothesis about the depth limit.)

`runN_graph`: every evaluation – successful, failed, with handled failures inside –
preserves `GI`: element nodes of the graph are held or executing, held elements are in the
graph, executing elements hold no value, every edge goes from a lower to a higher element (or
from an uncached cells' object node to an element), user inputs have no predecessors.
-/
namespace MxModel.Exec

structure StrictOrder (lt : Node → Node → Prop) : Prop where
  irrefl : ∀ a, ¬ lt a a
  trans : ∀ a b c, lt a b → lt b c → lt a c

theorem StrictOrder.below_stack {lt : Node → Node → Prop} (ho : StrictOrder lt) {base : List Node} {n m : Node}
    (hbelow : ∀ a ∈ base, lt n a) (hm : lt m n) : ∀ a ∈ base ++ [n], lt m a := by
  intro a ha
  rcases List.mem_append.mp ha with ha | ha
  · exact ho.trans _ _ _ hm (hbelow a ha)
  · rw [List.mem_singleton.mp ha]; exact hm

def CallsBelow (lt : Node → Node → Prop) (n : Node) : Prog → Prop
  | .ret _ => True
  | .raise _ => True
  | .reraise _ => True
  | .read _ _ k => ∀ v, CallsBelow lt n (k v)
  | .call m k => lt m n ∧ ∀ r, CallsBelow lt n (k r)

def Ranked (env : Env) (lt : Node → Node → Prop) : Prop := ∀ n, CallsBelow lt n (env.formula n)

theorem mem_addNode_gn (s : St) (a x : GNode) : x ∈ (s.addNode a).gn ↔ x ∈ s.gn ∨ x = a := by
  unfold St.addNode
  split
  · rename_i h
    simp only [List.contains_eq_mem, decide_eq_true_eq] at h
    constructor
    · exact Or.inl
    · rintro (h1 | rfl); exact h1; exact h
  · simp

theorem addNode_ge (s : St) (a : GNode) : (s.addNode a).ge = s.ge := by
  unfold St.addNode; split <;> rfl

theorem mem_addEdge_gn (s : St) (a b x : GNode) :
    x ∈ (s.addEdge a b).gn ↔ x ∈ s.gn ∨ x = a ∨ x = b := by
  unfold St.addEdge
  simp only []
  split <;> simp [mem_addNode_gn, or_assoc]

theorem mem_addEdge_ge (s : St) (a b : GNode) (e : GNode × GNode) :
    e ∈ (s.addEdge a b).ge ↔ e ∈ s.ge ∨ e = (a, b) := by
  unfold St.addEdge
  simp only []
  split
  · rename_i h
    simp only [addNode_ge, List.contains_eq_mem, decide_eq_true_eq] at h ⊢
    constructor
    · exact Or.inl
    · rintro (h1 | rfl); exact h1; exact h
  · simp [addNode_ge]

theorem mem_removeNode_gn (s : St) (a x : GNode) : x ∈ (s.removeNode a).gn ↔ x ∈ s.gn ∧ x ≠ a := by
  simp [St.removeNode]

theorem mem_removeNode_ge (s : St) (a : GNode) (e : GNode × GNode) :
    e ∈ (s.removeNode a).ge ↔ e ∈ s.ge ∧ e.1 ≠ a ∧ e.2 ≠ a := by
  simp [St.removeNode]

theorem addNode_of_mem {s : St} {a : GNode} (h : a ∈ s.gn) : s.addNode a = s := by
  unfold St.addNode; simp [h]

theorem addEdge_addNode_left (s : St) (a b : GNode) : (s.addNode a).addEdge a b = s.addEdge a b := by
  unfold St.addEdge
  rw [addNode_of_mem ((mem_addNode_gn s a a).mpr (Or.inr rfl))]

theorem edgeTarget_mem (s : St) (t : Node) (h : s.edgeTarget = some t) : t ∈ s.stack := by
  unfold St.edgeTarget at h
  split at h
  · split at h
    · exact List.mem_of_getElem? h
    · cases h
  · cases h

theorem edgeTarget_same {s s' : St} (h1 : s'.stack = s.stack) (h2 : s'.idx = s.idx) :
    s'.edgeTarget = s.edgeTarget := by
  unfold St.edgeTarget; rw [h1, h2]

structure GI (env : Env) (lt : Node → Node → Prop) (s : St) : Prop where
  nodesHeld : ∀ m, GNode.elem m ∈ s.gn → (lookup s.data m).isSome ∨ m ∈ s.stack
  heldNodes : ∀ m, (lookup s.data m).isSome → GNode.elem m ∈ s.gn ∧ env.cached m.1 = true
  stackUnheld : ∀ m ∈ s.stack, lookup s.data m = none
  edgesOrd : ∀ a b, (a, b) ∈ s.ge →
    ∃ t, b = .elem t ∧ ((∃ m, a = .elem m ∧ lt m t) ∨ (∃ c, a = .obj c))
  edgeNodes : ∀ a b, (a, b) ∈ s.ge → a ∈ s.gn ∧ b ∈ s.gn
  inputsHeld : ∀ m ∈ s.inputs, (lookup s.data m).isSome
  inputsNoPreds : ∀ a m, (a, GNode.elem m) ∈ s.ge → m ∉ s.inputs
  elemCached : ∀ m, GNode.elem m ∈ s.gn → env.cached m.1 = true

theorem GI.empty (env : Env) (lt : Node → Node → Prop) : GI env lt {} :=
  ⟨fun _ h => (nomatch h), fun _ h => (nomatch h), fun _ h => (nomatch h), fun _ _ h => (nomatch h),
   fun _ _ h => (nomatch h), fun _ h => (nomatch h), fun _ _ h => (nomatch h), fun _ h => (nomatch h)⟩

variable {env : Env} {lt : Node → Node → Prop}

/-- fields the graph invariant reads -/
structure SameG (s s' : St) : Prop where
  data : s'.data = s.data
  inputs : s'.inputs = s.inputs
  gn : s'.gn = s.gn
  ge : s'.ge = s.ge
  stack : s'.stack = s.stack
  idx : s'.idx = s.idx

theorem GI.of_sameG {s s' : St} (h : SameG s s') (g : GI env lt s) : GI env lt s' := by
  constructor
  · intro m hm; rw [h.data, h.stack]; exact g.nodesHeld m (h.gn ▸ hm)
  · intro m hm; rw [h.gn]; exact g.heldNodes m (h.data ▸ hm)
  · intro m hm; rw [h.data]; exact g.stackUnheld m (h.stack ▸ hm)
  · intro a b hab; exact g.edgesOrd a b (h.ge ▸ hab)
  · intro a b hab; rw [h.gn]; exact g.edgeNodes a b (h.ge ▸ hab)
  · intro m hm; rw [h.data]; exact g.inputsHeld m (h.inputs ▸ hm)
  · intro a m ham; rw [h.inputs]; exact g.inputsNoPreds a m (h.ge ▸ ham)
  · intro m hm; exact g.elemCached m (h.gn ▸ hm)

theorem sameG_noteRead (s : St) (a : Bool) (r : RefId) : SameG s (s.noteRead a r) := by
  obtain ⟨_, h⟩ := noteRead_eq s a r
  rw [h]; exact ⟨rfl, rfl, rfl, rfl, rfl, rfl⟩

theorem DrainSame.sameG {s s' : St} (h : DrainSame s s') : SameG s s' :=
  ⟨h.data, h.inputs, h.gn, h.ge, h.stack, h.idx⟩

theorem GI.addEdge (g : GI env lt s) (a : GNode) (t : Node) (ht : t ∈ s.stack)
    (htc : env.cached t.1 = true)
    (ha : (∃ m, a = .elem m ∧ lt m t ∧ (lookup s.data m).isSome) ∨ (∃ c, a = .obj c)) :
    GI env lt (s.addEdge a (.elem t)) := by
  have hd := (sameCache_addEdge s a (.elem t)).data
  have hi := (sameCache_addEdge s a (.elem t)).inputs
  have hst := (graphOnly_addEdge s a (.elem t)).stack
  have hgn := mem_addEdge_gn s a (.elem t)
  have hge := mem_addEdge_ge s a (.elem t)
  generalize s.addEdge a (.elem t) = s' at hd hi hst hgn hge
  have htin : t ∉ s.inputs := fun hin => by
    have := g.inputsHeld t hin
    rw [g.stackUnheld t ht] at this
    cases this
  constructor
  · intro m hm
    rw [hd, hst]
    rcases (hgn _).mp hm with hm | hm | hm
    · exact g.nodesHeld m hm
    · rcases ha with ⟨m', rfl, _, hheld⟩ | ⟨c, rfl⟩
      · cases hm; exact Or.inl hheld
      · cases hm
    · cases hm; exact Or.inr ht
  · intro m hm
    rw [hd] at hm
    exact ⟨(hgn _).mpr (Or.inl (g.heldNodes m hm).1), (g.heldNodes m hm).2⟩
  · intro m hm; rw [hd]; rw [hst] at hm; exact g.stackUnheld m hm
  · intro x y hxy
    rcases (hge _).mp hxy with hxy | hxy
    · exact g.edgesOrd x y hxy
    · cases hxy
      refine ⟨t, rfl, ?_⟩
      rcases ha with ⟨m', rfl, hlt, _⟩ | ⟨c, rfl⟩
      · exact Or.inl ⟨m', rfl, hlt⟩
      · exact Or.inr ⟨c, rfl⟩
  · intro x y hxy
    rcases (hge _).mp hxy with hxy | hxy
    · exact ⟨(hgn _).mpr (Or.inl (g.edgeNodes x y hxy).1), (hgn _).mpr (Or.inl (g.edgeNodes x y hxy).2)⟩
    · cases hxy; exact ⟨(hgn _).mpr (Or.inr (Or.inl rfl)), (hgn _).mpr (Or.inr (Or.inr rfl))⟩
  · intro m hm; rw [hd]; rw [hi] at hm; exact g.inputsHeld m hm
  · intro x m hxm
    rw [hi]
    rcases (hge _).mp hxm with hxm | hxm
    · exact g.inputsNoPreds x m hxm
    · cases hxm; exact htin
  · intro m hm
    rcases (hgn _).mp hm with hm | hm | hm
    · exact g.elemCached m hm
    · rcases ha with ⟨m', rfl, _, hheld⟩ | ⟨c, rfl⟩
      · cases hm; exact (g.heldNodes _ hheld).2
      · cases hm
    · cases hm; exact htc

theorem GI.push (g : GI env lt s) (n : Node) (hn : lookup s.data n = none) : GI env lt (s.push env n) := by
  constructor
  · intro m hm
    rcases g.nodesHeld m hm with h | h
    · exact Or.inl h
    · exact Or.inr (by simp [St.push, h])
  · exact g.heldNodes
  · intro m hm
    simp only [St.push, List.mem_append, List.mem_singleton] at hm
    rcases hm with hm | rfl
    · exact g.stackUnheld m hm
    · exact hn
  · exact g.edgesOrd
  · exact g.edgeNodes
  · exact g.inputsHeld
  · exact g.inputsNoPreds
  · exact g.elemCached

theorem GI.complete {s : St} (g : GI env lt s) (base : List Node) (n : Node) (v : Val)
    (hstack : s.stack = base ++ [n]) (hc : env.cached n.1 = true) (hne : n ∉ base) :
    GI env lt (({ s with data := insert s.data n v } : St).dropFrame.addNode (.elem n)) := by
  have hsc := sameCache_addNode ({ s with data := insert s.data n v } : St).dropFrame (.elem n)
  have hlook : ∀ m, lookup (({ s with data := insert s.data n v } : St).dropFrame.addNode (.elem n)).data m =
      if n = m then some v else lookup s.data m := fun m => by rw [hsc.data]; exact lookup_insert _ _ _ _
  have hi : _ = s.inputs := hsc.inputs
  have hst : (({ s with data := insert s.data n v } : St).dropFrame.addNode (.elem n)).stack = base := by
    rw [(graphOnly_addNode _ _).stack]; show s.stack.dropLast = base; rw [hstack]; simp
  have hgn : ∀ x, x ∈ (({ s with data := insert s.data n v } : St).dropFrame.addNode (.elem n)).gn ↔
      x ∈ s.gn ∨ x = .elem n := mem_addNode_gn ({ s with data := insert s.data n v } : St).dropFrame (.elem n)
  have hge : _ = s.ge := addNode_ge ({ s with data := insert s.data n v } : St).dropFrame (.elem n)
  generalize ({ s with data := insert s.data n v } : St).dropFrame.addNode (.elem n) = s' at hlook hi hst hgn hge
  have hkeep : ∀ m, (lookup s.data m).isSome → (lookup s'.data m).isSome := fun m hm => by
    rw [hlook]; split
    · rfl
    · exact hm
  have hbase : ∀ m ∈ base, m ∈ s.stack := fun m hm => by rw [hstack]; simp [hm]
  constructor
  · intro m hm
    rw [hst]
    rcases (hgn _).mp hm with h | h
    · rcases g.nodesHeld m h with h' | h'
      · exact Or.inl (hkeep m h')
      · rw [hstack] at h'
        rcases List.mem_append.mp h' with h' | h'
        · exact Or.inr h'
        · rw [List.mem_singleton.mp h', hlook, if_pos rfl]; exact Or.inl rfl
    · cases h; rw [hlook, if_pos rfl]; exact Or.inl rfl
  · intro m hm
    rw [hlook] at hm
    split at hm
    · rename_i h; subst h; exact ⟨(hgn _).mpr (Or.inr rfl), hc⟩
    · exact ⟨(hgn _).mpr (Or.inl (g.heldNodes m hm).1), (g.heldNodes m hm).2⟩
  · intro m hm
    rw [hst] at hm
    rw [hlook, if_neg (fun h : n = m => hne (h ▸ hm))]
    exact g.stackUnheld m (hbase m hm)
  · intro a b hab; exact g.edgesOrd a b (hge ▸ hab)
  · intro a b hab
    rw [hge] at hab
    exact ⟨(hgn _).mpr (Or.inl (g.edgeNodes a b hab).1), (hgn _).mpr (Or.inl (g.edgeNodes a b hab).2)⟩
  · intro m hm; rw [hi] at hm; exact hkeep m (g.inputsHeld m hm)
  · intro a m ham; rw [hi]; exact g.inputsNoPreds a m (hge ▸ ham)
  · intro m hm
    rcases (hgn _).mp hm with h | h
    · exact g.elemCached m h
    · cases h; exact hc

/-- `hnode`: the element of an uncached cells has no node (`elemCached`) -/
theorem GI.dropTop {s : St} (g : GI env lt s) (base : List Node) (n : Node)
    (hstack : s.stack = base ++ [n]) (hnode : GNode.elem n ∉ s.gn) : GI env lt s.dropFrame := by
  have hst : s.dropFrame.stack = base := by show s.stack.dropLast = base; rw [hstack]; simp
  have hbase : ∀ m ∈ base, m ∈ s.stack := fun m hm => by rw [hstack]; simp [hm]
  refine ⟨fun m hm => ?_, g.heldNodes, fun m hm => g.stackUnheld m (hbase m (hst ▸ hm)), g.edgesOrd, g.edgeNodes,
    g.inputsHeld, g.inputsNoPreds, g.elemCached⟩
  rw [hst]
  rcases g.nodesHeld m hm with h | h
  · exact Or.inl h
  · rw [hstack] at h
    rcases List.mem_append.mp h with h | h
    · exact Or.inr h
    · rw [List.mem_singleton.mp h] at hm; exact absurd hm hnode

theorem GI.removeTop {s : St} (g : GI env lt s) (base : List Node) (n : Node)
    (hstack : s.stack = base ++ [n]) : GI env lt (s.dropFrame.removeNode (.elem n)) := by
  have hn : lookup s.data n = none := g.stackUnheld n (by rw [hstack]; simp)
  have hst : (s.dropFrame.removeNode (.elem n)).stack = base := by
    show s.stack.dropLast = base; rw [hstack]; simp
  have hbase : ∀ m ∈ base, m ∈ s.stack := fun m hm => by rw [hstack]; simp [hm]
  have hgn := mem_removeNode_gn s.dropFrame (.elem n)
  have hge := mem_removeNode_ge s.dropFrame (.elem n)
  constructor
  · intro m hm
    rw [hst]
    obtain ⟨h1, h2⟩ := (hgn _).mp hm
    rcases g.nodesHeld m h1 with h | h
    · exact Or.inl h
    · rw [hstack] at h
      rcases List.mem_append.mp h with h | h
      · exact Or.inr h
      · rw [List.mem_singleton.mp h] at h2; exact absurd rfl h2
  · intro m hm
    refine ⟨(hgn _).mpr ⟨(g.heldNodes m hm).1, fun h => ?_⟩, (g.heldNodes m hm).2⟩
    cases h
    rw [show lookup (s.dropFrame.removeNode (.elem n)).data n = lookup s.data n from rfl, hn] at hm
    cases hm
  · intro m hm; exact g.stackUnheld m (hbase m (hst ▸ hm))
  · intro a b hab; exact g.edgesOrd a b ((hge _).mp hab).1
  · intro a b hab
    obtain ⟨h1, h2, h3⟩ := (hge _).mp hab
    exact ⟨(hgn _).mpr ⟨(g.edgeNodes a b h1).1, h2⟩, (hgn _).mpr ⟨(g.edgeNodes a b h1).2, h3⟩⟩
  · exact g.inputsHeld
  · intro a m ham; exact g.inputsNoPreds a m ((hge _).mp ham).1
  · intro m hm; exact g.elemCached m ((hgn _).mp hm).1

theorem GI.popEdge_cached (ho : StrictOrder lt) {s : St} (g : GI env lt s) (base : List Node) (n : Node) (v : Val)
    (hstack : s.stack = base ++ [n]) (hc : env.cached n.1 = true) (hbelow : ∀ a ∈ base, lt n a)
    (hT : ∀ t, s.dropFrame.edgeTarget = some t → t ∈ base ∧ env.cached t.1 = true) :
    GI env lt (({ s with data := insert s.data n v } : St).dropFrame.popEdge env n) := by
  have g1 := g.complete base n v hstack hc (fun h => ho.irrefl n (hbelow n h))
  have hst : (({ s with data := insert s.data n v } : St).dropFrame.addNode (.elem n)).stack = base := by
    rw [(graphOnly_addNode _ _).stack]; show s.stack.dropLast = base; rw [hstack]; simp
  unfold St.popEdge
  rw [show ({ s with data := insert s.data n v } : St).dropFrame.edgeTarget = s.dropFrame.edgeTarget from rfl]
  cases ht : s.dropFrame.edgeTarget with
  | none => simp only [hc, if_true]; exact g1
  | some t =>
    simp only [hc, if_true]
    rw [← addEdge_addNode_left]
    refine g1.addEdge _ t (by rw [hst]; exact (hT t ht).1) (hT t ht).2 (Or.inl ⟨n, rfl, hbelow t (hT t ht).1, ?_⟩)
    rw [(sameCache_addNode _ _).data]
    show (lookup (insert s.data n v) n).isSome = true
    rw [lookup_insert, if_pos rfl]; rfl

theorem GI.popEdge_uncached {s : St} (g : GI env lt s) (base : List Node) (n : Node)
    (hstack : s.stack = base ++ [n]) (hc : env.cached n.1 = false)
    (hT : ∀ t, s.dropFrame.edgeTarget = some t → t ∈ base ∧ env.cached t.1 = true) :
    GI env lt (s.dropFrame.popEdge env n) := by
  have g1 := g.dropTop base n hstack (fun hn => by have := g.elemCached n hn; rw [hc] at this; cases this)
  have hst : s.dropFrame.stack = base := by show s.stack.dropLast = base; rw [hstack]; simp
  unfold St.popEdge
  cases ht : s.dropFrame.edgeTarget with
  | none => simp only [hc, Bool.false_eq_true, if_false]; exact g1
  | some t =>
    simp only [hc, Bool.false_eq_true, if_false]
    exact g1.addEdge _ t (by rw [hst]; exact (hT t ht).1) (hT t ht).2 (Or.inr ⟨n.1, rfl⟩)

/-! ### `idxstack`: the index of the nearest cached caller -/

def IdxOK (env : Env) (stack : List Node) (idx : List Int) : Prop :=
  ∀ j i, idx[j]? = some i → i ≥ 0 →
    i.toNat ≤ j ∧ j < stack.length ∧ ∃ t, stack[i.toNat]? = some t ∧ env.cached t.1 = true

theorem IdxOK.push {s : St} (h : IdxOK env s.stack s.idx) (hlen : s.idx.length = s.stack.length) (n : Node) :
    IdxOK env (s.push env n).stack (s.push env n).idx := by
  intro j k hjk hk
  simp only [St.push] at hjk ⊢
  have hlt : j < s.idx.length ∨ j = s.idx.length := by
    have := (List.getElem?_eq_some_iff.mp hjk).1
    rw [List.length_append, List.length_singleton] at this
    omega
  have old : ∀ j', s.idx[j']? = some k → j' ≤ j →
      k.toNat ≤ j ∧ j < (s.stack ++ [n]).length ∧
        ∃ t, (s.stack ++ [n])[k.toNat]? = some t ∧ env.cached t.1 = true := by
    intro j' hj' hle
    obtain ⟨h1, h2, t, h3, h4⟩ := h j' k hj' hk
    refine ⟨by omega, by rw [List.length_append, List.length_singleton]; omega, t, ?_, h4⟩
    rw [List.getElem?_append_left (by omega)]; exact h3
  rcases hlt with hlt | rfl
  · rw [List.getElem?_append_left hlt] at hjk
    exact old j hjk (Nat.le_refl j)
  · -- the new entry: the frame's own position if its cells is cached, else the caller's entry
    rw [List.getElem?_concat_length] at hjk
    by_cases hc : env.cached n.1 = true
    · rw [if_pos hc] at hjk
      cases hjk
      exact ⟨by simp [hlen], by simp [hlen], n, by simp, hc⟩
    · rw [if_neg hc] at hjk
      cases hlast : s.idx.getLast? with
      | none => rw [hlast] at hjk; cases hjk; exact absurd hk (by decide)
      | some i =>
        rw [hlast] at hjk
        cases hjk
        rw [List.getLast?_eq_getElem?] at hlast
        exact old _ hlast (Nat.sub_le _ _)

theorem edgeTarget_cached {s : St} (h : IdxOK env s.stack s.idx) (t : Node) (ht : s.edgeTarget = some t) :
    env.cached t.1 = true := by
  unfold St.edgeTarget at ht
  split at ht
  · rename_i i hlast
    split at ht
    · rename_i hi
      rw [List.getLast?_eq_getElem?] at hlast
      obtain ⟨_, _, t', h3, h4⟩ := h _ i hlast hi
      rw [h3] at ht; cases ht; exact h4
    · cases ht
  · cases ht

/-- what a call leaves of the caller's state `s`: the graph invariant, the caller's stack and its
indices, a cache that has only grown -/
def GPost (env : Env) (lt : Node → Node → Prop) (s s' : St) : Prop :=
  GI env lt s' ∧ s'.stack = s.stack ∧ s'.idx = s.idx ∧ Ext s s'

theorem keepExc_sameG (s0 : St) (p : Res × St) : SameG p.2 (keepExc s0 p).2 :=
  have h := keepExc_excOnly s0 p
  ⟨h.data, h.inputs, h.gn, h.ge, h.stack, h.idx⟩

theorem keepExc_graph (s0 s : St) (p : Res × St) (h : GPost env lt s p.2) :
    GPost env lt s (keepExc s0 p).2 :=
  have hg := keepExc_sameG s0 p
  ⟨GI.of_sameG hg h.1, hg.stack.trans h.2.1, hg.idx.trans h.2.2.1, h.2.2.2.trans (Ext.of_data hg.data)⟩

theorem GI.unheld_of {s : St} (g : GI env lt s) {m : Node}
    (hu : env.cached m.1 = true → lookup s.data m = none) : lookup s.data m = none := by
  cases hl : lookup s.data m with
  | none => rfl
  | some v => rw [hu (g.heldNodes m (by rw [hl]; rfl)).2] at hl; cases hl

/-- a relation that rides along in this regime: it holds across steps that leave the cache, the log
and the roll-back list alone, and composes along evaluations, which change no cache entry -/
structure Rides (L : St → St → Prop) : Prop where
  same : ∀ {s s'}, s'.log = s.log → s'.rolledback = s.rolledback → s'.data = s.data → L s s'
  trans : ∀ {a b c}, L a b → L b c → Ext a b → Ext b c → L a c

theorem rides_true : Rides (fun _ _ => True) := ⟨fun _ _ _ => trivial, fun _ _ _ _ => trivial⟩

/-- contract of an evaluator for an unheld element that is below everything on the stack, with a
riding relation (`fun _ _ => True` where none is wanted) -/
def EvalGL (env : Env) (lt : Node → Node → Prop) (L : St → St → Prop) (f : Node → St → Res × St) : Prop :=
  ∀ m s, GI env lt s → IdxOK env s.stack s.idx → s.idx.length = s.stack.length →
    (∀ a ∈ s.stack, lt m a) → lookup s.data m = none → GPost env lt s (f m s).2 ∧ L s (f m s).2

def CalleeGL (env : Env) (lt : Node → Node → Prop) (L : St → St → Prop) (f : Node → St → Res × St) : Prop :=
  ∀ m s, GI env lt s → IdxOK env s.stack s.idx → s.idx.length = s.stack.length →
    (∀ a ∈ s.stack, lt m a) → GPost env lt s (f m s).2 ∧ L s (f m s).2

variable {L : St → St → Prop}

theorem evalNode_graphL (hL : Rides L) (ef : Node → St → Res × St) (hef : EvalGL env lt L ef) :
    CalleeGL env lt L (evalNode env ef) := by
  intro m s g hidx hlen hbelow
  have hs := evalNode_step env ef m s
  generalize evalNode env ef m s = q at hs
  cases hs with
  | hit v _ _ hl =>
    have hgo := graphOnly_hitEdge s m
    refine ⟨⟨?_, hgo.stack, hgo.idx, Ext.of_data hgo.sameCache.data⟩,
      hL.same hgo.log hgo.rolledback hgo.sameCache.data⟩
    show GI env lt (s.hitEdge m)
    unfold St.hitEdge
    cases ht : s.edgeTarget with
    | none => exact g
    | some t =>
      have htm := edgeTarget_mem s t ht
      exact g.addEdge (.elem m) t htm (edgeTarget_cached hidx t ht)
        (Or.inl ⟨m, rfl, hbelow t htm, by rw [hl]; rfl⟩)
  | run _ hu =>
    obtain ⟨h1, h2⟩ := hef m s g hidx hlen hbelow (g.unheld_of hu)
    have ho := keepExc_excOnly s (ef m s)
    exact ⟨keepExc_graph s s _ h1,
      hL.trans h2 (hL.same ho.log ho.rolledback ho.data) h1.2.2.2 (Ext.of_data ho.data)⟩
  | dead _ =>
    exact ⟨⟨GI.of_sameG (s := s) (s' := s.newExc) ⟨rfl, rfl, rfl, rfl, rfl, rfl⟩ g, rfl, rfl, Ext.of_data rfl⟩,
      hL.same rfl rfl rfl⟩

theorem runBody_graphL (hL : Rides L) (ho : StrictOrder lt) (f : Node → St → Res × St) (hf : CalleeGL env lt L f)
    (base : List Node) (n : Node) (idx0 : List Int) (hbelow : ∀ a ∈ base, lt n a) :
    ∀ (p : Prog), CallsBelow lt n p → ∀ (s : St), GI env lt s → s.stack = base ++ [n] → s.idx = idx0 →
      IdxOK env (base ++ [n]) idx0 → idx0.length = (base ++ [n]).length →
      (GI env lt (runBody env f p s).2 ∧ (runBody env f p s).2.stack = base ++ [n] ∧
        (runBody env f p s).2.idx = idx0 ∧ Ext s (runBody env f p s).2) ∧ L s (runBody env f p s).2 := by
  intro p
  induction p with
  | ret v => intro _ s g hs hi _ _; exact ⟨⟨g, hs, hi, Ext.refl s⟩, hL.same rfl rfl rfl⟩
  | raise e =>
    intro _ s g hs hi _ _
    exact ⟨⟨GI.of_sameG (s := s) (s' := s.newExc) ⟨rfl, rfl, rfl, rfl, rfl, rfl⟩ g, hs, hi, Ext.of_data rfl⟩,
      hL.same rfl rfl rfl⟩
  | reraise e => intro _ s g hs hi _ _; exact ⟨⟨g, hs, hi, Ext.refl s⟩, hL.same rfl rfl rfl⟩
  | read a r k ih =>
    intro hcb s g hs hi hidx hlen
    simp only [CallsBelow] at hcb
    simp only [runBody]
    have hsg := sameG_noteRead s (a && (env.refs r).isSome) r
    have h0 : L s (s.noteRead (a && (env.refs r).isSome) r) := by
      obtain ⟨_, e⟩ := noteRead_eq s (a && (env.refs r).isSome) r
      rw [e]; exact hL.same rfl rfl rfl
    obtain ⟨⟨a1, a2, a3, a4⟩, a5⟩ := ih _ (hcb _) _ (GI.of_sameG hsg g) (hsg.stack.trans hs) (hsg.idx.trans hi) hidx hlen
    exact ⟨⟨a1, a2, a3, (Ext.of_data hsg.data).trans a4⟩, hL.trans h0 a5 (Ext.of_data hsg.data) a4⟩
  | call m k ih =>
    intro hcb s g hs hi hidx hlen
    simp only [CallsBelow] at hcb
    simp only [runBody]
    obtain ⟨⟨g', hs', hi', he'⟩, l'⟩ := hf m s g (by rw [hs, hi]; exact hidx) (by rw [hs, hi]; exact hlen)
      (hs ▸ ho.below_stack hbelow hcb.1)
    obtain ⟨⟨a1, a2, a3, a4⟩, a5⟩ := ih _ (hcb.2 _) _ g' (hs'.trans hs) (hi'.trans hi) hidx hlen
    exact ⟨⟨a1, a2, a3, he'.trans a4⟩, hL.trans l' a5 he' a4⟩

theorem runN_graph (ho : StrictOrder lt) (hr : Ranked env lt) :
    ∀ d, EvalGL env lt (fun _ _ => True) (runN env d) := by
  intro d
  induction d with
  | zero =>
    intro m s g _ _ _ _
    exact ⟨⟨GI.of_sameG (s := s) ⟨rfl, rfl, rfl, rfl, rfl, rfl⟩ g, rfl, rfl, Ext.of_data rfl⟩, trivial⟩
  | succ d ih =>
    intro n s g hidx hlen hbelow hnone
    refine ⟨?_, trivial⟩
    have hb := (runBody_graphL rides_true ho _ (evalNode_graphL rides_true _ ih) s.stack n (s.push env n).idx hbelow
      (env.formula n) (hr n) (s.push env n) (g.push n hnone) rfl rfl (IdxOK.push hidx hlen n)
      (by simp [St.push, hlen])).1
    have hcl := runN_succ env d n s
    generalize runBody _ _ _ _ = p at hb hcl
    generalize runN env (d + 1) n s = q at hcl
    -- whatever the frame ends with: the caller's stack is back, and the nearest cached caller is the caller's
    have hfin : ∀ s1 : St, s1.stack = s.stack ++ [n] → s1.idx = (s.push env n).idx →
        s1.stack.dropLast = s.stack ∧ s1.idx.dropLast = s.idx ∧
        ∀ t, s1.dropFrame.edgeTarget = some t → t ∈ s.stack ∧ env.cached t.1 = true := by
      intro s1 h1 h2
      have e1 : s1.stack.dropLast = s.stack := by rw [h1]; simp
      have e2 : s1.idx.dropLast = s.idx := by rw [h2]; simp [St.push]
      refine ⟨e1, e2, fun t ht => ?_⟩
      rw [edgeTarget_same (s := s) e1 e2] at ht
      exact ⟨edgeTarget_mem s t ht, edgeTarget_cached hidx t ht⟩
    have hroll : ∀ s1 : St, GI env lt s1 → s1.stack = s.stack ++ [n] → s1.idx = (s.push env n).idx → Ext s s1 →
        GPost env lt s (s1.rollback n) := fun s1 g1 h1 h2 hext =>
      ⟨GI.of_sameG (s := s1.dropFrame.removeNode (.elem n)) ⟨rfl, rfl, rfl, rfl, rfl, rfl⟩
        (g1.removeTop s.stack n h1), (hfin s1 h1 h2).1, (hfin s1 h1 h2).2.1, hext⟩
    cases hcl with
    | fail e s1 => exact hroll s1 hb.1 hb.2.1 hb.2.2.1 hb.2.2.2
    | noneRet s1 _ _ =>
      exact hroll s1.newExc (GI.of_sameG (s := s1) ⟨rfl, rfl, rfl, rfl, rfl, rfl⟩ hb.1) hb.2.1 hb.2.2.1 hb.2.2.2
    | stored v s1 hc _ =>
      obtain ⟨g1, hs1, hi1, hext⟩ := hb
      obtain ⟨e1, e2, hT⟩ := hfin s1 hs1 hi1
      have hds := drainSame env (({ s1 with data := insert s1.data n v } : St).dropFrame.popEdge env n) n
      have hgo := graphOnly_popEdge env ({ s1 with data := insert s1.data n v } : St).dropFrame n
      refine ⟨GI.of_sameG hds.sameG (g1.popEdge_cached ho s.stack n v hs1 hc hbelow hT),
        (hds.stack.trans hgo.stack).trans e1, (hds.idx.trans hgo.idx).trans e2, ?_⟩
      -- the stored element was executing, hence held nothing: no entry is overwritten
      exact hext.trans (Ext.of_insert (g1.stackUnheld n (by rw [hs1]; simp)) (sameCache_pop env _ n).data)
    | uncached v s1 hc =>
      obtain ⟨g1, hs1, hi1, hext⟩ := hb
      obtain ⟨e1, e2, hT⟩ := hfin s1 hs1 hi1
      have hds := drainSame env (s1.dropFrame.popEdge env n) n
      have hgo := graphOnly_popEdge env s1.dropFrame n
      exact ⟨GI.of_sameG hds.sameG (g1.popEdge_uncached s.stack n hs1 hc hT),
        (hds.stack.trans hgo.stack).trans e1, (hds.idx.trans hgo.idx).trans e2,
        hext.trans (Ext.of_data (sameCache_pop env s1 n).data)⟩

end MxModel.Exec
