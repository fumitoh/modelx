import MxModel.Proofs.ExecCert
import MxModel.Proofs.ExecSound
/-!
# Certificates imply soundness (T2)

`cinv_good`: in a state whose held computed elements all have certificates, every held value
is the uncached denotation under the current definitions and the current inputs – by strong
induction on the age (`rank`) of the entry; uncached callees are discharged by their recorded
sub-traces.
-/
namespace MxModel.Exec

variable (env : Env) (inp : Node → Option Val)

/-- what the soundness argument needs of an event: reads are current, cached callees have the
recorded value as their denotation within depth `D` -/
def EvDen (D : Nat) : FEv → Prop
  | .read _ _ r x => env.refs r = x
  | .call m w => env.alive m.1 = true ∧ denoteN env inp D m = (.ok w, false)
  | .ucall m => env.alive m.1 = true

/-- nesting depth of uncached frames -/
def nest : Tr → Nat
  | .nil => 0
  | .read _ _ _ t => nest t
  | .call _ _ t => nest t
  | .ucall _ _ sub t => max (nest sub + 1) (nest t)

theorem replay_den (D : Nat) : ∀ (tr : Tr) (c : CellId) (p : Prog) (v : Val), Replay env tr p v →
    (∀ ev ∈ flat c tr, EvDen env inp D ev) →
    ∀ d, D + nest tr ≤ d → denoteBody env (denoteN env inp d) p = (.ok v, false) := by
  intro tr
  induction tr with
  | nil =>
    intro c p v hr _ d _
    simp only [Replay] at hr
    subst hr; rfl
  | read a r x t ih =>
    intro c p v h hev d hd
    obtain ⟨k, rfl, hr⟩ := replay_read.mp h
    have hx : env.refs r = x := hev (.read c a r x) (by simp [flat])
    simp only [denoteBody, hx]
    exact ih c _ v hr (fun ev h => hev ev (by simp [flat, h])) d (by simpa [nest] using hd)
  | call m w t ih =>
    intro c p v h hev d hd
    obtain ⟨k, rfl, _, hr⟩ := replay_call.mp h
    obtain ⟨hal, hm⟩ : env.alive m.1 = true ∧ denoteN env inp D m = (.ok w, false) :=
      hev (.call m w) (by simp [flat])
    have hm' := denoteN_mono_le env inp (show D ≤ d by simp only [nest] at hd; omega) m _ hm
    have := ih c _ v hr (fun ev h => hev ev (by simp [flat, h])) d (by simpa [nest] using hd)
    simp only [denoteBody, calleeAt_alive _ hal, hm', this, Bool.or_false]
  | ucall m w sub t ihs iht =>
    intro c p v h hev d hd
    obtain ⟨k, rfl, hunc, hrs, hrt⟩ := replay_ucall.mp h
    simp only [nest] at hd
    obtain ⟨d', rfl⟩ : ∃ d', d = d' + 1 := ⟨d - 1, by omega⟩
    have hsub := ihs m.1 _ w hrs (fun ev h => hev ev (by simp [flat, h])) d' (by omega)
    have hm' : denoteN env inp (d' + 1) m = (.ok w, false) := by
      rw [denoteN]
      simp only [hunc, Bool.false_eq_true, if_false, hsub]
      cases w <;> simp [checkNone, hunc]
    have hal : env.alive m.1 = true := hev (.ucall m) (by simp [flat])
    have := iht c _ v hrt (fun ev h => hev ev (by simp [flat, h])) (d' + 1) (by omega)
    simp only [denoteBody, calleeAt_alive _ hal, hm', this, Bool.or_false]

theorem EvDen.mono {D D' : Nat} (hle : D ≤ D') : ∀ {ev : FEv}, EvDen env inp D ev → EvDen env inp D' ev
  | .read .., h => h
  | .call m _, h => ⟨h.1, denoteN_mono_le env inp hle m _ h.2⟩
  | .ucall _, h => h

/-- one depth serves all cached callees of a trace -/
theorem common_depth (L : List FEv) (h : ∀ ev ∈ L, ∃ D, EvDen env inp D ev) :
    ∃ D, ∀ ev ∈ L, EvDen env inp D ev := by
  induction L with
  | nil => exact ⟨0, by simp⟩
  | cons ev L ih =>
    obtain ⟨D, hD⟩ := ih (fun ev h' => h ev (by simp [h']))
    obtain ⟨D1, hD1⟩ := h ev (by simp)
    refine ⟨max D D1, fun ev' hm => ?_⟩
    rcases List.mem_cons.mp hm with rfl | hm
    · exact hD1.mono env inp (Nat.le_max_right D D1)
    · exact (hD ev' hm).mono env inp (Nat.le_max_left D D1)

theorem den_of_input (s : St) (n : Node) (v : Val) (hc : env.cached n.1 = true)
    (hin : n ∈ s.inputs) (hl : lookup s.data n = some v) : Den env (inpOf s) n (.ok v) := by
  refine ⟨1, ?_⟩
  rw [denoteN]
  simp [hc, inpOf, hin, hl]

/-- **T2**: certificates imply that every held value is the denotation -/
theorem cinv_sound (s : St) (hcached : ∀ m, (lookup s.data m).isSome → env.cached m.1 = true)
    (halive : ∀ a b, (a, b) ∈ s.ge → env.alive a.cell = true)
    (hinv : CInv env s) :
    ∀ (h : Nat) (n : Node) (v : Val), rank s.data n = h → lookup s.data n = some v →
      Den env (inpOf s) n (.ok v) := by
  intro h
  induction h using Nat.strongRecOn with
  | _ h ih =>
    intro n v hh hl
    have hc : env.cached n.1 = true := hcached n (by rw [hl]; rfl)
    by_cases hin : n ∈ s.inputs
    · exact den_of_input env s n v hc hin hl
    · obtain ⟨tr, hcert⟩ := hinv n v hl hin
      have hall : ∀ ev ∈ flat n.1 tr, ∃ D, EvDen env (inpOf s) D ev := by
        intro ev hm
        have hok := hcert.events ev hm
        cases ev with
        | read c a r x => exact ⟨0, hok.1⟩
        | call m w =>
          obtain ⟨hlm, hrk, hedge⟩ := hok
          obtain ⟨D, hD⟩ := ih (rank s.data m) (by omega) m w rfl hlm
          exact ⟨D, halive _ _ hedge, hD⟩
        | ucall m => exact ⟨0, halive _ _ hok⟩
      obtain ⟨D, hD⟩ := common_depth env (inpOf s) _ hall
      have hb := replay_den env (inpOf s) D tr n.1 _ v hcert.replay hD (D + nest tr) (Nat.le_refl _)
      refine ⟨D + nest tr + 1, ?_⟩
      rw [denoteN]
      have : (if env.cached n.1 = true then inpOf s n else none) = none := by
        simp [hc, inpOf, hin]
      rw [this]
      simp only [hb]
      cases v with
      | int i => simp [checkNone]
      | none => simp [checkNone, hc, hcert.noneOK rfl]

theorem cinv_good (s : St) (hcached : ∀ m, (lookup s.data m).isSome → env.cached m.1 = true)
    (halive : ∀ a b, (a, b) ∈ s.ge → env.alive a.cell = true)
    (hinv : CInv env s) : Good env (inpOf s) s := by
  constructor
  · intro n v _ hl; exact cinv_sound env s hcached halive hinv _ n v rfl hl
  · intro n v _ hi
    simp only [inpOf] at hi
    split at hi
    · exact hi
    · cases hi

end MxModel.Exec
