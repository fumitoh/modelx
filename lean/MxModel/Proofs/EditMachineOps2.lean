import MxModel.Proofs.EditMachineOps
/-!
# Coverage for the edits that re-derive whole spaces: `del_cells`, `del_ref`, `remove_bases`, `add_bases`, `new_space`

`update_subs` / `_update_derived_space` re-inherit EVERY derived member of every walked space
(`UserSpaceImpl.on_inherit`), so inside the walked spaces the clearing covers whatever changes;
what has to be shown is the frame: a space that is not walked keeps its member tables – its
linearisation runs through spaces whose direct bases did not change (`tail_eq_of_mro_transfer`) and
no definition changed – and the defined members of the walked spaces stay as they are, but for the
entries the operation redefines or removes itself and clears itself (`covers_update`, also behind
`rename_cells` and `del space` in `EditMachineOps3`).
-/
namespace MxModel.Edit
open MxModel.Exec MxModel.C02 MxModel.SM

variable (kw : List String) (t : Tabs)

theorem own_same {st st' : SM.St} (hi' : Inv st') {a : Attr} {q : Path} {n : String} {m : Member}
    (hm : st.mem a q n = some m) (hd : m.derived = false) (hdef : st'.defd a q n = st.defd a q n) :
    st'.mem a q n = some m := by
  have h1 : st.defd a q n = some m.payload := by
    unfold St.defd; rw [hm]; simp [hd]
  rw [hi'.mem_eq_derivation, hdef, h1]
  obtain ⟨d, pl⟩ := m
  simp only at hd
  subst hd
  rfl

theorem mem_cellsOf_iff {st : SM.St} {q : Path} {c : CellId} :
    c ∈ cellsOf t st q ↔ ∃ x, (st.mem .cells q x).isSome = true ∧ c = t.cid q x := by
  constructor
  · intro h
    obtain ⟨e, he, rfl⟩ := List.mem_map.mp h
    exact ⟨e.1, isSome_of_mem_keys st .cells q e.1 (List.mem_map_of_mem he), rfl⟩
  · rintro ⟨x, hx, rfl⟩
    exact mem_cellsOf t st q x hx

theorem mem_ids_of_mem_cellsOf {st : SM.St} {q : Path} {c : CellId} (h : c ∈ cellsOf t st q) : q ∈ st.ids := by
  obtain ⟨y, hy, _⟩ := (mem_cellsOf_iff t).mp h
  exact mem_ids_of_isSome st .cells q y hy

theorem mem_refsOf {st : SM.St} {q : Path} {x : String} (h : (st.mem .refs q x).isSome = true) :
    t.rid q x ∈ refsOf t st q := by
  have := mem_keys_of_isSome st .refs q x h
  simp only [List.mem_map] at this
  obtain ⟨e, he, hex⟩ := this
  simp only [refsOf, List.mem_map]
  exact ⟨e, he, by rw [hex]⟩

/-- `ds`: the re-derived spaces; `E`: the entries that the operation itself redefines or removes and clears by
other means (`hEc`, `hEr`, `hEn`); `hF`, `hD`: the frame -/
theorem covers_update {st st' : SM.St} (hi' : Inv st') (ds : List Path) (cl : List Clear)
    (E : Attr → Path → String → Prop)
    (hsub : ∀ k ∈ updateClears t st st' ds, k ∈ cl)
    (hEc : ∀ q x, E .cells q x → (st.mem .cells q x).isSome = true → clearedBy cl (t.cid q x) = true)
    (hEr : ∀ q x, E .refs q x → (st.mem .refs q x).isSome = true → Clear.attr (t.rid q x) ∈ cl)
    (hEn : ∀ a q x, E a q x → st'.mem a q x ≠ st.mem a q x → ∀ c ∈ cellsOf t st q, touchedBy cl c = true)
    (hF : ∀ a q n, q ∈ st.ids → q ∉ ds → ¬ E a q n → st'.mem a q n = st.mem a q n)
    (hD : ∀ a q n, q ∈ ds → ¬ E a q n → (st.mem a q n).isSome = true → st'.defd a q n = st.defd a q n)
    (hC : ∀ q, (¬ ∀ x, x ∈ st'.childNames q ↔ x ∈ st.childNames q) → ∀ c ∈ cellsOf t st q, touchedBy cl c = true)
    (hG : st'.globals = st.globals) :
    Covers t st st' cl := by
  have key : ∀ a q n, q ∈ st.ids → ¬ E a q n → st'.mem a q n ≠ st.mem a q n →
      q ∈ ds ∧ ∀ m, st.mem a q n = some m → m.derived = true := by
    intro a q n hq hE hne
    have hqd : q ∈ ds := Classical.byContradiction (fun hqd => hne (hF a q n hq hqd hE))
    refine ⟨hqd, fun m hm => ?_⟩
    cases hd : m.derived with
    | true => rfl
    | false => exact absurd (hm ▸ own_same hi' hm hd (hD a q n hqd hE (by rw [hm]; rfl))) hne
  have hns : ∀ a q n, q ∈ st.ids → st'.mem a q n ≠ st.mem a q n →
      ((st'.mem a q n).isSome ≠ (st.mem a q n).isSome ∨ a = .refs) → ∀ c ∈ cellsOf t st q, touchedBy cl c = true := by
    intro a q n hq hne hk c hc
    by_cases hE : E a q n
    · exact hEn a q n hE hne c hc
    obtain ⟨hqd, hder⟩ := key a q n hq hE hne
    refine touchedBy_of_ns (L := cellsOf t st q) (hsub _ ?_) hc
    by_cases hdiff : (st'.mem a q n).isSome = (st.mem a q n).isSome
    · obtain rfl := hk.resolve_left (fun h => h hdiff)
      cases hm : st.mem .refs q n with
      | some m => exact mem_updateClears_ns_refs t hqd (Or.inl ⟨m, hm, hder m hm⟩)
      | none =>
        rw [hm] at hdiff
        cases hm' : st'.mem .refs q n with
        | none => exact absurd (hm'.trans hm.symm) hne
        | some m' => rw [hm'] at hdiff; cases hdiff
    · cases a with
      | cells => exact mem_updateClears_ns_cells t hqd hdiff
      | refs => exact mem_updateClears_ns_refs t hqd (Or.inr hdiff)
  refine ⟨?_, ?_, ?_, ?_⟩
  · intro q x hm hne
    by_cases hch : ∀ y, y ∈ st'.childNames q ↔ y ∈ st.childNames q
    · obtain ⟨a', y, hdiff⟩ := nsAt_changed t q hch hG hne
      exact hns a' q y (mem_ids_of_isSome st .cells q x hm) (fun h => hdiff (by rw [h])) (Or.inl hdiff) _
        (mem_cellsOf t st q x hm)
    · exact hC q hch _ (mem_cellsOf t st q x hm)
  · intro q x hm hne
    by_cases hE : E .cells q x
    · exact hEc q x hE hm
    obtain ⟨hqd, hder⟩ := key .cells q x (mem_ids_of_isSome st .cells q x hm) hE hne
    obtain ⟨m, hmm⟩ := Option.isSome_iff_exists.mp hm
    exact clearedBy_of_obj (hsub _ (mem_updateClears_obj t hqd hmm (hder m hmm)))
  · intro q x hne c hc
    exact hns .refs q x (mem_ids_of_mem_cellsOf t hc) hne (Or.inr rfl) c hc
  · intro q x hne hs
    by_cases hE : E .refs q x
    · exact hEr q x hE hs
    obtain ⟨hqd, hder⟩ := key .refs q x (mem_ids_of_isSome st .refs q x hs) hE hne
    obtain ⟨m, hmm⟩ := Option.isSome_iff_exists.mp hs
    exact hsub _ (mem_updateClears_attr t hqd hmm (hder m hmm))

theorem lin_avoids {st : SM.St} (hi : Inv st) {p q b : Path} (hq : q ∉ p :: st.subs p) (hb : b ∈ q :: st.tail q) :
    b ∉ p :: st.subs p := by
  rcases List.mem_cons.mp hb with rfl | hb
  · exact hq
  · exact hi.wf.tail_avoids p q b hq hb

theorem frame_of_onlyAt {st st' : SM.St} {a : Attr} {p : Path} {name : String} (hi : Inv st) (hi' : Inv st')
    (hs : Shape st st') (ho : OnlyAt st st' a p name) (a' : Attr) (q : Path) (n : String)
    (hq : q ∉ p :: st.subs p) : st'.mem a' q n = st.mem a' q n := by
  exact mem_eq_of_tail hi hi' q (hs.tail q) a' n
    (fun b hb => ho a' b n (fun h => lin_avoids hi hq hb (h.1 ▸ List.mem_cons_self ..)))

theorem covers_delCells {st st' : SM.St} (hi : Inv st) (hi' : Inv st') (p : Path) (name : String)
    (hop : st.delMember .cells p name = some st') :
    Covers t st st' (clearing kw t st st' (.delCells p name)) := by
  obtain ⟨hs, hd⟩ := delMember_spec st st' (keysOK_of_inv hi) .cells p name hop
  have ho := onlyAt_of_undefines hd
  refine covers_update t hi' (p :: st.subs p) _ (fun a q x => q = p ∧ a = .cells ∧ x = name)
    (fun k hk => List.mem_cons_of_mem _ (List.mem_cons_of_mem _ hk)) ?_ (fun q x h => nomatch h.2.1) ?_
    (fun a q n _ hq _ => frame_of_onlyAt hi hi' hs ho a q n hq) (fun a q n _ hE _ => ho a q n hE)
    (fun q hch => absurd (fun x => by rw [hs.childNames q]) hch) hs.globals
  · rintro q x ⟨rfl, _, rfl⟩ _
    exact clearedBy_of_obj (List.mem_cons_self ..)
  · rintro a q x ⟨rfl, _, _⟩ _ c hc
    exact touchedBy_of_ns (List.mem_cons_of_mem _ (List.mem_cons_self ..)) hc

theorem covers_delRef {st st' : SM.St} (hi : Inv st) (hi' : Inv st') (p : Path) (name : String)
    (hop : st.delMember .refs p name = some st') :
    Covers t st st' (clearing kw t st st' (.delRef p name)) := by
  obtain ⟨hs, hd⟩ := delMember_spec st st' (keysOK_of_inv hi) .refs p name hop
  have ho := onlyAt_of_undefines hd
  refine covers_update t hi' (p :: st.subs p) _ (fun a q x => q = p ∧ a = .refs ∧ x = name)
    (fun k hk => List.mem_cons_of_mem _ (List.mem_cons_of_mem _ (List.mem_cons_of_mem _ hk)))
    (fun q x h => nomatch h.2.1) ?_ ?_
    (fun a q n _ hq _ => frame_of_onlyAt hi hi' hs ho a q n hq) (fun a q n _ hE _ => ho a q n hE)
    (fun q hch => absurd (fun x => by rw [hs.childNames q]) hch) hs.globals
  · rintro q x ⟨rfl, _, rfl⟩ _
    exact List.mem_cons_self ..
  · rintro a q x ⟨rfl, _, _⟩ _ c hc
    exact touchedBy_of_ns (List.mem_cons_of_mem _ (List.mem_cons_self ..)) hc

theorem length_of_ids_eq {st st' : SM.St} (h : st'.ids = st.ids) : st.spaces.length = st'.spaces.length := by
  have := congrArg List.length h
  simp only [St.ids, List.length_map] at this
  exact this.symm

theorem childNames_of_ids_eq {st st' : SM.St} (h : st'.ids = st.ids) (q : Path) :
    st'.childNames q = st.childNames q := by
  rw [childNames_eq, childNames_eq, h]

theorem covers_removeBases {st st' : SM.St} (hi : Inv st) (hi' : Inv st') (p : Path) (bs : List Path)
    (hop : st.removeBases p bs = some st') :
    Covers t st st' (clearing kw t st st' (.removeBases p bs)) := by
  have R := removeBases_spec st st' (keysOK_of_inv hi) p bs hop
  refine covers_update t hi' (p :: st.subs p) _ (fun _ _ _ => False) (fun k hk => hk) (fun _ _ h => h.elim)
    (fun _ _ h => h.elim) (fun _ _ _ h => h.elim) ?_ (fun a q n _ _ _ => R.defs a q n)
    (fun q hch => absurd (fun x => by rw [childNames_of_ids_eq R.ids q]) hch) R.globals
  intro a q n hq hqd _
  refine mem_eq_of_tail hi hi' q ?_ a n (fun b _ => R.defs a b n)
  refine tail_eq_of_mro_transfer st st' q (hi.wf.mro_all q) ?_ (Nat.le_of_eq (length_of_ids_eq R.ids))
  intro x hx
  rw [R.basesOf x, if_neg (fun (e : x = p) => lin_avoids hi hqd hx (e ▸ List.mem_cons_self ..))]

theorem covers_addBases {st st' : SM.St} (hi : Inv st) (hi' : Inv st') (p : Path) (bs : List Path)
    (hop : st.addBases p bs = some st') :
    Covers t st st' (clearing kw t st st' (.addBases p bs)) := by
  have R := addBases_spec st st' (keysOK_of_inv hi) p bs hop
  refine covers_update t hi' (p :: st'.subs p) _ (fun _ _ _ => False) (fun k hk => hk) (fun _ _ h => h.elim)
    (fun _ _ h => h.elim) (fun _ _ _ h => h.elim) ?_ (fun a q n _ _ _ => R.defs a q n)
    (fun q hch => absurd (fun x => by rw [childNames_of_ids_eq R.ids q]) hch) R.globals
  intro a q n hq hqd _
  have htail : st.tail q = st'.tail q := by
    refine tail_eq_of_mro_transfer st' st q (hi'.wf.mro_all q) ?_ (Nat.le_of_eq (length_of_ids_eq R.ids).symm)
    intro x hx
    rw [R.basesOf x, if_neg (fun (e : x = p) => lin_avoids hi' hqd hx (e ▸ List.mem_cons_self ..))]
  exact mem_eq_of_tail hi hi' q htail.symm a n (fun b _ => R.defs a b n)

theorem newSpace_frame {st st' : SM.St} (hi : Inv st) (hi' : Inv st') (parent : Path) (name : String)
    (bases : List Path) (refs : List (String × Nat))
    (hop : st.newSpaceRefs kw parent name bases refs = some st') (q : Path) (hq : q ∈ st.ids) (a : Attr) (n : String) :
    st'.mem a q n = st.mem a q n := by
  obtain ⟨hfresh, hids, _, hbases, hdefs⟩ :=
    newSpaceRefs_spec kw st st' (keysOK_of_inv hi) parent name bases refs hop
  have hold : ∀ x, x ∈ st.ids → x ≠ parent ++ [name] := fun x hx e => hfresh (e ▸ hx)
  have hlen : st.spaces.length ≤ st'.spaces.length := by
    have := congrArg List.length hids
    simp only [St.ids, List.length_map, List.length_append, List.length_singleton] at this
    omega
  have hmem : ∀ x ∈ q :: st.tail q, x ∈ st.ids := by
    intro x hx
    simp only [List.mem_cons] at hx
    rcases hx with rfl | hx
    · exact hq
    · exact hi.wf.tail_mem_ids q x hx
  refine mem_eq_of_tail hi hi' q ?_ a n ?_
  · refine tail_eq_of_mro_transfer st st' q (hi.wf.mro_all q) ?_ hlen
    intro x hx
    rw [hbases x, if_neg (hold x (hmem x hx))]
  · intro b hb
    rw [hdefs a b n, if_neg (fun h => hold b (hmem b hb) h.1)]

/-- `new_space` (with bases and constructor references) -/
theorem covers_newSpace {st st' : SM.St} (hi : Inv st) (hi' : Inv st') (parent : Path) (name : String)
    (bases : List Path) (refs : List (String × Nat))
    (hop : st.newSpaceRefs kw parent name bases refs = some st') :
    Covers t st st' (clearing kw t st st' (.newSpace parent name bases refs)) := by
  obtain ⟨_, hids, hglob, _, _⟩ := newSpaceRefs_spec kw st st' (keysOK_of_inv hi) parent name bases refs hop
  refine covers_update t hi' [] _ (fun _ _ _ => False) (fun k hk => by simp [updateClears] at hk)
    (fun _ _ h => h.elim) (fun _ _ h => h.elim) (fun _ _ _ h => h.elim)
    (fun a q n hq _ _ => newSpace_frame kw hi hi' parent name bases refs hop q hq a n) (fun a q n hq => nomatch hq) ?_ hglob
  intro q hch c hc
  refine touchedBy_of_ns (L := cellsOf t st q) ?_ hc
  -- only the parent gets a child name
  have hq : q = parent := by
    apply Classical.byContradiction
    intro hne
    apply hch
    intro x
    rw [childNames_eq, childNames_eq, hids, List.filterMap_append]
    have : (parent ++ [name]).dropLast = parent := by simp
    simp [this, Ne.symm hne]
  subst hq
  simp [clearing]

end MxModel.Edit
