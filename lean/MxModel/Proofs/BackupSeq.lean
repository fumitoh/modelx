import MxModel.Proofs.Backup
/-! Sequences of saves with faults (C14): where the most recent complete copy is. -/
namespace MxModel.Backup

theorem isGood_iff (s : Slot) : s.isGood = true ↔ ∃ c g, s = .good c g := by
  cases s <;> simp [Slot.isGood]

/-- What is left of `LatestAtFront` when generations are forgotten. A save that starts from a whole path
keeps it without any assumption on their order; `Ordered` gives `LatestAtFront` back. -/
private def Front (fs : FS) : Prop :=
  (∃ j, (fs j).isGood = true) → (fs 0).isGood = true ∨ (fs 1).isGood = true

private theorem front_of_latest {fs : FS} (h : LatestAtFront fs) : Front fs := by
  intro ⟨j, hj⟩
  obtain ⟨c, g, hg⟩ := (isGood_iff _).mp hj
  obtain ⟨i, hi, c', g', hi', _⟩ := h j c g hg
  rcases Nat.le_one_iff_eq_zero_or_eq_one.mp hi with rfl | rfl
  · left; rw [hi']; rfl
  · right; rw [hi']; rfl

private theorem latest_of_front {fs : FS} (hf : Front fs) (ho : Ordered fs) : LatestAtFront fs := by
  intro j c g hj
  by_cases hj1 : j ≤ 1
  · exact ⟨j, hj1, c, g, hj, Nat.le_refl g⟩
  · -- a complete copy in slot `i ≤ 1` is newer than the one in slot `j ≥ 2`
    have hnewer : ∀ i, i ≤ 1 → (fs i).isGood = true →
        ∃ i, i ≤ 1 ∧ ∃ c' g', fs i = .good c' g' ∧ g ≤ g' := by
      intro i hi hgood
      obtain ⟨c', g', h'⟩ := (isGood_iff _).mp hgood
      exact ⟨i, hi, c', g', h', Nat.le_of_lt (ho i j g' g
        (Nat.lt_of_le_of_lt hi (Nat.lt_of_not_le hj1)) (by rw [h']; rfl) (by rw [hj]; rfl))⟩
    rcases hf ⟨j, by rw [hj]; rfl⟩ with h0 | h1
    · exact hnewer 0 (Nat.zero_le 1) h0
    · exact hnewer 1 (Nat.le_refl 1) h1

theorem latestAtFront_of_path {fs : FS} (h0 : (fs 0).isGood = true) (ho : Ordered fs) :
    LatestAtFront fs :=
  latest_of_front (fun _ => .inl h0) ho

private theorem save_front (maxB : Nat) (h1 : 1 ≤ maxB) (sv : Save) (k : Nat) (fs : FS)
    (hf : Front fs) (hp : (fs 0).isPart = false) : Front (save maxB sv k fs).1 := by
  cases h0 : fs 0 with
  | good c g =>
    intro _
    rcases save_moves_one maxB sv k fs 0 (.good c g) (by intro h; cases h) h1 h0 with h | h
    · left; rw [h]; rfl
    · right; rw [h]; rfl
  | part c g => rw [h0] at hp; cases hp
  | absent =>
    intro ⟨j, hj⟩
    by_cases hj0 : j = 0
    · subst hj0; exact .inl hj
    · have hother : ∀ j, j ≠ 0 → (save maxB sv k fs).1 j = fs j :=
        fun j hj => save_other_of_absent maxB sv k fs h0 j hj
      rw [hother j hj0] at hj
      rcases hf ⟨j, hj⟩ with hf0 | hf1
      · rw [h0] at hf0; cases hf0
      · right; rw [hother 1 Nat.one_ne_zero]; exact hf1

private theorem runHist_front (maxB : Nat) (h1 : 1 ≤ maxB) : ∀ (h : List (Save × Nat)) (fs : FS),
    Front fs → startsWhole maxB fs h = true → Front (runHist maxB fs h) := by
  intro h
  induction h with
  | nil => intro fs hf _; exact hf
  | cons e rest ih =>
    intro fs hf hs
    obtain ⟨sv, k⟩ := e
    simp only [startsWhole, Bool.and_eq_true, Bool.not_eq_true'] at hs
    exact ih _ (save_front maxB h1 sv k fs hf hs.1) hs.2

theorem runHist_latestAtFront (maxB : Nat) (h1 : 1 ≤ maxB) (h : List (Save × Nat)) (fs : FS)
    (hl : LatestAtFront fs) (hs : startsWhole maxB fs h = true) (ho : Ordered (runHist maxB fs h)) :
    LatestAtFront (runHist maxB fs h) :=
  latest_of_front (runHist_front maxB h1 h fs (front_of_latest hl) hs) ho

theorem runHist_ordered (maxB : Nat) : ∀ (h : List (Save × Nat)) (g0 : Nat) (fs : FS),
    Ordered fs → Below g0 fs → GensIncrease g0 h → Ordered (runHist maxB fs h) := by
  intro h
  induction h with
  | nil => intro g0 fs ho _ _; exact ho
  | cons e rest ih =>
    intro g0 fs ho hb hg
    obtain ⟨sv, k⟩ := e
    have := save_ordered maxB sv k fs ho (fun i a ha => Nat.lt_of_lt_of_le (hb i a ha) hg.1)
    exact ih (sv.g + 1) _ this.1 this.2 hg.2

theorem runHist_noPartialZip (maxB : Nat) : ∀ (h : List (Save × Nat)) (fs : FS),
    NoPartialZip fs → noTruncation maxB fs h = true → NoPartialZip (runHist maxB fs h) := by
  intro h
  induction h with
  | nil => intro fs hf _; exact hf
  | cons e rest ih =>
    intro fs hf hn
    obtain ⟨sv, k⟩ := e
    simp only [noTruncation, Bool.and_eq_true, decide_eq_true_eq] at hn
    exact ih _ (save_noPartialZip maxB sv k fs hn.1 hf) hn.2

theorem runHist_copy_survives (maxB : Nat) (s : Slot) (hs : s ≠ .absent) :
    ∀ (h : List (Save × Nat)) (fs : FS) (i : Nat), fs i = s → i + h.length ≤ maxB →
      ∃ j, i ≤ j ∧ j ≤ i + h.length ∧ (runHist maxB fs h) j = s := by
  intro h
  induction h with
  | nil => intro fs i hi _; exact ⟨i, Nat.le_refl _, Nat.le_refl _, hi⟩
  | cons e rest ih =>
    intro fs i hi hlen
    obtain ⟨sv, k⟩ := e
    have hlen' : i + rest.length < maxB := hlen
    rcases save_moves_one maxB sv k fs i s hs
      (Nat.lt_of_le_of_lt (Nat.le_add_right i rest.length) hlen') hi with h' | h'
    · obtain ⟨j, h1, h2, h3⟩ := ih _ i h' (Nat.le_of_lt hlen')
      exact ⟨j, h1, Nat.le_succ_of_le h2, h3⟩
    · obtain ⟨j, h1, h2, h3⟩ :=
        ih _ (i + 1) h' (Nat.le_trans (Nat.le_of_eq (Nat.succ_add i rest.length)) hlen')
      exact ⟨j, Nat.le_of_succ_le h1, Nat.le_trans h2 (Nat.le_of_eq (Nat.succ_add i rest.length)), h3⟩

end MxModel.Backup
