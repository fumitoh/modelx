import MxModel.Edit.MachineRename
import MxModel.Proofs.EditMachineGlobalsRun
import MxModel.Proofs.StructMechRenameSpace
/-!
# `space.rename(new)` in the combined machine: the definitions are invariant, the clearing keeps `CI`

`envOf_relabel`: under an injective relabelling of paths that the structure and the tables both follow,
with the plain namespaces kept, the definitions the executor sees are literally the same (`Env` equality).
`envOf_renameSpace`: an accepted rename is such a relabelling (`SM.renameSpace_ok`, `Disj.child`,
`canAdd_space_free`).  Hence `stepR_cig`: the rename keeps the invariant; `runR_sim`: live = edits only;
`admissibleR_of_sources`, `admissibleR_of_attr_sources`: the regime along every history, from the sources.
-/
namespace MxModel.Edit
open MxModel.Exec MxModel.C02 MxModel.SM

theorem swapAt_eq (parent : Path) (a b : String) (q : Path) : Edit.swapAt parent a b q = SM.swapAt parent a b q := by
  unfold Edit.swapAt SM.swapAt
  have : ∀ d : Path, Edit.swapHead a b d = SM.swapHead a b d := by
    intro d; cases d <;> rfl
  rw [this]

theorem idxOf_map_inj {α β : Type} [BEq α] [LawfulBEq α] [BEq β] [LawfulBEq β] (f : α → β)
    (hf : ∀ x y, f x = f y → x = y) (a : α) : ∀ l : List α, (l.map f).idxOf (f a) = l.idxOf a := by
  intro l
  induction l with
  | nil => rfl
  | cons b l ih =>
    simp only [List.map_cons, List.idxOf_cons]
    by_cases h : b = a
    · subst h; simp
    · have h1 : (b == a) = false := by simpa using h
      have h2 : (f b == f a) = false := by
        simp only [beq_eq_false_iff_ne, ne_eq]
        exact fun e => h (hf _ _ e)
      rw [h1, h2, ih]

theorem env_ext (e1 e2 : Env) (h1 : e1.formula = e2.formula) (h2 : e1.cached = e2.cached)
    (h3 : e1.allowNone = e2.allowNone) (h4 : e1.refs = e2.refs) (h5 : e1.maxdepth = e2.maxdepth)
    (h6 : e1.observers = e2.observers) (h7 : e1.alive = e2.alive) (h8 : e1.siblings = e2.siblings) : e1 = e2 := by
  cases e1; cases e2; congr

section tabs
variable (ρ : Path → Path) (hρ : ∀ x y, ρ x = ρ y → x = y)
include hρ

theorem pair_inj : ∀ x y : Path × String, (ρ x.1, x.2) = (ρ y.1, y.2) → x = y := by
  intro x y h
  simp only [Prod.mk.injEq] at h
  exact Prod.ext (hρ _ _ h.1) h.2

theorem cid_mapPaths (t : Tabs) (q : Path) (x : String) : (t.mapPaths ρ).cid (ρ q) x = t.cid q x := by
  unfold Tabs.cid Tabs.mapPaths mapFst
  exact idxOf_map_inj (fun e : Path × String => (ρ e.1, e.2)) (pair_inj ρ hρ) (q, x) t.ctab

theorem rid_mapPaths (t : Tabs) (q : Path) (x : String) : (t.mapPaths ρ).rid (ρ q) x = t.rid q x := by
  unfold Tabs.rid Tabs.mapPaths mapFst
  exact idxOf_map_inj (fun e : Path × String => (ρ e.1, e.2)) (pair_inj ρ hρ) (q, x) t.rtab

omit hρ in
theorem cellOf_mapPaths (t : Tabs) (c : CellId) :
    (t.mapPaths ρ).cellOf c = (t.cellOf c).map (fun e => (ρ e.1, e.2)) := by
  unfold Tabs.cellOf Tabs.mapPaths mapFst
  simp

omit hρ in
theorem refOf_mapPaths (t : Tabs) (r : RefId) :
    (t.mapPaths ρ).refOf r = (t.refOf r).map (fun e => (ρ e.1, e.2)) := by
  unfold Tabs.refOf Tabs.mapPaths mapFst
  simp

end tabs

/-- `st'` is `st` with every path relabelled by the injective `ρ`, as far as the value layer looks -/
structure Relab (ρ : Path → Path) (t : Tabs) (st st' : SM.St) : Prop where
  inj : ∀ x y, ρ x = ρ y → x = y
  conts : ∀ a q, conts st' a (ρ q) = conts st a q
  glob : st'.globals = st.globals
  has : ∀ q, st'.has (ρ q) = st.has q
  plain : ∀ q x, nsPlain (t.mapPaths ρ) st' (ρ q) x = nsPlain t st q x

section relab
variable {ρ : Path → Path} {t : Tabs} {st st' : SM.St} (h : Relab ρ t st st')
include h

theorem Relab.mem (a : Attr) (q : Path) (n : String) : st'.mem a (ρ q) n = st.mem a q n := by
  rw [mem_conts, mem_conts, h.conts]

theorem Relab.cellInfo (c : CellId) :
    cellInfo (t.mapPaths ρ) st' c = (cellInfo t st c).map (fun i => (ρ i.1, i.2.1, i.2.2)) := by
  unfold Edit.cellInfo
  rw [cellOf_mapPaths]
  cases hd : t.cellOf c with
  | none => rfl
  | some e =>
    obtain ⟨q, x⟩ := e
    simp only [Option.map_some, cid_mapPaths ρ h.inj, h.mem]
    split
    · cases st.mem .cells q x <;> rfl
    · rfl

theorem Relab.beq (a b : Path) : (ρ a == ρ b) = (a == b) := by
  by_cases hab : a = b
  · subst hab; simp
  · rw [beq_eq_false_iff_ne.mpr hab, beq_eq_false_iff_ne.mpr (fun e => hab (h.inj _ _ e))]

theorem Relab.spellOf (e : Path × String) (he : e ∈ t.slots) :
    spellOf (t.mapPaths ρ).spell (ρ e.1) = Edit.spellOf t.spell e.1 := by
  -- the entry found for `ρ e.1` is the image of the entry found for `e.1`
  obtain ⟨e0, h0⟩ := Option.isSome_iff_exists.mp
    (List.find?_isSome (p := fun a => a.1 == e.1) |>.mpr ⟨e, he, beq_self_eq_true e.1⟩)
  have h1 : e0.1 = e.1 := by simpa using List.find?_some h0
  show (match (t.slots.map (fun e => (ρ e.1, Edit.spellOf t.spell e.1))).find? (fun a => a.1 == ρ e.1) with
    | some e => e.2 | none => ρ e.1) = _
  rw [List.find?_map, find?_congr' _ _ _ (fun a _ => h.beq a.1 e.1), h0, ← h1]
  rfl

theorem Relab.qualOf (q : Path) (x : String) :
    qualOf (t.mapPaths ρ) (ρ q) x = (qualOf t q x).map (fun e => (ρ e.1, e.2)) := by
  unfold Edit.qualOf
  show (mapFst ρ t.slots).find? _ = _
  unfold mapFst
  rw [List.find?_map]
  congr 1
  apply find?_congr'
  intro e he
  simp only [Function.comp, spelled]
  rw [h.spellOf e he, h.beq]

theorem Relab.nsAt (q : Path) : nsAt (t.mapPaths ρ) st' (ρ q) = nsAt t st q := by
  funext x
  unfold Edit.nsAt
  rw [h.qualOf]
  cases hq : Edit.qualOf t q x with
  | none => exact h.plain q x
  | some e =>
    simp only [Option.map_some, slotBinding]
    rw [rid_mapPaths ρ h.inj t e.1 e.2]

theorem Relab.refPay (q : Path) (x : String) : refPay (t.mapPaths ρ) st' (ρ q) x = refPay t st q x := by
  unfold Edit.refPay
  rw [h.mem, h.mem, h.has]
  have : gpay (t.mapPaths ρ) st' x = gpay t st x := by
    unfold gpay; rw [h.glob]; rfl
  rw [this]

theorem Relab.cellsOf (q : Path) : cellsOf (t.mapPaths ρ) st' (ρ q) = cellsOf t st q := by
  unfold Edit.cellsOf
  rw [h.conts]
  apply List.map_congr_left
  intro e _
  exact cid_mapPaths ρ h.inj t q e.1

theorem envOf_relabel (P : Params) : envOf P (t.mapPaths ρ) st' = envOf P t st := by
  apply env_ext
  · funext n
    rw [envOf_formula, envOf_formula, h.cellInfo]
    cases Edit.cellInfo t st n.1 with
    | none => rfl
    | some i => obtain ⟨q, x, m⟩ := i; simp only [Option.map_some, h.nsAt]
  · funext c; rw [envOf_cached, envOf_cached, h.cellInfo]; cases Edit.cellInfo t st c <;> rfl
  · funext c; rw [envOf_allowNone, envOf_allowNone, h.cellInfo]; cases Edit.cellInfo t st c <;> rfl
  · funext r
    rw [envOf_refs, envOf_refs, refOf_mapPaths]
    cases t.refOf r with
    | none => rfl
    | some e => simp only [Option.map_some, h.refPay, rid_mapPaths ρ h.inj]
  · rfl
  · funext r
    rw [envOf_observers, envOf_observers, refOf_mapPaths]
    cases t.refOf r with
    | none => rfl
    | some e => simp only [Option.map_some, h.cellsOf]
  · funext c; rw [envOf_alive, envOf_alive, h.cellInfo]; cases Edit.cellInfo t st c <;> rfl
  · funext c
    rw [envOf_siblings, envOf_siblings, cellOf_mapPaths]
    cases t.cellOf c with
    | none => rfl
    | some e => simp only [Option.map_some, h.cellsOf]

end relab

theorem renameMap_snoc (parent : Path) (old new : String) :
    renameMap (parent ++ [old]) new = SM.swapAt parent old new := by
  funext q
  unfold renameMap
  rw [swapAt_eq]
  simp

theorem childNames_swap (st : SM.St) (parent : Path) (old new : String) (q : Path) (x : String) :
    x ∈ (st.mapPaths (SM.swapAt parent old new)).childNames (SM.swapAt parent old new q) ↔
      (if q = parent then SM.swapName old new x else x) ∈ st.childNames q := by
  rw [mem_childNames, mem_childNames]
  have := swapAt_snoc parent old new q (if q = parent then SM.swapName old new x else x)
  have hx : (if q = parent then SM.swapName old new (if q = parent then SM.swapName old new x else x)
      else (if q = parent then SM.swapName old new x else x)) = x := by
    by_cases hq : q = parent
    · simp only [hq, if_true, swapName_invol]
    · simp only [hq, if_false]
  rw [hx] at this
  rw [← this]
  exact mem_ids_mapPaths_image _ st (swapAt_inj parent old new) _

/-! what the value layer reads of a state are its spaces and its model-level references: a state with the spaces of
`st.mapPaths ρ` (whatever its namers) has the containers, members and ids of `st` under the new paths -/
section mapPaths
variable {ρ : Path → Path} (hρ : ∀ x y, ρ x = ρ y → x = y) {st st2 : SM.St}
  (hsp : st2.spaces = (st.mapPaths ρ).spaces)
include hρ hsp

theorem mem_of_mapPaths (a : Attr) (q : Path) (n : String) : st2.mem a (ρ q) n = st.mem a q n :=
  (mem_of_spaces hsp a _ n).trans (mem_mapPaths ρ st hρ a q n)

theorem conts_of_mapPaths (a : Attr) (q : Path) : conts st2 a (ρ q) = conts st a q := by
  have : conts st2 a (ρ q) = (st.mapPaths ρ).cont a (ρ q) := by unfold conts St.cont St.find; rw [hsp]; rfl
  rw [this, cont_mapPaths ρ st hρ]; rfl

theorem has_of_mapPaths (q : Path) : st2.has (ρ q) = st.has q := by
  rw [has_of_spaces hsp]
  show ((st.mapPaths ρ).find (ρ q)).isSome = (st.find q).isSome
  rw [find_mapPaths ρ st hρ, Option.isSome_map]

omit hρ in
theorem ids_of_mapPaths (q' : Path) : q' ∈ st2.ids ↔ ∃ q ∈ st.ids, ρ q = q' := by
  unfold St.ids; rw [hsp]; exact mem_ids_mapPaths ρ st q'

theorem allocOK_mapPaths {t : Tabs} (ha : AllocOK t st) (hgl : st2.globals = st.globals) :
    AllocOK (t.mapPaths ρ) st2 := by
  refine ⟨?_, ?_, ?_, ?_⟩
  · intro q' n hm
    obtain ⟨q, _, rfl⟩ := (ids_of_mapPaths hsp q').mp (mem_ids_of_isSome _ .cells q' n hm)
    rw [mem_of_mapPaths hρ hsp] at hm
    exact List.mem_map.mpr ⟨(q, n), ha.cells q n hm, rfl⟩
  · intro q' n hm
    obtain ⟨q, _, rfl⟩ := (ids_of_mapPaths hsp q').mp (mem_ids_of_isSome _ .refs q' n hm)
    rw [mem_of_mapPaths hρ hsp] at hm
    exact List.mem_map.mpr ⟨(q, n), ha.refs q n hm, rfl⟩
  · intro q' x hq' hx
    obtain ⟨q, hq, rfl⟩ := (ids_of_mapPaths hsp q').mp hq'
    exact List.mem_map.mpr ⟨(q, x), ha.gslots q x hq (hgl ▸ hx), rfl⟩
  · intro e he
    obtain ⟨e0, he0, rfl⟩ := List.mem_map.mp he
    exact List.mem_map.mpr ⟨e0, ha.slots e0 he0, rfl⟩

end mapPaths

theorem relab_renameSpace (kw : List String) (t : Tabs) (st st' : SM.St) (h : SM.Inv st) (p : Path) (new : String)
    (hop : st.renameSpace kw p new = .ok st') :
    Relab (renameMap p new) t st st' := by
  obtain ⟨parent, old, rfl, hpid, _, hca, hst', _⟩ := renameSpace_ok kw st st' h.wf _ new hop
  obtain ⟨hfree, _, hr, _⟩ := canAdd_space_free h.wf parent new hca
  rw [renameMap_snoc]
  have hinj := swapAt_inj parent old new
  have hsp : st'.spaces = (st.mapPaths (SM.swapAt parent old new)).spaces := by rw [hst']
  have hgl : st'.globals = st.globals := by rw [hst']; rfl
  refine ⟨hinj, conts_of_mapPaths hinj hsp, hgl, has_of_mapPaths hinj hsp, ?_⟩
  intro q x
  have hch : (st'.childNames (SM.swapAt parent old new q)).contains x =
      (st.childNames q).contains (if q = parent then SM.swapName old new x else x) := by
    have : st'.childNames (SM.swapAt parent old new q) =
        (st.mapPaths (SM.swapAt parent old new)).childNames (SM.swapAt parent old new q) := by
      unfold St.childNames; rw [hsp]
    rw [this]
    exact contains_iff_of_mem_iff (childNames_swap st parent old new q x)
  unfold nsPlain
  rw [mem_of_mapPaths hinj hsp, mem_of_mapPaths hinj hsp, cid_mapPaths _ hinj, rid_mapPaths _ hinj, hgl, hch]
  by_cases hA : (st.mem .cells q x).isSome = true
  · simp only [hA, if_true]
  by_cases hG : st.globals.contains x = true
  · simp only [hA, hG, if_true, Bool.false_eq_true, if_false]
  simp only [hA, hG, Bool.false_eq_true, if_false]
  by_cases hC : (st.childNames q).contains x = true
  · -- a child space of `q`: no reference of the name
    have hR := (h.disj.child q x (by simpa using hC)).2
    simp only [hC, if_true, hR, Option.isSome_none, Bool.false_eq_true, if_false, ite_self]
  · by_cases hC' : (st.childNames q).contains (if q = parent then SM.swapName old new x else x) = true
    · -- `x` is the new name: free in the parent
      have hR : st.mem .refs q x = none := by
        by_cases hq : q = parent
        · subst hq
          simp only [if_true] at hC'
          unfold SM.swapName at hC'
          by_cases h1 : x = old
          · simp only [h1, if_true] at hC'
            exact absurd ((mem_childNames st q new).mp (by simpa using hC')) hfree
          · by_cases h2 : x = new
            · rw [h2]; exact hr
            · simp only [h1, h2, if_false] at hC'
              exact absurd hC' hC
        · simp only [hq, if_false] at hC'
          exact absurd hC' hC
      simp only [hC, hC', if_true, hR, Option.isSome_none, Bool.false_eq_true, if_false]
    · simp only [hC, hC']

theorem envOf_renameSpace (P : Params) (t : Tabs) (st st' : SM.St) (h : SM.Inv st) (p : Path) (new : String)
    (hop : st.renameSpace P.kw p new = .ok st') :
    envOf P (t.mapPaths (renameMap p new)) st' = envOf P t st :=
  envOf_relabel (relab_renameSpace P.kw t st st' h p new hop) P

theorem allocOK_renameSpace (kw : List String) (t : Tabs) (st st' : SM.St) (h : SM.Inv st) (ha : AllocOK t st)
    (p : Path) (new : String) (hop : st.renameSpace kw p new = .ok st') :
    AllocOK (t.mapPaths (renameMap p new)) st' := by
  obtain ⟨parent, old, rfl, _, _, _, hst', _⟩ := renameSpace_ok kw st st' h.wf _ new hop
  rw [renameMap_snoc]
  exact allocOK_mapPaths (swapAt_inj parent old new) (by rw [hst']) ha (by rw [hst']; rfl)

theorem stepR_rename (P : Params) (w : W) (p : Path) (new : String) :
    Refused (stepR P) (.renameSpace p new) w ∨
    ∃ st', w.sm.renameSpace P.kw p new = .ok st' ∧
      ClearsTo P (stepR P) (.renameSpace p new) w st' w.tabs (renameClearing w.tabs w.sm p)
        (w.tabs.mapPaths (renameMap p new)) := by
  cases hop : w.sm.renameSpace P.kw p new with
  | error e => exact Or.inl (fun w2 h1 _ => by simp only [stepR, h1, hop])
  | ok st' => exact Or.inr ⟨st', rfl, fun w2 h1 h2 => by simp only [stepR, h1, h2, hop]⟩

theorem slots_stepG (P : Params) (w : W) (op : OpG) (ha : AllocOK w.tabs w.sm) :
    (stepG P w op).tabs.slots = w.tabs.slots := by
  cases op with
  | op o =>
    rcases op_cases o with ⟨o', rfl⟩ | hv
    · rcases stepG_struct P w o' with href | ⟨st', _, _, heq⟩
      · rw [href w rfl rfl]
      · rw [heq w rfl rfl]; rfl
    · rw [stepG_value P w o hv, (step_value P w ha o hv).2.1]
  | setGlobal x v =>
    rcases stepG_setGlobal P w x v with href | ⟨st', _, heq⟩
    · rw [href w rfl rfl]
    · rw [heq w rfl rfl]; rfl
  | delGlobal x =>
    rcases stepG_delGlobal P w x with href | ⟨st', _, heq⟩
    · rw [href w rfl rfl]
    · rw [heq w rfl rfl]; rfl

theorem slots_stepR (P : Params) (w : W) (op : OpR) (ha : AllocOK w.tabs w.sm) (hs : w.tabs.slots = []) :
    (stepR P w op).tabs.slots = [] := by
  cases op with
  | g o => exact (slots_stepG P w o ha).trans hs
  | renameSpace p new =>
    rcases stepR_rename P w p new with href | ⟨st', _, heq⟩
    · rw [href w rfl rfl]; exact hs
    · rw [heq w rfl rfl]; show mapFst _ w.tabs.slots = []; rw [hs]; rfl

variable {P : Params} {lt : Node → Node → Prop}

theorem stepR_rename_clearStep (w : W) (p : Path) (new : String) :
    ClearStep P (stepR P) (.renameSpace p new) w :=
  (stepR_rename P w p new).imp id (fun ⟨st', _, heq⟩ => ⟨st', _, _, _, Ext.refl w.tabs, heq⟩)

theorem stepR_rename_cig (w : W) (p : Path) (new : String) (hw : WF (w.env P) lt) (h : CIG P lt w) :
    CIG P lt (stepR P w (.renameSpace p new)) := by
  rcases stepR_rename P w p new with href | ⟨st', hop, heq⟩
  · rw [href w rfl rfl]; exact h
  · rw [heq w rfl rfl]
    refine ⟨inv_renameSpace P.kw w.sm st' h.inv p new hop, allocOK_renameSpace P.kw _ _ _ h.inv h.alloc p new hop, ?_⟩
    show CI (envOf P (w.tabs.mapPaths (renameMap p new)) st') lt _
    rw [envOf_renameSpace P w.tabs w.sm st' h.inv p new hop]
    exact (doClears_facts hw.scoping hw.noCatch _ _ h.ci).1

theorem stepR_cig (ho : StrictOrder lt) (w : W) (op : OpR) (hw : WF (w.env P) lt) (h : CIG P lt w) :
    CIG P lt (stepR P w op) := by
  cases op with
  | g o => exact stepG_cig ho w o hw h
  | renameSpace p new => exact stepR_rename_cig w p new hw h

variable (P lt)

/-- a rename step keeps the regime by itself: it changes no definition (`envOf_renameSpace`) -/
def AdmissibleR : W → List OpR → Prop
  | _, [] => True
  | w, op :: ops => WF ((stepR P w op).env P) lt ∧ AdmissibleR (stepR P w op) ops

theorem admissibleR_of_sources (ho : StrictOrder lt)
    (hnc : ∀ v key, NsNoCatch (P.srcOf v key)) (hsc : ∀ v key, NsScoped (P.srcOf v key))
    (hcalls : ∀ v key, NsNoCalls (P.srcOf v key)) :
    ∀ (ops : List OpR) (w : W), CIG P lt w → WF (w.env P) lt → w.tabs.slots = [] → AdmissibleR P lt w ops := by
  intro ops
  induction ops with
  | nil => intro w _ _ _; trivial
  | cons op rest ih =>
    intro w h hw hs
    have c' := stepR_cig ho w op hw h
    have hs' := slots_stepR P w op h.alloc hs
    have hw' : WF ((stepR P w op).env P) lt :=
      wf_envOf P _ _ lt c'.alloc hs' hnc hsc (ranked_envOf_noCalls P _ _ lt hcalls)
    exact ⟨hw', ih _ c' hw' hs'⟩

theorem admissibleR_of_attr_sources (hnc : ∀ v key, NsNoCatch (P.srcOf v key))
    (hao : ∀ v key, NsAttrOnly (P.srcOf v key))
    (hcalls : ∀ v key, NsNoCalls (P.srcOf v key)) :
    ∀ (ops : List OpR) (w : W), AdmissibleR P lt w ops := by
  intro ops
  induction ops with
  | nil => intro w; trivial
  | cons op rest ih =>
    intro w
    exact ⟨wf_envOf_attrOnly P _ _ lt hnc hao hcalls, ih _⟩

variable {P lt}

theorem runR_cig (ho : StrictOrder lt) : ∀ (ops : List OpR) (w : W), WF (w.env P) lt → CIG P lt w →
    AdmissibleR P lt w ops → CIG P lt (runR P w ops) ∧ WF ((runR P w ops).env P) lt :=
  foldl_inv (stepR P) (AdmissibleR P lt) (fun w => WF (w.env P) lt) (CIG P lt) (fun _ _ _ h => h) (stepR_cig ho)

theorem stepR_rg (w : W) (op : OpR) (hw : WF (w.env P) lt) (h : CIG P lt w)
    (hr : RgNoInputs w.ex) : RgNoInputs (stepR P w op).ex := by
  cases op with
  | g o => exact stepG_rg w o hw h hr
  | renameSpace p new => exact (stepR_rename_clearStep w p new).rg hw h hr

theorem stepR_sim (ho : StrictOrder lt) (w1 w2 : W) (op : OpR) (hw : WF (w1.env P) lt)
    (h1 : CIG P lt w1) (h2 : CIG P lt w2) (r1 : RgNoInputs w1.ex) (r2 : RgNoInputs w2.ex) (hs : Sim w1 w2) :
    Sim (stepR P w1 op) (stepR P w2 op) := by
  cases op with
  | g o => exact stepG_sim ho w1 w2 o hw h1 h2 r1 r2 hs
  | renameSpace p new => exact (stepR_rename_clearStep w1 p new).sim hw h1 h2 r1 r2 hs

def isEvalR : OpR → Bool
  | .g o => isEvalG o
  | _ => false

def noEvalsR (ops : List OpR) : List OpR := ops.filter (fun op => !isEvalR op)

theorem isEvalR_eq {op : OpR} (h : isEvalR op = true) : ∃ q n key, op = .g (.op (.eval q n key)) := by
  cases op with
  | g o => obtain ⟨q, n, key, rfl⟩ := isEvalG_eq h; exact ⟨q, n, key, rfl⟩
  | _ => cases h

theorem runR_sim (ho : StrictOrder lt) : ∀ (ops : List OpR) (w1 w2 : W), WF (w1.env P) lt →
    CIG P lt w1 → CIG P lt w2 → RgNoInputs w1.ex → RgNoInputs w2.ex → Sim w1 w2 → AdmissibleR P lt w1 ops →
    Sim (runR P w1 ops) (runR P w2 (noEvalsR ops)) ∧ CIG P lt (runR P w1 ops) ∧
      CIG P lt (runR P w2 (noEvalsR ops)) ∧ WF ((runR P w1 ops).env P) lt :=
  Edit.foldl_sim (stepR P) (AdmissibleR P lt) (CIG P lt) isEvalR (fun _ _ _ h => h) (stepR_cig ho) stepR_rg
    (fun w1 w2 op he hw h1 r1 hs => by
      obtain ⟨q, n, key, rfl⟩ := isEvalR_eq he
      exact step_eval_sim ho w1 w2 q n key hw h1 r1 hs)
    (stepR_sim ho)

theorem renameCovered_renameClearing (t : Tabs) (st : SM.St) (p : Path) :
    renameCovered t st p (renameClearing t st p) = true := by
  unfold renameCovered
  simp only [Bool.and_eq_true, List.all_eq_true]
  refine ⟨?_, ?_⟩
  · intro r hr c hc
    unfold clearedBy
    rw [List.any_eq_true]
    exact ⟨_, List.mem_append_left _ (List.mem_flatMap.mpr ⟨r, hr, List.mem_map.mpr ⟨c, hc, rfl⟩⟩), by simp⟩
  · intro c hc
    unfold touchedBy
    rw [List.any_eq_true]
    refine ⟨Clear.ns (cellsOf t st p.dropLast), ?_, by simpa using hc⟩
    unfold renameClearing
    exact List.mem_append_right _ (List.mem_singleton.mpr rfl)

theorem renameCovered_sound (env : Env) (hsc : Scoped env) (hnc : NoCatchEnv env) (t : Tabs) (st : SM.St) (p : Path)
    (cl : List Clear) (s : Exec.St) (hci : CI env lt s) (hr : RgNoInputs s)
    (hcov : renameCovered t st p cl = true) :
    (∀ r ∈ renamed st p, ∀ c ∈ cellsOf t st r, NoNodes (doClears env s cl) c ∧
      ∀ key, inpOf (doClears env s cl) (c, key) = none) ∧
    (∀ c ∈ cellsOf t st p.dropLast, Clean (doClears env s cl) c) := by
  unfold renameCovered at hcov
  simp only [Bool.and_eq_true, List.all_eq_true] at hcov
  obtain ⟨_, _, _, _, hT, hCl, _, _⟩ := doClears_facts hsc hnc cl s hci
  refine ⟨?_, fun c hc => hT c (hcov.2 c hc)⟩
  intro r hr' c hc
  refine ⟨hCl c (hcov.1 r hr' c hc), ?_⟩
  intro key
  rw [(inpOf_doClears hsc hnc cl s hci hr).1 (c, key)]
  simp [hcov.1 r hr' c hc]

end MxModel.Edit
