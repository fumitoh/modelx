import MxModel.Proofs.CalcSteps
/-!
# Executing a plan on the abstract cache (`execute` in `Kernels/CalcSteps.lean`)

Under the well-formedness invariant "inputs are held, and trace edges only point into held, computed (non-input)
elements": what `clearAt` and `setValue` do and what they leave alone (`Frame`), which formulas `evalNode` runs and
that exactly their calls are recorded (`Traced`); one step on a cache with the plan left abstract (`step_cache`), the
step invariant `SInv` and the run of a plan (`run_from_any`); `generate_actions`: tracing the targets and clearing
what was calculated.
-/
namespace MxModel.CalcSteps

structure Cache.WF (c : Cache) : Prop where
  inputsHeld : ∀ x ∈ c.inputs, x ∈ c.held
  edgeHead : ∀ e ∈ c.edges, e.2 ∈ c.held ∧ e.2 ∉ c.inputs

theorem edges_nil_of_inputs_only {c : Cache} (h : c.WF) (hi : ∀ x ∈ c.held, x ∈ c.inputs) :
    c.edges = [] := by
  rw [List.eq_nil_iff_forall_not_mem]
  intro e he
  have := h.edgeHead e he
  exact this.2 (hi _ this.1)

def reachNext (edges : List (Node × Node)) (acc fr : List Node) : List Node :=
  ((edges.filter (fun e => decide (e.1 ∈ fr) && !decide (e.2 ∈ acc))).map (·.2)).eraseDups

theorem reach_succ (edges : List (Node × Node)) (fuel : Nat) (acc fr : List Node) :
    reach edges (fuel + 1) acc fr =
      if reachNext edges acc fr = [] then acc
      else reach edges fuel (acc ++ reachNext edges acc fr) (reachNext edges acc fr) := rfl

theorem mem_reachNext {edges : List (Node × Node)} {acc fr : List Node} {x : Node} :
    x ∈ reachNext edges acc fr ↔ ∃ e ∈ edges, e.1 ∈ fr ∧ e.2 ∉ acc ∧ e.2 = x := by
  simp only [reachNext, List.mem_eraseDups, List.mem_map, List.mem_filter, Bool.and_eq_true,
    decide_eq_true_eq, Bool.not_eq_true', decide_eq_false_iff_not, and_assoc]

theorem acc_sub_reach (edges : List (Node × Node)) (fuel : Nat) (acc fr : List Node) {x : Node}
    (h : x ∈ acc) : x ∈ reach edges fuel acc fr := by
  induction fuel generalizing acc fr with
  | zero => exact h
  | succ fuel ih =>
    rw [reach_succ]
    split
    · exact h
    · exact ih _ _ (List.mem_append_left _ h)

theorem reach_sub (edges : List (Node × Node)) (S : Node → Prop) (hS : ∀ e ∈ edges, S e.1 → S e.2)
    (fuel : Nat) (acc fr : List Node) (ha : ∀ x ∈ acc, S x) (hf : ∀ x ∈ fr, S x) :
    ∀ x ∈ reach edges fuel acc fr, S x := by
  induction fuel generalizing acc fr with
  | zero => exact ha
  | succ fuel ih =>
    rw [reach_succ]
    have hnext : ∀ x ∈ reachNext edges acc fr, S x := by
      intro x hx
      obtain ⟨e, he, h1, _, rfl⟩ := mem_reachNext.mp hx
      exact hS e he (hf _ h1)
    split
    · exact ha
    · exact ih _ _ (fun x hx => (List.mem_append.mp hx).elim (ha x) (hnext x)) hnext

theorem withDescs_sub {edges : List (Node × Node)} (S : Node → Prop) (hS : ∀ e ∈ edges, S e.1 → S e.2)
    {n : Node} (hn : S n) : ∀ x ∈ withDescs edges n, S x :=
  reach_sub edges S hS _ _ _ (by simpa using hn) (by simpa using hn)

theorem self_mem_withDescs (edges : List (Node × Node)) (n : Node) : n ∈ withDescs edges n :=
  acc_sub_reach edges _ _ _ (List.mem_singleton.mpr rfl)

theorem mem_withDescs {edges : List (Node × Node)} {n x : Node} (h : x ∈ withDescs edges n) :
    x = n ∨ ∃ e ∈ edges, e.2 = x :=
  withDescs_sub (fun x => x = n ∨ ∃ e ∈ edges, e.2 = x) (fun e he _ => Or.inr ⟨e, he, rfl⟩) (Or.inl rfl) x h

theorem clearAt_of_not_held {n : Node} {c : Cache} (h : n ∉ c.held) : clearAt n c = c := if_neg h

theorem mem_clearAt_held {n : Node} {c : Cache} (h : n ∈ c.held) {x : Node} :
    x ∈ (clearAt n c).held ↔ x ∈ c.held ∧ x ∉ withDescs c.edges n := by
  simp [clearAt, h]

theorem mem_clearAt_inputs {n : Node} {c : Cache} (h : n ∈ c.held) {x : Node} :
    x ∈ (clearAt n c).inputs ↔ x ∈ c.inputs ∧ x ∉ withDescs c.edges n := by
  simp [clearAt, h]

theorem mem_clearAt_edges {n : Node} {c : Cache} (h : n ∈ c.held) {e : Node × Node} :
    e ∈ (clearAt n c).edges ↔ e ∈ c.edges ∧ e.1 ∉ withDescs c.edges n ∧ e.2 ∉ withDescs c.edges n := by
  simp [clearAt, h]

theorem clearAt_log (n : Node) (c : Cache) : (clearAt n c).log = c.log := by
  unfold clearAt; split <;> rfl

structure ClearSpec (n : Node) (c c' : Cache) : Prop where
  wf : c'.WF
  inputs : ∀ x, x ∈ c'.inputs ↔ x ∈ c.inputs ∧ x ≠ n
  held : ∀ x, x ∈ c'.held → x ∈ c.held ∧ x ≠ n
  log : c'.log = c.log
  edges : ∀ e ∈ c'.edges, e ∈ c.edges

theorem clearAt_spec (n : Node) (c : Cache) (h : c.WF) : ClearSpec n c (clearAt n c) := by
  by_cases hn : n ∈ c.held
  · have hself := self_mem_withDescs c.edges n
    -- an input is not the head of an edge, so the only input among the descendants is `n` itself
    have hin : ∀ x, x ∈ c.inputs → x ∈ withDescs c.edges n → x = n := by
      intro x hx hr
      rcases mem_withDescs hr with h1 | ⟨e, he, rfl⟩
      · exact h1
      · exact ((h.edgeHead e he).2 hx).elim
    refine ⟨⟨fun x hx => ?_, fun e he => ?_⟩, fun x => ?_, fun x hx => ?_, clearAt_log n c,
      fun e he => ((mem_clearAt_edges hn).mp he).1⟩
    · rw [mem_clearAt_inputs hn] at hx
      exact (mem_clearAt_held hn).mpr ⟨h.inputsHeld x hx.1, hx.2⟩
    · rw [mem_clearAt_edges hn] at he
      rw [mem_clearAt_held hn, mem_clearAt_inputs hn]
      exact ⟨⟨(h.edgeHead e he.1).1, he.2.2⟩, fun hc => (h.edgeHead e he.1).2 hc.1⟩
    · rw [mem_clearAt_inputs hn]
      exact ⟨fun hx => ⟨hx.1, fun e => hx.2 (e ▸ hself)⟩, fun hx => ⟨hx.1, fun hr => hx.2 (hin x hx.1 hr)⟩⟩
    · rw [mem_clearAt_held hn] at hx
      exact ⟨hx.1, fun e => hx.2 (e ▸ hself)⟩
  · rw [clearAt_of_not_held hn]
    exact ⟨h, fun x => ⟨fun hx => ⟨hx, fun e => hn (e ▸ h.inputsHeld x hx)⟩, fun hx => hx.1⟩,
      fun x hx => ⟨hx, fun e => hn (e ▸ hx)⟩, rfl, fun e he => he⟩

/-- what an operation on the element `n` leaves alone: it adds no edge, and for every set `S` that contains
`n` and is closed under the trace edges, the values and the edges outside `S` stay -/
structure Frame (n : Node) (c c' : Cache) : Prop where
  edges : ∀ e ∈ c'.edges, e ∈ c.edges
  keepsHeld : ∀ S : Node → Prop, S n → (∀ e ∈ c.edges, S e.1 → S e.2) → ∀ x ∈ c.held, ¬ S x → x ∈ c'.held
  keepsEdges : ∀ S : Node → Prop, S n → (∀ e ∈ c.edges, S e.1 → S e.2) →
    ∀ e ∈ c.edges, ¬ S e.1 → ¬ S e.2 → e ∈ c'.edges

theorem clearAt_frame (n : Node) (c : Cache) : Frame n c (clearAt n c) := by
  by_cases hn : n ∈ c.held
  · exact ⟨fun e he => ((mem_clearAt_edges hn).mp he).1,
      fun S hSn hS x hx hnS => (mem_clearAt_held hn).mpr ⟨hx, fun hr => hnS (withDescs_sub S hS hSn x hr)⟩,
      fun S hSn hS e he h1 h2 => (mem_clearAt_edges hn).mpr
        ⟨he, fun hr => h1 (withDescs_sub S hS hSn _ hr), fun hr => h2 (withDescs_sub S hS hSn _ hr)⟩⟩
  · rw [clearAt_of_not_held hn]
    exact ⟨fun _ he => he, fun _ _ _ _ hx _ => hx, fun _ _ _ _ he _ _ => he⟩

theorem clearAt_gone (n : Node) (c : Cache) {x : Node} (hx : x ∈ c.held) (hx' : x ∉ (clearAt n c).held) :
    ∀ e ∈ (clearAt n c).edges, e.1 ≠ x ∧ e.2 ≠ x := by
  by_cases hn : n ∈ c.held
  · have hr : x ∈ withDescs c.edges n :=
      Classical.byContradiction fun h => hx' ((mem_clearAt_held hn).mpr ⟨hx, h⟩)
    intro e he
    rw [mem_clearAt_edges hn] at he
    exact ⟨fun e1 => he.2.1 (e1 ▸ hr), fun e2 => he.2.2 (e2 ▸ hr)⟩
  · rw [clearAt_of_not_held hn] at hx'; exact (hx' hx).elim

theorem mem_setValue_held {n x : Node} {c : Cache} :
    x ∈ (setValue n c).held ↔ x ∈ (clearAt n c).held ∨ x = n := by
  simp [setValue]

theorem mem_setValue_inputs {n x : Node} {c : Cache} :
    x ∈ (setValue n c).inputs ↔ x ∈ (clearAt n c).inputs ∨ x = n := by
  simp [setValue]

theorem setValue_frame (n : Node) (c : Cache) : Frame n c (setValue n c) :=
  have f := clearAt_frame n c
  ⟨f.edges, fun S hSn hS x hx hnS => mem_setValue_held.mpr (Or.inl (f.keepsHeld S hSn hS x hx hnS)),
    f.keepsEdges⟩

structure PasteSpec (n : Node) (c c' : Cache) : Prop where
  wf : c'.WF
  inputs : ∀ x, x ∈ c'.inputs ↔ x ∈ c.inputs ∨ x = n
  held : ∀ x, x ∈ c'.held → x ∈ c.held ∨ x = n
  log : c'.log = c.log
  edges : ∀ e ∈ c'.edges, e ∈ c.edges

theorem setValue_spec (n : Node) (c : Cache) (h : c.WF) : PasteSpec n c (setValue n c) := by
  have s := clearAt_spec n c h
  refine ⟨⟨fun x hx => ?_, fun e he => ?_⟩, fun x => ?_, fun x hx => ?_, s.log, s.edges⟩
  · exact mem_setValue_held.mpr ((mem_setValue_inputs.mp hx).imp (s.wf.inputsHeld x) id)
  · -- no edge is left that points into `n`
    have := s.wf.edgeHead e he
    exact ⟨mem_setValue_held.mpr (Or.inl this.1),
      fun hc => (mem_setValue_inputs.mp hc).elim this.2 (s.held _ this.1).2⟩
  · rw [mem_setValue_inputs, s.inputs]
    by_cases e : x = n
    · simp [e]
    · simp [e]
  · exact (mem_setValue_held.mp hx).imp (fun hx => (s.held x hx).1) id

section eval
variable (preds : Node → List Node) (fuel : Nat)

theorem evalNode_held (n : Node) (c : Cache)
    (h : n ∈ c.held) : evalNode preds fuel n c = c := by
  cases fuel with
  | zero => rfl
  | succ fuel => exact if_pos h

theorem evalNode_not_held (n : Node) (c : Cache) (h : n ∉ c.held) :
    evalNode preds (fuel + 1) n c =
      ((preds n).foldl (fun c p => (evalNode preds fuel p c).addEdge p n) (c.enter n)).store n :=
  if_neg h

theorem evalNode_ready_fold (n : Node) (ps : List Node)
    (c : Cache) (h : ∀ p ∈ ps, p ∈ c.held) :
    ps.foldl (fun c p => (evalNode preds fuel p c).addEdge p n) c
      = { c with edges := c.edges ++ ps.map (fun p => (p, n)) } := by
  induction ps generalizing c with
  | nil => simp
  | cons p ps ih =>
    rw [List.foldl_cons, evalNode_held preds fuel p c (h p List.mem_cons_self),
      ih (c.addEdge p n) (fun q hq => h q (List.mem_cons_of_mem _ hq))]
    simp [Cache.addEdge]

theorem evalNode_ready (n : Node) (c : Cache)
    (hn : n ∉ c.held) (hp : ∀ p ∈ preds n, p ∈ c.held) :
    evalNode preds (fuel + 1) n c =
      { held := c.held ++ [n], inputs := c.inputs,
        edges := c.edges ++ (preds n).map (fun p => (p, n)), log := c.log ++ [n] } := by
  rw [evalNode_not_held preds fuel n c hn, evalNode_ready_fold preds fuel n (preds n) (c.enter n) hp]
  rfl

theorem evalNode_holds (n : Node) (c : Cache) :
    n ∈ (evalNode preds (fuel + 1) n c).held := by
  by_cases hn : n ∈ c.held
  · rw [evalNode_held preds _ n c hn]; exact hn
  · rw [evalNode_not_held preds fuel n c hn]; exact List.mem_append_right _ (List.mem_singleton.mpr rfl)

inductive Anc (edges : List (Node × Node)) : Node → Node → Prop
  | refl (t : Node) : Anc edges t t
  | step {p n t : Node} : (p, n) ∈ edges → Anc edges n t → Anc edges p t

theorem Anc.mono {edges edges' : List (Node × Node)} (h : ∀ e ∈ edges, e ∈ edges') {p t : Node}
    (a : Anc edges p t) : Anc edges' p t := by
  induction a with
  | refl t => exact .refl t
  | step he _ ih => exact .step (h _ he) ih

theorem Anc.snoc {edges : List (Node × Node)} {x p n : Node} (a : Anc edges x p) (he : (p, n) ∈ edges) :
    Anc edges x n := by
  induction a with
  | refl t => exact .step he (.refl n)
  | step h1 _ ih => exact .step h1 (ih he)

/-- `new`: the formulas that ran, in this order; `extra`: the calls recorded so far of a formula that is still
running -/
structure Traced (preds : Node → List Node) (c c' : Cache) (new : List Node) (extra : List (Node × Node)) :
    Prop where
  inputs : c'.inputs = c.inputs
  log : c'.log = c.log ++ new
  held : ∀ x, x ∈ c'.held ↔ x ∈ c.held ∨ x ∈ new
  fresh : ∀ x ∈ new, x ∉ c.held
  edges : ∀ e, e ∈ c'.edges ↔ e ∈ c.edges ∨ (e.2 ∈ new ∧ e.1 ∈ preds e.2) ∨ e ∈ extra

theorem Traced.refl (c : Cache) : Traced preds c c [] [] :=
  ⟨rfl, (List.append_nil _).symm, by simp, by simp, by simp⟩

theorem Traced.trans {preds : Node → List Node} {a b c : Cache} {n1 n2 : List Node}
    {e1 e2 : List (Node × Node)} (h1 : Traced preds a b n1 e1) (h2 : Traced preds b c n2 e2) :
    Traced preds a c (n1 ++ n2) (e1 ++ e2) := by
  refine ⟨h2.inputs.trans h1.inputs, by rw [h2.log, h1.log, List.append_assoc], fun x => ?_, fun x hx => ?_,
    fun e => ?_⟩
  · rw [h2.held, h1.held, List.mem_append, or_assoc]
  · rcases List.mem_append.mp hx with h | h
    · exact h1.fresh x h
    · exact fun hc => h2.fresh x h ((h1.held x).mpr (Or.inl hc))
  · rw [h2.edges, h1.edges]
    simp only [List.mem_append]
    grind

theorem Traced.edges_mono {preds : Node → List Node} {c c' : Cache} {new : List Node}
    {extra : List (Node × Node)} (h : Traced preds c c' new extra) : ∀ e ∈ c.edges, e ∈ c'.edges :=
  fun e he => (h.edges e).mpr (Or.inl he)

/-- well-formedness is kept: the head of a new edge is an element whose formula ran, so it is held, and it
was not held before, so it is no input -/
theorem Traced.wf {preds : Node → List Node} {c c' : Cache} {new : List Node} (h : Traced preds c c' new [])
    (w : c.WF) : c'.WF := by
  refine ⟨fun x hx => (h.held x).mpr (Or.inl (w.inputsHeld x (h.inputs ▸ hx))), fun e he => ?_⟩
  rw [h.inputs]
  rcases (h.edges e).mp he with h0 | ⟨hn, _⟩ | hx
  · exact ⟨(h.held _).mpr (Or.inl (w.edgeHead e h0).1), (w.edgeHead e h0).2⟩
  · exact ⟨(h.held _).mpr (Or.inr hn), fun hi => h.fresh _ hn (w.inputsHeld _ hi)⟩
  · cases hx

structure Grows (c c' : Cache) : Prop where
  inputs : c'.inputs = c.inputs
  new : ∃ new, c'.log = c.log ++ new ∧ (∀ x ∈ c.held, x ∈ c'.held) ∧
    (∀ x ∈ c'.held, x ∈ c.held ∨ x ∈ new) ∧ ∀ x ∈ new, x ∉ c.held

theorem Traced.grows {preds : Node → List Node} {c c' : Cache} {new : List Node}
    {extra : List (Node × Node)} (h : Traced preds c c' new extra) : Grows c c' :=
  ⟨h.inputs, new, h.log, fun x hx => (h.held x).mpr (Or.inl hx), fun x hx => (h.held x).mp hx, h.fresh⟩

structure Stores (preds : Node → List Node) (c c' : Cache) : Prop where
  mono : ∀ x ∈ c.held, x ∈ c'.held
  stored : ∀ n ∈ c'.log.drop c.log.length, n ∈ c'.held
  only : ∀ e ∈ c'.edges, e ∈ c.edges ∨ (e.2 ∈ c'.log.drop c.log.length ∧ e.1 ∈ preds e.2)
  logPrefix : ∃ new, c'.log = c.log ++ new

theorem Traced.stores {preds : Node → List Node} {c c' : Cache} {new : List Node}
    (h : Traced preds c c' new []) : Stores preds c c' := by
  have hd : c'.log.drop c.log.length = new := by rw [h.log, List.drop_left]
  exact ⟨fun x hx => (h.held x).mpr (Or.inl hx), fun n hn => (h.held n).mpr (Or.inr (hd ▸ hn)),
    fun e he => ((h.edges e).mp he).imp id (fun h => hd ▸ h.elim id (fun h => nomatch h)), ⟨new, h.log⟩⟩

theorem evalNode_traced : ∀ (n : Node) (c : Cache),
    ∃ new, Traced preds c (evalNode preds fuel n c) new [] ∧
      ∀ x ∈ new, Anc (evalNode preds fuel n c).edges x n := by
  induction fuel with
  | zero => exact fun n c => ⟨[], Traced.refl preds c, fun _ hx => nomatch hx⟩
  | succ fuel ih =>
    intro n c
    by_cases hn : n ∈ c.held
    · rw [evalNode_held preds _ n c hn]; exact ⟨[], Traced.refl preds c, fun _ hx => nomatch hx⟩
    · rw [evalNode_not_held preds fuel n c hn]
      -- the calls made by the formula of `n`: the edges `(p, n)` are the extra ones
      have fold : ∀ (ps : List Node) (c0 : Cache), ∃ new,
          Traced preds c0 (ps.foldl (fun c p => (evalNode preds fuel p c).addEdge p n) c0) new
            (ps.map (fun p => (p, n))) ∧
          ∀ x ∈ new, ∃ p ∈ ps,
            Anc (ps.foldl (fun c p => (evalNode preds fuel p c).addEdge p n) c0).edges x p := by
        intro ps
        induction ps with
        | nil => exact fun c0 => ⟨[], Traced.refl preds c0, fun _ hx => nomatch hx⟩
        | cons p ps ihp =>
          intro c0
          obtain ⟨n1, t1, a1⟩ := ih p c0
          have tadd : Traced preds (evalNode preds fuel p c0) ((evalNode preds fuel p c0).addEdge p n) []
              [(p, n)] :=
            ⟨rfl, (List.append_nil _).symm, by simp [Cache.addEdge], by simp, by simp [Cache.addEdge]⟩
          obtain ⟨n3, t3, a3⟩ := ihp ((evalNode preds fuel p c0).addEdge p n)
          rw [List.foldl_cons]
          refine ⟨n1 ++ ([] ++ n3), t1.trans (tadd.trans t3), fun x hx => ?_⟩
          rcases List.mem_append.mp hx with hx | hx
          · exact ⟨p, List.mem_cons_self, (a1 x hx).mono fun e he => t3.edges_mono e (tadd.edges_mono e he)⟩
          · obtain ⟨q, hq, aq⟩ := a3 x hx
            exact ⟨q, List.mem_cons_of_mem _ hq, aq⟩
      obtain ⟨new, tf, af⟩ := fold (preds n) (c.enter n)
      generalize (preds n).foldl (fun c p => (evalNode preds fuel p c).addEdge p n) (c.enter n) = cf
        at tf af
      have hcall : ∀ p ∈ preds n, (p, n) ∈ cf.edges := fun p hp =>
        (tf.edges _).mpr (Or.inr (Or.inr (List.mem_map.mpr ⟨p, hp, rfl⟩)))
      refine ⟨n :: new, ⟨tf.inputs, ?_, fun x => ?_, List.forall_mem_cons.mpr ⟨hn, tf.fresh⟩, fun ⟨a, b⟩ => ?_⟩,
        fun x hx => ?_⟩
      · simp [Cache.store, tf.log, Cache.enter]
      · simp [Cache.store, tf.held, Cache.enter, or_comm, or_assoc]
      · -- the extra edges are the calls of `n`
        simp only [Cache.store, tf.edges, Cache.enter, List.mem_map, List.mem_cons, Prod.mk.injEq,
          List.not_mem_nil, or_false]
        grind
      · show Anc cf.edges x n
        rcases List.mem_cons.mp hx with rfl | hx
        · exact .refl _
        · obtain ⟨p, hp, ap⟩ := af x hx
          exact ap.snoc (hcall p hp)

/-- `ns` can be evaluated from a cache holding `held` one after the other without any formula calling
another: each element, when its turn comes, has no value and everything it calls has one -/
inductive Ready (preds : Node → List Node) : List Node → List Node → Prop
  | nil (held : List Node) : Ready preds held []
  | cons {held : List Node} {n : Node} {ns : List Node} : n ∉ held → (∀ p ∈ preds n, p ∈ held) →
      Ready preds (held ++ [n]) ns → Ready preds held (n :: ns)

theorem evalNodes_ready {ns : List Node} {c : Cache}
    (h : Ready preds c.held ns) :
    Traced preds c (ns.foldl (fun c n => evalNode preds (fuel + 1) n c) c) ns [] := by
  induction ns generalizing c with
  | nil => exact Traced.refl preds c
  | cons n ns ih =>
    cases h with
    | cons hn hp hr =>
      obtain ⟨n1, t1, _⟩ := evalNode_traced preds (fuel + 1) n c
      rw [List.foldl_cons]
      rw [evalNode_ready preds fuel n c hn hp] at t1 ⊢
      obtain rfl : [n] = n1 := List.append_cancel_left t1.log
      exact t1.trans (ih hr)

theorem paste_fold (ns : List Node) (c : Cache) (h : c.WF) :
    let c' := ns.foldl (fun c n => setValue n c) c
    c'.WF ∧ (∀ x, x ∈ c'.inputs ↔ x ∈ c.inputs ∨ x ∈ ns) ∧
      (∀ x, x ∈ c'.held → x ∈ c.held ∨ x ∈ ns) ∧ c'.log = c.log ∧ (∀ e ∈ c'.edges, e ∈ c.edges) := by
  induction ns generalizing c with
  | nil => simp [h]
  | cons n ns ih =>
    have s := setValue_spec n c h
    obtain ⟨w, hi, hh, hl, he⟩ := ih (setValue n c) s.wf
    refine ⟨w, fun x => ?_, fun x hx => ?_, hl.trans s.log, fun e hm => s.edges e (he e hm)⟩
    · rw [List.foldl_cons, hi x, s.inputs x, List.mem_cons, or_assoc]
    · rw [List.mem_cons, ← or_assoc]
      exact (hh x hx).imp (s.held x) id

theorem clear_fold (ns : List Node) (c : Cache) (h : c.WF) :
    let c' := ns.foldl (fun c n => clearAt n c) c
    c'.WF ∧ (∀ x, x ∈ c'.inputs ↔ x ∈ c.inputs ∧ x ∉ ns) ∧
      (∀ x, x ∈ c'.held → x ∈ c.held ∧ x ∉ ns) ∧ c'.log = c.log ∧ (∀ e ∈ c'.edges, e ∈ c.edges) := by
  induction ns generalizing c with
  | nil => simp [h]
  | cons n ns ih =>
    have s := clearAt_spec n c h
    obtain ⟨w, hi, hh, hl, he⟩ := ih (clearAt n c) s.wf
    refine ⟨w, fun x => ?_, fun x hx => ?_, hl.trans s.log, fun e hm => s.edges e (he e hm)⟩
    · rw [List.foldl_cons, hi x, s.inputs x, List.mem_cons, not_or, and_assoc]
    · rw [List.mem_cons, not_or, ← and_assoc]
      exact ⟨s.held x (hh x hx).1, (hh x hx).2⟩

theorem foldl_frame {step : Node → Cache → Cache} (hstep : ∀ n c, Frame n c (step n c)) (S : Node → Prop)
    (ns : List Node) (c : Cache) (hns : ∀ n ∈ ns, S n) (hS : ∀ e ∈ c.edges, S e.1 → S e.2) :
    (∀ x ∈ c.held, ¬ S x → x ∈ (ns.foldl (fun c n => step n c) c).held) ∧
      (∀ e ∈ c.edges, ¬ S e.1 → ¬ S e.2 → e ∈ (ns.foldl (fun c n => step n c) c).edges) := by
  induction ns generalizing c with
  | nil => exact ⟨fun _ hx _ => hx, fun _ he _ _ => he⟩
  | cons n ns ih =>
    have f := hstep n c
    have hSn := hns n List.mem_cons_self
    obtain ⟨i1, i2⟩ := ih (step n c) (fun m hm => hns m (List.mem_cons_of_mem _ hm))
      (fun e he => hS e (f.edges e he))
    exact ⟨fun x hx hn => i1 x (f.keepsHeld S hSn hS x hx hn) hn,
      fun e he h1 h2 => i2 e (f.keepsEdges S hSn hS e he h1 h2) h1 h2⟩

theorem clear_fold_gone (ns : List Node) (c : Cache) (h : c.WF) :
    ∀ p ∈ ns, p ∈ c.held → ∀ e ∈ (ns.foldl (fun c n => clearAt n c) c).edges, e.1 ≠ p ∧ e.2 ≠ p := by
  induction ns generalizing c with
  | nil => exact fun p hp => nomatch hp
  | cons n ns ih =>
    intro p hp hph e he
    have s := clearAt_spec n c h
    by_cases hstill : p ∈ (clearAt n c).held
    · rcases List.mem_cons.mp hp with rfl | hp'
      · exact absurd rfl (s.held p hstill).2
      · exact ih (clearAt n c) s.wf p hp' hstill e he
    · exact clearAt_gone n c hph hstill e ((clear_fold ns (clearAt n c) s.wf).2.2.2.2 e he)

end eval

/-- **one step on a cache**, the plan left abstract: `O` are the planned elements, `H` / `H'` those of them
that are held before / after the step; the cache `c` holds them and what the start `c0` held (none of it
planned), all as inputs, with `c0`'s edges.  `'calc'` of a block `B` that is ready, `'paste'` of some of it,
`'clear'` of planned elements – every element of `B` one or the other.  The calc phase runs the block and
nothing else; `O` is closed under its trace edges, so pasting and clearing planned elements leaves the rest of
the cache alone; inside `O`, an input is held and a held element is an input or is cleared. -/
theorem step_cache {preds : Node → List Node} {c0 c c3 : Cache} {O H H' : Node → Prop} {B ps cs : List Node}
    (fuel : Nat) (h0 : c0.WF) (h0d : ∀ x ∈ c0.held, ¬ O x) (h0e : ∀ e ∈ c0.edges, ¬ O e.1)
    (hH : ∀ x, H x → O x ∧ x ∉ B) (hB : ∀ x ∈ B, O x) (hps : ∀ x ∈ ps, x ∈ B) (hcs : ∀ x ∈ cs, O x)
    (hcov : ∀ x ∈ B, x ∈ ps ∨ x ∈ cs) (hsucc : ∀ x, H' x ↔ (H x ∨ x ∈ ps) ∧ x ∉ cs)
    (hr : Ready preds c.held B)
    (held : ∀ x, x ∈ c.held ↔ H x ∨ x ∈ c0.held) (inputs : ∀ x, x ∈ c.inputs ↔ H x ∨ x ∈ c0.inputs)
    (edges : ∀ e, e ∈ c.edges ↔ e ∈ c0.edges)
    (hc3 : c3 = execAction preds (fuel + 1) (execAction preds (fuel + 1)
      (execAction preds (fuel + 1) c (.doCalc B)) (.doPaste ps)) (.doClear cs)) :
    (∀ x, x ∈ c3.held ↔ H' x ∨ x ∈ c0.held) ∧ (∀ x, x ∈ c3.inputs ↔ H' x ∨ x ∈ c0.inputs) ∧
      (∀ e, e ∈ c3.edges ↔ e ∈ c0.edges) ∧ c3.log = c.log ++ B := by
  have wf : c.WF := by
    refine ⟨fun x hx => (held x).mpr (((inputs x).mp hx).imp id (h0.inputsHeld x)), fun e he => ?_⟩
    have hh := h0.edgeHead e ((edges e).mp he)
    exact ⟨(held _).mpr (Or.inr hh.1), fun hi => ((inputs _).mp hi).elim (fun hc => h0d _ hh.1 (hH _ hc).1) hh.2⟩
  have tr := evalNodes_ready preds fuel hr
  simp only [execAction] at hc3
  generalize B.foldl (fun c n => evalNode preds (fuel + 1) n c) c = c1 at tr hc3
  rw [foldl_fixed_mem (b := c1) fun x hx => evalNode_held preds _ x c1 ((tr.held x).mpr (Or.inr (hps x hx)))] at hc3
  have h1e : ∀ e ∈ c1.edges, e ∈ c0.edges ∨ e.2 ∈ B := fun e he =>
    ((tr.edges e).mp he).imp (edges e).mp fun h => h.elim (·.1) (nomatch ·)
  have hS1 : ∀ e ∈ c1.edges, O e.1 → O e.2 := fun e he h1 =>
    (h1e e he).elim (fun h => (h0e e h h1).elim) (hB _)
  obtain ⟨wf2, h2i, h2h, h2l, h2e⟩ := paste_fold ps c1 (tr.wf wf)
  obtain ⟨p2h, p2e⟩ := foldl_frame setValue_frame O ps c1 (fun x hx => hB x (hps x hx)) hS1
  generalize ps.foldl (fun c n => setValue n c) c1 = c2 at wf2 h2i h2h h2l h2e p2h p2e hc3
  obtain ⟨wf3, h3i, h3h, h3l, h3e⟩ := clear_fold cs c2 wf2
  obtain ⟨p3h, p3e⟩ := foldl_frame clearAt_frame O cs c2 hcs (fun e he => hS1 e (h2e e he))
  rw [← hc3] at wf3 h3i h3h h3l h3e p3h p3e
  have hin : ∀ x, x ∈ c3.inputs ↔ H' x ∨ x ∈ c0.inputs := by
    intro x
    have hnc : x ∈ c0.inputs → x ∉ cs := fun h hc => h0d x (h0.inputsHeld x h) (hcs x hc)
    rw [h3i, h2i, hsucc, tr.inputs, inputs]
    by_cases hi : x ∈ c0.inputs
    · simp [hi, hnc hi]
    · simp [hi]
  have hheld : ∀ x ∈ c3.held, H' x ∨ x ∈ c0.held := by
    intro x hx
    obtain ⟨h2, hnc⟩ := h3h x hx
    rcases (h2h x h2).elim (tr.held x).mp (fun h => Or.inr (hps x h)) with hc | hb
    · exact ((held x).mp hc).imp (fun h => (hsucc x).mpr ⟨Or.inl h, hnc⟩) id
    · exact Or.inl ((hsucc x).mpr ⟨Or.inr ((hcov x hb).resolve_right hnc), hnc⟩)
  refine ⟨fun x => ⟨hheld x, fun hx => ?_⟩, hin, fun e => ⟨fun he => ?_, fun h0m => ?_⟩,
    by rw [h3l, h2l, tr.log]⟩
  · rcases hx with hx | hx
    · exact wf3.inputsHeld x ((hin x).mpr (Or.inl hx))
    · exact p3h x (p2h x ((tr.held x).mpr (Or.inl ((held x).mpr (Or.inr hx)))) (h0d x hx)) (h0d x hx)
  · -- an edge into the block would end at a held element that is no input
    rcases h1e e (h2e e (h3e e he)) with h0m | hb
    · exact h0m
    · have hw := wf3.edgeHead e he
      rcases hheld _ hw.1 with hh | hh
      · exact (hw.2 ((hin _).mpr (Or.inl hh))).elim
      · exact (h0d _ hh (hB _ hb)).elim
  · have hhead := h0d _ (h0.edgeHead e h0m).1
    exact p3e e (p2e e (tr.edges_mono e ((edges e).mpr h0m)) (h0e e h0m) hhead) (h0e e h0m) hhead

section run
variable (ordered : List Node) (succs : Node → List Node) (targets : List Node) (size : Nat)

variable (preds : Node → List Node)

def execStep (fuel : Nat) (o : StepOut) (c : Cache) : Cache :=
  execAction preds fuel (execAction preds fuel (execAction preds fuel c (.doCalc o.block))
    (.doPaste o.paste)) (.doClear o.clear)

theorem execute_flatMap (fuel : Nat) (l : List StepOut) (c : Cache) :
    execute preds fuel (l.flatMap StepOut.actions) c = l.foldl (fun c o => execStep preds fuel o c) c := by
  unfold execute
  rw [List.foldl_flatMap]
  rfl

theorem execute_plan (fuel : Nat) (hz : 1 ≤ size) (c : Cache) :
    execute preds fuel (calcSteps ordered succs targets size) c =
      (List.range (nSteps ordered succs targets size)).foldl
        (fun c k => execStep preds fuel (stepAt ordered succs targets size k) c) c := by
  rw [calcSteps, execute_flatMap, planSteps_eq_map hz, List.foldl_map]

def heldAt (k : Nat) (x : Node) : Prop :=
  x ∈ pastedAt ordered succs targets size k ∨ (x ∈ targets ∧ x ∈ ordered.take (k * size))

/-- the state between steps `k-1` and `k` of a run that started from the cache `c0`: what `c0`
held – user inputs and calculated values alike, with `c0`'s trace edges – and the planned elements
that are pasted, nothing else -/
structure SInv (c0 : Cache) (k : Nat) (c : Cache) : Prop where
  held : ∀ x, x ∈ c.held ↔ heldAt ordered succs targets size k x ∨ x ∈ c0.held
  inputs : ∀ x, x ∈ c.inputs ↔ heldAt ordered succs targets size k x ∨ x ∈ c0.inputs
  edges : ∀ e, e ∈ c.edges ↔ e ∈ c0.edges
  log : c.log = c0.log ++ ordered.take (k * size)

variable {ordered succs targets size preds} {c0 : Cache}

theorem heldAt_sub {k : Nat} {x : Node} (h : heldAt ordered succs targets size k x) :
    x ∈ ordered.take (k * size) :=
  h.elim (fun h => (pastedAt_sub h).1) (fun h => h.2)

theorem heldAt_succ (hd : ordered.Nodup) (k : Nat) (x : Node) :
    heldAt ordered succs targets size (k + 1) x ↔
      (heldAt ordered succs targets size k x ∨ x ∈ (stepAt ordered succs targets size k).paste) ∧
        x ∉ (stepAt ordered succs targets size k).clear := by
  have hP := @pastedAt_sub ordered succs targets size k x
  have hdis : x ∈ ordered.take (k * size) → x ∈ curBlock ordered size k → False :=
    take_block_disjoint hd (Nat.le_refl k)
  simp only [heldAt, mem_pastedAt_succ, mem_stepAt_paste, mem_stepAt_clear, take_succ_mul, List.mem_append]
  by_cases hb : x ∈ curBlock ordered size k
  · -- in the block, so neither before it nor in `pasted`: pasted here iff held afterwards
    have hnd : x ∉ ordered.take (k * size) := fun h => hdis h hb
    have hnp : x ∉ pastedAt ordered succs targets size k := fun h => hnd (hP h).1
    by_cases ht : x ∈ targets <;> cases hasSuccOutside succs (curBlock ordered size k) x <;>
      simp [hb, hnd, hnp, ht]
  · -- not in the block: held afterwards iff held before and not swept from `pasted`
    by_cases hp : x ∈ pastedAt ordered succs targets size k
    · have := hP hp
      cases hasSuccOutside succs (accumNodes ordered size k) x <;> simp [hb, hp, this.1, this.2]
    · simp [hb, hp]

theorem heldAt_nSteps (hz : 1 ≤ size) (ht : isTopo succs ordered = true) (x : Node) :
    heldAt ordered succs targets size (nSteps ordered succs targets size) x ↔ x ∈ targets ∧ x ∈ ordered := by
  rw [heldAt, ← finalPasted_eq hz, finalPasted_nil hz ht, List.take_of_length_le (nSteps_covers hz)]
  simp

theorem block_sub_paste_clear (k : Nat) {x : Node} (hx : x ∈ curBlock ordered size k) :
    x ∈ (stepAt ordered succs targets size k).paste ∨ x ∈ (stepAt ordered succs targets size k).clear := by
  rw [mem_stepAt_paste, mem_stepAt_clear]
  by_cases ht : x ∈ targets
  · exact Or.inl ⟨hx, Or.inl ht⟩
  · cases hs : hasSuccOutside succs (curBlock ordered size k) x
    · exact Or.inr (Or.inl ⟨hx, ht, rfl⟩)
    · exact Or.inl ⟨hx, Or.inr rfl⟩

/-- when the turn of an element of block `k` comes, it has no value and everything it reads has one: a
precedent in the plan stands before it – in the block, or in an earlier one, and then it is a target or still
pasted, having this successor outside the blocks done so far -/
theorem block_ready {k : Nat} {c : Cache} (inv : SInv ordered succs targets size c0 k c)
    (ht : isTopo succs ordered = true) (hd : ordered.Nodup) (h0d : ∀ x ∈ c0.held, x ∉ ordered)
    (hp : ∀ n ∈ ordered, ∀ p ∈ preds n, (p ∈ ordered ∧ n ∈ succs p) ∨ p ∈ c0.held) :
    Ready preds c.held (curBlock ordered size k) := by
  have hheld_sub : ∀ x, x ∈ c.held → x ∈ ordered.take (k * size) ∨ x ∈ c0.held :=
    fun x hx => ((inv.held x).mp hx).imp heldAt_sub id
  have key : ∀ rest done, curBlock ordered size k = done ++ rest → Ready preds (c.held ++ done) rest := by
    intro rest
    induction rest with
    | nil => exact fun _ _ => .nil _
    | cons n rest ih =>
      intro done hB
      have eo : ordered =
          (ordered.take (k * size) ++ done) ++ n :: (rest ++ ordered.drop ((k + 1) * size)) := by
        rw [List.append_assoc, ← List.cons_append, ← List.append_assoc done, ← hB, ← List.append_assoc,
          ← take_succ_mul, List.take_append_drop]
      have hd' := hd
      have ht' := ht
      rw [eo] at hd' ht'
      have hnpre : n ∉ ordered.take (k * size) ++ done :=
        fun hc => (List.nodup_append.mp hd').2.2 n hc n List.mem_cons_self rfl
      have hnord : n ∈ ordered := mem_of_mem_block (hB ▸ List.mem_append_right _ List.mem_cons_self)
      refine .cons (fun hc => ?_) (fun p hpm => ?_)
        (by rw [List.append_assoc]; exact ih (done ++ [n]) (by rw [hB, List.append_assoc]; rfl))
      · rcases List.mem_append.mp hc with hc | hc
        · rcases hheld_sub n hc with hc | hc
          · exact hnpre (List.mem_append_left _ hc)
          · exact h0d n hc hnord
        · exact hnpre (List.mem_append_right _ hc)
      · rcases hp n hnord p hpm with ⟨hpo, hsucc⟩ | hp0
        · rw [eo] at hpo
          rcases List.mem_append.mp (isTopo_pred_strict ht' hd' hpo hsucc) with hpt | hpd
          · refine List.mem_append_left _ ((inv.held p).mpr (Or.inl ?_))
            by_cases hpt' : p ∈ targets
            · exact Or.inr ⟨hpt', hpt⟩
            · exact Or.inl (pastedAt_of_pending k hpt hpt'
                (hasSuccOutside_true.mpr ⟨n, hsucc, fun hc => hnpre (List.mem_append_left _ hc)⟩))
          · exact List.mem_append_right _ hpd
        · exact List.mem_append_left _ ((inv.held p).mpr (Or.inr hp0))
  simpa using key (curBlock ordered size k) [] rfl

theorem step_inv (ht : isTopo succs ordered = true) (hd : ordered.Nodup)
    (h0 : c0.WF) (h0d : ∀ x ∈ c0.held, x ∉ ordered) (h0e : ∀ e ∈ c0.edges, e.1 ∉ ordered)
    (hp : ∀ n ∈ ordered, ∀ p ∈ preds n, (p ∈ ordered ∧ n ∈ succs p) ∨ p ∈ c0.held)
    (fuel k : Nat) (c : Cache) (inv : SInv ordered succs targets size c0 k c) :
    SInv ordered succs targets size c0 (k + 1)
      (execStep preds (fuel + 1) (stepAt ordered succs targets size k) c) := by
  obtain ⟨a, b, e, l⟩ := step_cache (O := (· ∈ ordered)) fuel h0 h0d h0e
    (fun x hx => ⟨List.mem_of_mem_take (heldAt_sub hx), take_block_disjoint hd (Nat.le_refl k) (heldAt_sub hx)⟩)
    (fun _ => mem_of_mem_block) (fun x hx => (mem_stepAt_paste.mp hx).1)
    (fun x hx => (mem_stepAt_clear.mp hx).elim (fun h => mem_of_mem_block h.1)
      (fun h => List.mem_of_mem_take (pastedAt_sub h.1).1))
    (fun _ => block_sub_paste_clear k) (heldAt_succ hd k) (block_ready inv ht hd h0d hp)
    inv.held inv.inputs inv.edges rfl
  exact ⟨a, b, e, l.trans (by rw [inv.log, take_succ_mul, List.append_assoc])⟩

theorem sinv_run (ht : isTopo succs ordered = true) (hd : ordered.Nodup)
    (h0 : c0.WF) (h0d : ∀ x ∈ c0.held, x ∉ ordered) (h0e : ∀ e ∈ c0.edges, e.1 ∉ ordered)
    (hp : ∀ n ∈ ordered, ∀ p ∈ preds n, (p ∈ ordered ∧ n ∈ succs p) ∨ p ∈ c0.held) (fuel m : Nat) :
    SInv ordered succs targets size c0 m ((List.range m).foldl
      (fun c k => execStep preds (fuel + 1) (stepAt ordered succs targets size k) c) c0) := by
  induction m with
  | zero => exact ⟨fun x => by simp [heldAt, pastedAt], fun x => by simp [heldAt, pastedAt], fun _ => Iff.rfl, by simp⟩
  | succ m ih =>
    rw [List.range_succ, List.foldl_append]
    exact step_inv ht hd h0 h0d h0e hp fuel m _ ih

/-- the statement of `C16.run_correct_from_any` -/
theorem run_from_any (hz : 1 ≤ size) (ht : isTopo succs ordered = true) (hd : ordered.Nodup)
    (h0 : c0.WF) (h0d : ∀ x ∈ c0.held, x ∉ ordered) (h0e : ∀ e ∈ c0.edges, e.1 ∉ ordered)
    (hp : ∀ n ∈ ordered, ∀ p ∈ preds n, (p ∈ ordered ∧ n ∈ succs p) ∨ p ∈ c0.held) (fuel : Nat)
    {r : Cache} (hr : r = execute preds (fuel + 1) (calcSteps ordered succs targets size) c0) :
    (∀ x, x ∈ r.held ↔ (x ∈ targets ∧ x ∈ ordered) ∨ x ∈ c0.held) ∧
    (∀ x, x ∈ r.inputs ↔ (x ∈ targets ∧ x ∈ ordered) ∨ x ∈ c0.inputs) ∧
    (∀ e, e ∈ r.edges ↔ e ∈ c0.edges) ∧ r.log = c0.log ++ ordered := by
  rw [execute_plan ordered succs targets size preds (fuel + 1) hz] at hr
  have inv := hr ▸ sinv_run (targets := targets) (size := size) ht hd h0 h0d h0e hp fuel
    (nSteps ordered succs targets size)
  have hlast := heldAt_nSteps (targets := targets) hz ht
  exact ⟨fun x => by rw [inv.held, hlast], fun x => by rw [inv.inputs, hlast], inv.edges,
    by rw [inv.log, List.take_of_length_le (nSteps_covers hz)]⟩

end run

section generate
variable (preds : Node → List Node) (fuel : Nat) (targets : List Node) (c : Cache)

theorem traceTargets_traced :
    Traced preds c (traceTargets preds fuel targets c) (calculated preds fuel targets c) [] ∧
      ∀ x ∈ calculated preds fuel targets c, ∃ t ∈ targets, t ∉ c.inputs ∧
        Anc (traceTargets preds fuel targets c).edges x t := by
  have key : ∃ new, Traced preds c (traceTargets preds fuel targets c) new [] ∧
      ∀ x ∈ new, ∃ t ∈ targets, t ∉ c.inputs ∧ Anc (traceTargets preds fuel targets c).edges x t := by
    unfold traceTargets
    induction targets generalizing c with
    | nil => exact ⟨[], Traced.refl preds c, fun _ hx => nomatch hx⟩
    | cons u us ih =>
      rw [List.foldl_cons]
      by_cases hu : u ∈ c.inputs
      · rw [if_pos hu]
        obtain ⟨new, t, a⟩ := ih c
        exact ⟨new, t, fun x hx => (a x hx).imp fun t h => ⟨List.mem_cons_of_mem _ h.1, h.2⟩⟩
      · rw [if_neg hu]
        obtain ⟨n1, t1, a1⟩ := evalNode_traced preds fuel u c
        obtain ⟨n2, t2, a2⟩ := ih (evalNode preds fuel u c)
        refine ⟨n1 ++ n2, t1.trans t2, fun x hx => ?_⟩
        rcases List.mem_append.mp hx with hx | hx
        · exact ⟨u, List.mem_cons_self, hu, (a1 x hx).mono t2.edges_mono⟩
        · obtain ⟨t, ht, hti, a⟩ := a2 x hx
          exact ⟨t, List.mem_cons_of_mem _ ht, t1.inputs ▸ hti, a⟩
  obtain ⟨new, t, a⟩ := key
  have : calculated preds fuel targets c = new := by rw [calculated, t.log, List.drop_left]
  rw [this]; exact ⟨t, a⟩

theorem target_traced :
    ∀ t ∈ targets, t ∉ c.inputs → t ∈ (traceTargets preds (fuel + 1) targets c).held := by
  induction targets generalizing c with
  | nil => exact fun t ht => nomatch ht
  | cons u us ih =>
    intro t ht hti
    -- after the first target `t` is held, and stays so, or it is among the other targets
    show t ∈ (traceTargets preds (fuel + 1) us (if u ∈ c.inputs then c else evalNode preds (fuel + 1) u c)).held
    by_cases hu : u ∈ c.inputs
    · rw [if_pos hu]
      exact (List.mem_cons.mp ht).elim (fun e => (hti (e ▸ hu)).elim) (fun h => ih c t h hti)
    · rw [if_neg hu]
      obtain ⟨_, t1, _⟩ := evalNode_traced preds (fuel + 1) u c
      exact (List.mem_cons.mp ht).elim
        (fun e => ((traceTargets_traced preds (fuel + 1) us _).1.held t).mpr (Or.inl (e ▸ evalNode_holds preds fuel u c)))
        (fun h => ih _ t h (t1.inputs ▸ hti))

theorem mem_preHeld {preds : Node → List Node} {fuel : Nat} {targets : List Node} {c : Cache} {p : Node} :
    p ∈ preHeld preds fuel targets c ↔
      (∃ t ∈ targets, (t ∉ c.inputs ∧ t ∈ (traceTargets preds fuel targets c).held) ∧
        p ∈ withAncs (traceTargets preds fuel targets c).edges t) ∧
      p ∉ calculated preds fuel targets c ∧ p ∉ c.inputs := by
  simp only [preHeld, List.mem_filter, List.mem_eraseDups, List.mem_flatMap, Bool.and_eq_true,
    Bool.not_eq_true', decide_eq_false_iff_not, decide_eq_true_eq, and_assoc]

theorem planned_of_anc {preds : Node → List Node} {fuel : Nat} {targets : List Node} {c : Cache} {p t : Node}
    (ht : t ∈ targets) (hti : t ∉ c.inputs)
    (hp : p ∈ withAncs (traceTargets preds (fuel + 1) targets c).edges t) (hpi : p ∉ c.inputs) :
    p ∈ planned preds (fuel + 1) targets c := by
  by_cases hc : p ∈ calculated preds (fuel + 1) targets c
  · exact List.mem_append_left _ hc
  · exact List.mem_append_right _
      (mem_preHeld.mpr ⟨⟨t, ht, ⟨hti, target_traced preds fuel targets c t ht hti⟩, hp⟩, hc, hpi⟩)

/-- clauses 2 and 3 are the first two of `C16.generate_leaves_nothing` -/
theorem generateLeaves_general
    (h : c.WF) :
    (generateLeaves preds fuel targets c).WF ∧
    (∀ x, x ∈ (generateLeaves preds fuel targets c).inputs ↔ x ∈ c.inputs) ∧
    (∀ x ∈ (generateLeaves preds fuel targets c).held, x ∈ c.held ∧ x ∉ planned preds fuel targets c) ∧
    (generateLeaves preds fuel targets c).log = (traceTargets preds fuel targets c).log ∧
    (∀ e ∈ (generateLeaves preds fuel targets c).edges, e ∈ (traceTargets preds fuel targets c).edges) := by
  have tr := (traceTargets_traced preds fuel targets c).1
  obtain ⟨w3, h3i, h3h, h3l, h3e⟩ :=
    clear_fold (planned preds fuel targets c) (traceTargets preds fuel targets c) (tr.wf h)
  refine ⟨w3, fun x => ?_, fun x hx => ?_, h3l, h3e⟩
  · -- no user input is planned: what ran was not held, and `preHeld` leaves the inputs out
    rw [generateLeaves, h3i, tr.inputs]
    refine ⟨fun hx => hx.1, fun hx => ⟨hx, fun hp => ?_⟩⟩
    rcases List.mem_append.mp hp with hp | hp
    · exact tr.fresh x hp (h.inputsHeld x hx)
    · exact (mem_preHeld.mp hp).2.2 hx
  · obtain ⟨h1, h2⟩ := h3h x hx
    exact ⟨((tr.held x).mp h1).resolve_right fun hn => h2 (List.mem_append_left _ hn), h2⟩

/-- the statement of `C16.generate_restores_inputs_only_cache` -/
theorem generateLeaves_spec
    (h : c.WF) (hc : ∀ x ∈ c.held, x ∈ c.inputs) :
    (∀ x, x ∈ (generateLeaves preds fuel targets c).held ↔ x ∈ c.held) ∧
    (∀ x, x ∈ (generateLeaves preds fuel targets c).inputs ↔ x ∈ c.inputs) ∧
    (generateLeaves preds fuel targets c).edges = [] := by
  obtain ⟨w3, hin, hheld, _, _⟩ := generateLeaves_general preds fuel targets c h
  exact ⟨fun x => ⟨fun hx => (hheld x hx).1, fun hx => w3.inputsHeld x ((hin x).mpr (hc x hx))⟩, hin,
    edges_nil_of_inputs_only w3 fun x hx => (hin x).mpr (hc x (hheld x hx).1)⟩

end generate

end MxModel.CalcSteps
