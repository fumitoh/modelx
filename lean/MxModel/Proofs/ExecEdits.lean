import MxModel.Proofs.ExecGraph
/-!
# Assignments and top-level calls preserve the graph invariant

`GI.addInput`: assigning a value to an element that holds nothing adds an input node with no
predecessors.  `GI.topCall`: `runN_graph` from an idle executor.  With them the look-up after
`dropValues` and membership in `elemsOf`, for the clearing edits (whose part of the
invariant is `GI.of_clr`, `ExecCertEdit`).
-/
namespace MxModel.Exec

variable {env : Env} {lt : Node → Node → Prop}

theorem lookup_dropValues (d : List (Node × Val)) (ns : List Node) (m : Node) :
    lookup (d.filter (fun e => !ns.contains e.1)) m = if ns.contains m then none else lookup d m := by
  induction d with
  | nil => simp
  | cons e rest ih =>
    obtain ⟨k, v⟩ := e
    by_cases hk : ns.contains k = true
    · simp only [List.filter, hk, Bool.not_true, lookup_cons, ih]
      by_cases hkm : k = m
      · subst hkm; rw [hk]; simp
      · simp [hkm]
    · have hk' : ns.contains k = false := by simpa using hk
      simp only [List.filter, hk', Bool.not_false, lookup_cons, ih]
      by_cases hkm : k = m
      · subst hkm; rw [hk']; simp
      · simp [hkm]

theorem mem_elemsOf (g : List GNode) (m : Node) : m ∈ elemsOf g ↔ GNode.elem m ∈ g := by
  unfold elemsOf
  simp only [List.mem_filterMap]
  constructor
  · rintro ⟨x, hx, h⟩
    cases x with
    | elem n => simp at h; subst h; exact hx
    | obj c => simp at h
  · intro h; exact ⟨.elem m, h, rfl⟩

/-- `s'` is given by its fields, those of `Assigned` (`ExecCertOps`), not as a term of `setValue` -/
theorem GI.addInput {s1 s' : St} (g : GI env lt s1) (hst1 : s1.stack = []) (n : Node) (v : Val)
    (hc : env.cached n.1 = true) (hun : lookup s1.data n = none)
    (hdata : s'.data = insert s1.data n v) (hstack : s'.stack = [])
    (hgn : ∀ x, x ∈ s'.gn ↔ x ∈ s1.gn ∨ x = .elem n) (hge : s'.ge = s1.ge)
    (hinp : ∀ m, m ∈ s'.inputs ↔ m ∈ s1.inputs ∨ m = n) : GI env lt s' := by
  have hnot : GNode.elem n ∉ s1.gn := by
    intro h
    rcases g.nodesHeld n h with h' | h'
    · rw [hun] at h'; cases h'
    · rw [hst1] at h'; cases h'
  constructor
  · intro m hm
    left
    rw [hdata, lookup_insert]
    split
    · rfl
    · rename_i hmn
      rcases (hgn _).mp hm with h | h
      · rcases g.nodesHeld m h with h' | h'
        · exact h'
        · rw [hst1] at h'; cases h'
      · cases h; exact absurd rfl hmn
  · intro m hm
    rw [hdata, lookup_insert] at hm
    split at hm
    · rename_i h; subst h; exact ⟨(hgn _).mpr (Or.inr rfl), hc⟩
    · exact ⟨(hgn _).mpr (Or.inl (g.heldNodes m hm).1), (g.heldNodes m hm).2⟩
  · intro m hm; rw [hstack] at hm; cases hm
  · intro a b hab; exact g.edgesOrd a b (hge ▸ hab)
  · intro a b hab
    rw [hge] at hab
    exact ⟨(hgn _).mpr (Or.inl (g.edgeNodes a b hab).1), (hgn _).mpr (Or.inl (g.edgeNodes a b hab).2)⟩
  · intro m hm
    rw [hdata, lookup_insert]
    split
    · rfl
    · rename_i hmn
      rcases (hinp m).mp hm with h | h
      · exact g.inputsHeld m h
      · exact absurd h.symm hmn
  · intro a m ham hin
    rw [hge] at ham
    rcases (hinp m).mp hin with h | h
    · exact g.inputsNoPreds a m ham h
    · subst h; exact hnot (g.edgeNodes a _ ham).2
  · intro m hm
    rcases (hgn _).mp hm with h | h
    · exact g.elemCached m h
    · cases h; exact hc

theorem GI.topCall (ho : StrictOrder lt) (hr : Ranked env lt) (g : GI env lt s)
    (hst : s.stack = []) (hidx : s.idx = []) (n : Node) :
    GI env lt (evalTop env n s).2 ∧ (evalTop env n s).2.stack = [] ∧ (evalTop env n s).2.idx = [] ∧
    Ext s (evalTop env n s).2 := by
  have hs := evalTop_step env n s
  generalize evalTop env n s = q at hs
  have hrun : (env.cached n.1 = true → lookup s.data n = none) → _ := fun hu =>
    (runN_graph ho hr (env.maxdepth + 1) n s g
      (by intro j i hji; rw [hidx] at hji; simp at hji) (by simp [hst, hidx])
      (by intro a ha; rw [hst] at ha; cases ha) (g.unheld_of hu)).1
  cases hs with
  | held v _ _ => exact ⟨g, hst, hidx, Ext.refl s⟩
  | ok v s1 hu hr' =>
    have := hrun hu
    rw [hr'] at this
    obtain ⟨g1, h1, h2, h3⟩ := this
    exact ⟨GI.of_sameG (s := s1) ⟨rfl, rfl, rfl, rfl, rfl, rfl⟩ g1, h1.trans hst, h2.trans hidx, h3⟩
  | err e s1 hu hr' =>
    have := hrun hu
    rw [hr'] at this
    obtain ⟨g1, h1, h2, h3⟩ := this
    exact ⟨GI.of_sameG (s := s1) ⟨rfl, rfl, rfl, rfl, rfl, rfl⟩ g1, h1.trans hst, h2.trans hidx, h3⟩

end MxModel.Exec
