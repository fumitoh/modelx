import MxModel.Proofs.ExecBasic
/-!
# The evaluator case by case, and an evaluation as a sequence of primitive steps

`evalNode`, `runN` and `evalTop` branch on flags, on the cache and on the outcome of the formula.
`NodeStep`, `Closes` and `TopStep` name the branches once, each with what is known in it; a proof
about the evaluator takes the cases of `evalNode_step`, `runN_succ`, `evalTop_step` (after
`generalize`-ing the call) instead of unfolding the function.

Whatever the formulas do, an evaluation changes the state only by `newExc`, `noteRead`, `hitEdge`,
restoring the caller's exception (`keepExc`), raising the `hit` flag, storing a value, and by
frames that are pushed and then rolled back or popped.  A reflexive and transitive relation kept by
each of these (`EvalSteps`) is kept by `runBody`, `evalNode`, `runN` and `evalTop`.  `R` sees states
only: an invariant that speaks about the RESULT of a call, or needs a hypothesis on the program
being run, takes the cases above in an induction of its own.
-/
namespace MxModel.Exec

inductive NodeStep (env : Env) (ef : Node → St → Res × St) (n : Node) (s : St) : Res × St → Prop
  | hit (v : Val) : env.alive n.1 = true → env.cached n.1 = true → lookup s.data n = some v →
      NodeStep env ef n s (.ok v, s.hitEdge n)
  | run : env.alive n.1 = true → (env.cached n.1 = true → lookup s.data n = none) →
      NodeStep env ef n s (keepExc s (ef n s))
  | dead : env.alive n.1 = false → NodeStep env ef n s (.err errDead, s.newExc)

theorem evalNode_step (env : Env) (ef : Node → St → Res × St) (n : Node) (s : St) :
    NodeStep env ef n s (evalNode env ef n s) := by
  unfold evalNode
  split
  · rename_i ha
    split
    · rename_i hc
      split
      · rename_i v hl; exact .hit v ha hc hl
      · rename_i hl; exact .run ha (fun _ => hl)
    · rename_i hc; exact .run ha (fun h => absurd h hc)
  · rename_i ha; exact .dead (by simpa using ha)

/-- how `runN env (d + 1) n` ends the frame of `n`, given the outcome `p` of the formula -/
inductive Closes (env : Env) (n : Node) : Res × St → Res × St → Prop
  | fail (e : Err) (s1 : St) : Closes env n (.err e, s1) (.err e, s1.rollback n)
  | noneRet (s1 : St) : env.cached n.1 = true → env.allowNone n.1 = false →
      Closes env n (.ok .none, s1) (.err .noneRet, s1.newExc.rollback n)
  | stored (v : Val) (s1 : St) : env.cached n.1 = true → (v = .none → env.allowNone n.1 = true) →
      Closes env n (.ok v, s1) (.ok v, ({ s1 with data := insert s1.data n v } : St).pop env n)
  | uncached (v : Val) (s1 : St) : env.cached n.1 = false → Closes env n (.ok v, s1) (.ok v, s1.pop env n)

theorem runN_zero (env : Env) (n : Node) (s : St) :
    runN env 0 n s = (.err .deep, ({ s with hit := true } : St).newExc) := rfl

theorem runN_succ (env : Env) (d : Nat) (n : Node) (s : St) :
    Closes env n (runBody env (evalNode env (runN env d)) (env.formula n) (s.push env n))
      (runN env (d + 1) n s) := by
  simp only [runN]
  generalize runBody env (evalNode env (runN env d)) (env.formula n) (s.push env n) = p
  obtain ⟨r, s1⟩ := p
  cases r with
  | err e => exact .fail e s1
  | ok v =>
    simp only []
    split
    · rename_i hc
      split
      · rename_i hn
        simp only [Bool.and_eq_true, decide_eq_true_eq, Bool.not_eq_true'] at hn
        rw [hn.1]; exact .noneRet s1 hc hn.2
      · rename_i hn
        refine .stored v s1 hc (fun hv => ?_)
        simpa [hv] using hn
    · rename_i hc; exact .uncached v s1 (by simpa using hc)

theorem Closes.fst {env : Env} {n : Node} {p q : Res × St} (h : Closes env n p q) :
    q.1 = checkNone env n.1 p.1 := by
  cases h with
  | fail e s1 => rfl
  | noneRet s1 hc ha => simp [checkNone, hc, ha]
  | stored v s1 hc ha =>
    cases v with
    | int i => rfl
    | none => simp [checkNone, ha rfl]
  | uncached v s1 hc => cases v <;> simp [checkNone, hc]

inductive TopStep (env : Env) (n : Node) (s : St) : TopRes × St → Prop
  | held (v : Val) : env.cached n.1 = true → lookup s.data n = some v → TopStep env n s (.ok v, s)
  | ok (v : Val) (s1 : St) : (env.cached n.1 = true → lookup s.data n = none) →
      runN env (env.maxdepth + 1) n s = (.ok v, s1) →
      TopStep env n s (.ok v, { s1 with rolledback := [], lastErr := none, lastTb := [] })
  | err (e : Err) (s1 : St) : (env.cached n.1 = true → lookup s.data n = none) →
      runN env (env.maxdepth + 1) n s = (.err e, s1) →
      TopStep env n s
        (.formulaError e ((s1.rolledback.filter (fun x => x.2 == s1.curExc)).map (·.1)).reverse,
         { s1 with rolledback := [], lastErr := some e,
                   lastTb := ((s1.rolledback.filter (fun x => x.2 == s1.curExc)).map (·.1)).reverse })

theorem evalTop_step (env : Env) (n : Node) (s : St) : TopStep env n s (evalTop env n s) := by
  unfold evalTop
  split
  · rename_i v hl
    split at hl
    · rename_i hc; exact .held v hc hl
    · cases hl
  · rename_i hl
    have hu : env.cached n.1 = true → lookup s.data n = none := fun hc => by simpa [hc] using hl
    generalize hp : runN env (env.maxdepth + 1) n s = p
    obtain ⟨r, s1⟩ := p
    cases r with
    | ok v => exact .ok v s1 hu hp
    | err e => exact .err e s1 hu hp

/-- `R` is kept by every state change of an evaluation.  `Pre n s` is what the steps may use of the
moment `_eval_formula` is entered for `n` in state `s`; `eval_node` enters it for a cells that
exists and, if cached, holds nothing for `n` (`enter`).  A frame is a bracket: from `R` between the
state after the push and the state `s1` the formula left, to `R` between the caller's state and
the state after `rollback` / `pop`. -/
structure EvalSteps (env : Env) (Pre : Node → St → Prop) (R : St → St → Prop) : Prop where
  refl : ∀ s, R s s
  trans : ∀ {a b c}, R a b → R b c → R a c
  newExc : ∀ s, R s s.newExc
  noteRead : ∀ s a r, R s (s.noteRead a r)
  hitEdge : ∀ s n, env.alive n.1 = true → env.cached n.1 = true → (lookup s.data n).isSome = true →
    R s (s.hitEdge n)
  restore : ∀ s c e, R s { s with curExc := c, excStack := e }
  hit : ∀ s, R s { s with hit := true }
  store : ∀ s n v, R s { s with data := insert s.data n v }
  enter : ∀ n s, env.alive n.1 = true → (env.cached n.1 = true → lookup s.data n = none) → Pre n s
  rollback : ∀ n s s1, Pre n s → R (s.push env n) s1 → R s (s1.rollback n)
  pop : ∀ n s s1, Pre n s → (env.cached n.1 = true → (lookup s1.data n).isSome = true) →
    R (s.push env n) s1 → R s (s1.pop env n)
  finish : ∀ s e tb, R s { s with rolledback := [], lastErr := e, lastTb := tb }

variable {env : Env} {Pre : Node → St → Prop} {R : St → St → Prop}

theorem runBody_rel (h : EvalSteps env Pre R) (f : Node → St → Res × St)
    (hf : ∀ n s, R s (f n s).2) : ∀ (p : Prog) (s : St), R s (runBody env f p s).2 := by
  intro p
  induction p with
  | ret v => exact h.refl
  | raise e => exact h.newExc
  | reraise e => exact h.refl
  | read a r k ih => intro s; exact h.trans (h.noteRead s _ r) (ih _ _)
  | call n k ih => intro s; exact h.trans (hf n s) (ih _ _)

theorem evalNode_rel (h : EvalSteps env Pre R) (ef : Node → St → Res × St)
    (hef : ∀ n s, Pre n s → R s (ef n s).2) (n : Node) (s : St) : R s (evalNode env ef n s).2 := by
  have hs := evalNode_step env ef n s
  generalize evalNode env ef n s = q at hs
  cases hs with
  | hit v ha hc hl => exact h.hitEdge s n ha hc (by rw [hl]; rfl)
  | run ha hu =>
    have h1 := hef n s (h.enter n s ha hu)
    cases hr : (ef n s).1 with
    | ok v => rw [keepExc_ok s _ v hr]; exact h.trans h1 (h.restore _ _ _)
    | err e => rw [keepExc_err s _ e hr]; exact h1
  | dead ha => exact h.newExc s

theorem runN_rel (h : EvalSteps env Pre R) : ∀ (d : Nat) (n : Node) (s : St), Pre n s →
    R s (runN env d n s).2 := by
  intro d
  induction d with
  | zero => intro n s _; exact h.trans (h.hit s) (h.newExc _)
  | succ d ih =>
    intro n s hp
    have hb := runBody_rel h _ (evalNode_rel h _ ih) (env.formula n) (s.push env n)
    have hc := runN_succ env d n s
    generalize runBody env (evalNode env (runN env d)) (env.formula n) (s.push env n) = p at hb hc
    generalize runN env (d + 1) n s = q at hc
    cases hc with
    | fail e s1 => exact h.rollback n s s1 hp hb
    | noneRet s1 _ _ => exact h.rollback n s _ hp (h.trans hb (h.newExc s1))
    | stored v s1 _ _ =>
      exact h.pop n s _ hp (fun _ => by simp [lookup_insert]) (h.trans hb (h.store s1 n v))
    | uncached v s1 hc => exact h.pop n s s1 hp (fun hc' => by rw [hc] at hc'; cases hc') hb

theorem evalTop_rel (h : EvalSteps env Pre R) (n : Node) (s : St)
    (hp : (env.cached n.1 = true → lookup s.data n = none) → Pre n s) : R s (evalTop env n s).2 := by
  have hs := evalTop_step env n s
  generalize evalTop env n s = q at hs
  cases hs with
  | held v _ _ => exact h.refl s
  | ok v s1 hu hr =>
    have := runN_rel h (env.maxdepth + 1) n s (hp hu)
    rw [hr] at this
    exact h.trans this (h.finish s1 _ _)
  | err e s1 hu hr =>
    have := runN_rel h (env.maxdepth + 1) n s (hp hu)
    rw [hr] at this
    exact h.trans this (h.finish s1 _ _)

end MxModel.Exec
