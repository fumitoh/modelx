import MxModel.Proofs.StructMechSubs
/-!
# The operations of the mechanism as "accepted ⇒ this state"

Every operation of `Struct/Mech.lean` is a chain of refusals followed by one expression for the new state.
Here each gets its equation `st.op … = if st.acceptsOp … then some (new state) else none` and, from it,
what an accepted call gives (`op_some`: the checks as propositions, and the new state).  The invariant
(`StructMechOps*`), the effect (`StructMechEffect`) and the frame (`StructMechFrame`) of an operation all
start from `op_some`.
-/
namespace MxModel.SM
open MxModel.C3

section guards
variable {α : Type}

theorem ite_not_none (b : Bool) (x : Option α) :
    (if (!b) = true then none else x) = if b = true then x else none := by cases b <;> rfl

theorem ite_not_or_none (b c : Bool) (x : Option α) :
    (if (!b || !c) = true then none else x) = if (b && c) = true then x else none := by
  cases b <;> cases c <;> rfl

theorem ite_and_none (b c : Bool) (x : Option α) :
    (if b = true then (if c = true then x else none) else none) = if (b && c) = true then x else none := by
  cases b <;> cases c <;> rfl

theorem ite_none_else (b : Bool) (x : Option α) :
    (if b = true then none else x) = if (!b) = true then x else none := by cases b <;> rfl

theorem isSome_of_eq_ite {x : Option α} {b : Bool} {y : α} (he : x = if b = true then some y else none) :
    x.isSome = b := by
  subst he; cases b <;> rfl

theorem of_eq_ite_some {x : Option α} {b : Bool} {y z : α} (he : x = if b = true then some y else none)
    (h : x = some z) : b = true ∧ z = y := by
  subst he
  cases b with
  | false => cases h
  | true => exact ⟨rfl, (Option.some.inj h).symm⟩

end guards

/-- `new_cells` / `new_ref` after the checks: the definition, then the walk over the sub spaces -/
def St.newMember (st : St) (a : Attr) (p : Path) (name : String) (v : Nat) : St :=
  ((st.setMem a p name { derived := false, payload := v }).subs p).foldl
    (fun s q => s.newMemberSub a p name v q) (st.setMem a p name { derived := false, payload := v })

def St.rebase (st : St) (p : Path) (g : List Path → List Path) : St :=
  st.upd p (fun s => { s with bases := g s.bases })

def St.push (st : St) (ns : Space) : St := { st with spaces := st.spaces ++ [ns] }

/-- the space `newSpace` appends before anything is derived into it -/
def freshSpace (parent : Path) (name : String) (bases : List Path) : Space :=
  { id := parent ++ [name], bases := dedupLast bases, cells := [], refs := [] }

def stripBases (removed : List Path) (s : Space) : Space :=
  { s with bases := s.bases.filter (fun b => !removed.contains b) }

def St.without (st : St) (removed : List Path) : St :=
  { st with spaces := List.map (stripBases removed) (st.spaces.filter (fun s => !removed.contains s.id)) }

/-- the spaces `delSpace p` removes: `p` and everything below it in the tree -/
def St.removedBy (st : St) (p : Path) : List Path := st.ids.filter (isPrefix p)

/-- the sub spaces `delSpace p` re-derives (its `toUpdate`) -/
def St.rederivedBy (st : St) (p : Path) : List Path :=
  ((st.removedBy p).flatMap st.subs).eraseDups.filter (fun q => !(st.removedBy p).contains q)

theorem mem_removedBy (st : St) (p q : Path) : q ∈ st.removedBy p ↔ q ∈ st.ids ∧ isPrefix p q = true := by
  unfold St.removedBy; simp

theorem kindOf_none (st : St) (q : Path) (n : String) (h : st.kindOf q n = none) :
    st.mem .cells q n = none ∧ n ∉ st.childNames q ∧ st.mem .refs q n = none ∧ n ∉ st.globals := by
  unfold St.kindOf at h
  cases hc : st.mem .cells q n with
  | some _ => simp [hc] at h
  | none =>
    cases hr : st.mem .refs q n with
    | some _ => simp [hc, hr] at h
    | none =>
      by_cases hg : n ∈ st.globals
      · simp [hc, hr, hg] at h
      · by_cases hch : n ∈ st.childNames q
        · simp [hc, hr, hg, hch] at h
        · exact ⟨rfl, hch, rfl, hg⟩

theorem kindOf_cells (st : St) (q : Path) (n : String) (h : st.kindOf q n = some .cells) :
    (st.mem .cells q n).isSome = true := by
  cases hc : st.mem .cells q n with
  | some _ => rfl
  | none =>
    unfold St.kindOf at h
    rw [hc] at h
    simp only [Option.isSome_none, Bool.false_eq_true, if_false] at h
    split at h
    · cases h
    · split at h <;> cases h

theorem canAdd_space {st : St} {p : Path} {n : String} {k : Kind} (hp : p ≠ [])
    (h : st.canAdd p n k = true) :
    st.kindOf p n = none ∧ ∀ q ∈ st.subs p, st.kindOf q n = none ∨ st.kindOf q n = some k := by
  unfold St.canAdd at h
  have hpb : (p == []) = false := by simpa using hp
  simp only [hpb, Bool.false_eq_true, if_false] at h
  cases hk : st.kindOf p n with
  | some _ => simp [hk] at h
  | none =>
    simp only [hk, Option.isSome_none, Bool.false_eq_true, if_false] at h
    refine ⟨rfl, fun q hq => ?_⟩
    have := List.all_eq_true.mp h q hq
    cases hkq : st.kindOf q n with
    | none => exact Or.inl rfl
    | some k' =>
      rw [hkq] at this
      exact Or.inr (by rw [beq_iff_eq.mp this])

theorem canAdd_model {st : St} {n : String} {k : Kind} (h : st.canAdd [] n k = true) :
    n ∉ st.childNames [] ∧ n ∉ st.globals := by
  unfold St.canAdd at h
  simpa using h

theorem not_mem_ids_of_canAdd (st : St) (parent : Path) (name : String) (k : Kind)
    (h : st.canAdd parent name k = true) : parent ++ [name] ∉ st.ids := by
  rw [← mem_childNames]
  by_cases hp0 : parent = []
  · subst hp0; exact (canAdd_model h).1
  · exact (kindOf_none st parent name (canAdd_space hp0 h).1).2.1

theorem canAdd_space_free {st : St} (h : WF st) (parent : Path) (new : String)
    (hc : st.canAdd parent new .space = true) :
    (parent ++ [new]) ∉ st.ids ∧ st.mem .cells parent new = none ∧ st.mem .refs parent new = none ∧
      (parent = [] → new ∉ st.globals) := by
  refine ⟨not_mem_ids_of_canAdd st parent new .space hc, ?_⟩
  by_cases hp : parent = []
  · subst hp
    have h0 : ([] : Path) ∉ st.ids := fun hh => (h.tree [] hh).1 rfl
    exact ⟨St.mem_of_not_mem st _ [] new h0, St.mem_of_not_mem st _ [] new h0, fun _ => (canAdd_model hc).2⟩
  · obtain ⟨h1, _, h3, _⟩ := kindOf_none st parent new (canAdd_space hp hc).1
    exact ⟨h1, h3, fun e => absurd e hp⟩

def St.acceptsNewCells (kw : List String) (st : St) (p : Path) (name : String) : Bool :=
  st.has p && Names.isValidName kw name && st.canAdd p name .cells

theorem newCells_eq (kw : List String) (st : St) (p : Path) (name : String) (v : Nat) :
    st.newCells kw p name v =
      if st.acceptsNewCells kw p name = true then some (st.newMember .cells p name v) else none := by
  unfold St.newCells St.acceptsNewCells
  cases st.has p <;> cases Names.isValidName kw name <;> cases st.canAdd p name .cells <;> rfl

theorem newCells_isSome (kw : List String) (st : St) (p : Path) (name : String) (v : Nat) :
    (st.newCells kw p name v).isSome = st.acceptsNewCells kw p name := by
  exact isSome_of_eq_ite (newCells_eq kw st p name v)

theorem newCells_some {kw : List String} {st st' : St} {p : Path} {name : String} {v : Nat}
    (hop : st.newCells kw p name v = some st') :
    p ∈ st.ids ∧ Names.isValidName kw name = true ∧ st.canAdd p name .cells = true ∧
      st' = st.newMember .cells p name v := by
  obtain ⟨hacc, rfl⟩ := of_eq_ite_some (newCells_eq ..) hop
  simp only [St.acceptsNewCells, Bool.and_eq_true, has_iff_mem_ids] at hacc
  exact ⟨hacc.1.1, hacc.1.2, hacc.2, rfl⟩

theorem setFormula_eq (st : St) (p : Path) (name : String) (v : Nat) :
    st.setFormula p name v =
      if (st.mem .cells p name).isSome = true then some (st.changeMember .cells p name v) else none := by
  unfold St.setFormula
  cases st.mem .cells p name <;> rfl

theorem setFormula_isSome (st : St) (p : Path) (name : String) (v : Nat) :
    (st.setFormula p name v).isSome = (st.mem .cells p name).isSome := by
  exact isSome_of_eq_ite (setFormula_eq st p name v)

theorem delMember_eq (st : St) (a : Attr) (p : Path) (name : String) :
    st.delMember a p name =
      if (st.defd a p name).isSome = true then
        some ((st.delMem a p name).updateAll (p :: (st.delMem a p name).subs p))
      else none := by
  unfold St.delMember St.defd
  cases st.mem a p name with
  | none => rfl
  | some m => cases hd : m.derived <;> simp [hd]

theorem delMember_isSome (st : St) (a : Attr) (p : Path) (name : String) :
    (st.delMember a p name).isSome = (st.defd a p name).isSome := by
  exact isSome_of_eq_ite (delMember_eq st a p name)

theorem newRef_eq (st : St) (p : Path) (name : String) (v : Nat) :
    st.newRef p name v = if st.newRefOk p name = true then some (st.newMember .refs p name v) else none := by
  unfold St.newRef
  exact ite_not_none _ _

theorem newRefOk_free {st : St} {p : Path} {name : String} (h : st.newRefOk p name = true) (q : Path)
    (hq : q = p ∨ q ∈ st.subs p) : st.mem .cells q name = none ∧ name ∉ st.childNames q := by
  have hq' : q ∈ p :: st.subs p := List.mem_cons.mpr hq
  unfold St.newRefOk at h
  split at h
  · simpa using List.all_eq_true.mp h q hq'
  · have := List.all_eq_true.mp h q hq'
    simp only [Option.isNone_iff_eq_none] at this
    exact ⟨(kindOf_none st q name this).1, (kindOf_none st q name this).2.1⟩

/-- `space.name = value`: the space exists, the name is valid, and either the space has a reference of
the name already (own or derived: it becomes / stays an own one), or the name is neither a cells nor
a child space of it and `new_ref`'s test of the space and its sub spaces (`St.newRefOk`) passes -/
def St.acceptsSetRef (kw : List String) (st : St) (p : Path) (name : String) : Bool :=
  st.has p && Names.isValidName kw name &&
    ((st.mem .refs p name).isSome ||
      (st.kindOf p name != some .cells && st.kindOf p name != some .space && st.newRefOk p name))

theorem setRef_eq (kw : List String) (st : St) (p : Path) (name : String) (v : Nat) :
    st.setRef kw p name v =
      if st.acceptsSetRef kw p name = true then
        some (if (st.mem .refs p name).isSome = true then st.changeMember .refs p name v
          else st.newMember .refs p name v)
      else none := by
  unfold St.setRef St.acceptsSetRef
  cases st.has p with
  | false => rfl
  | true =>
    cases Names.isValidName kw name with
    | false => rfl
    | true =>
      cases st.mem .refs p name with
      | some m => rfl
      | none =>
        cases hk : st.kindOf p name with
        | none => simp [newRef_eq]
        | some k => cases k <;> simp [newRef_eq]

theorem setRef_some {kw : List String} {st st' : St} {p : Path} {name : String} {v : Nat}
    (hop : st.setRef kw p name v = some st') :
    p ∈ st.ids ∧ Names.isValidName kw name = true ∧
      (((st.mem .refs p name).isSome = true ∧ st' = st.changeMember .refs p name v) ∨
       (st.mem .refs p name = none ∧ st.newRefOk p name = true ∧ st' = st.newMember .refs p name v)) := by
  obtain ⟨hacc, rfl⟩ := of_eq_ite_some (setRef_eq ..) hop
  simp only [St.acceptsSetRef, Bool.and_eq_true, has_iff_mem_ids, Bool.or_eq_true] at hacc
  refine ⟨hacc.1.1, hacc.1.2, ?_⟩
  cases hm : st.mem .refs p name with
  | some m => exact Or.inl ⟨rfl, by simp⟩
  | none =>
    rw [hm] at hacc
    exact Or.inr ⟨rfl, (hacc.2.resolve_left (by simp)).2, by simp⟩

/-- no validity test: `ModelImpl.set_attr` refuses the name of a top-level space and nothing else -/
def St.acceptsSetGlobal (st : St) (name : String) : Bool :=
  !(st.childNames []).contains name

theorem setGlobal_eq (st : St) (name : String) :
    st.setGlobal name =
      if st.acceptsSetGlobal name = true then
        some { st with globals := if st.globals.contains name then st.globals else st.globals ++ [name] }
      else none := by
  unfold St.setGlobal St.acceptsSetGlobal
  cases (st.childNames []).contains name <;> rfl

theorem delGlobal_eq (st : St) (name : String) :
    st.delGlobal name =
      if st.globals.contains name = true then some { st with globals := st.globals.filter (· != name) }
      else none := rfl

def St.acceptsAddBases (st : St) (p : Path) (bs : List Path) : Bool :=
  st.has p && bs.all st.has &&
    (let st1 := st.rebase p (fun l => l.filter (fun b => !(dedupLast bs).contains b) ++ dedupLast bs)
     st1.ids.all (fun q => (st1.mro q).isSome) &&
       (p :: st1.subs p).all (fun d => match st1.mro d with
         | some l => st1.noConflict l (st1.childNames d)
         | none => false))

theorem addBases_eq (st : St) (p : Path) (bs : List Path) :
    st.addBases p bs =
      if st.acceptsAddBases p bs = true then
        some ((st.rebase p (fun l => l.filter (fun b => !(dedupLast bs).contains b) ++ dedupLast bs)).updateAll
          (p :: (st.rebase p (fun l => l.filter (fun b => !(dedupLast bs).contains b) ++ dedupLast bs)).subs p))
      else none := by
  unfold St.addBases St.acceptsAddBases St.rebase
  simp only [ite_not_or_none, ite_not_none, ite_and_none, Bool.and_assoc]
  rfl

theorem addBases_some {st st' : St} {p : Path} {bs : List Path} (hop : st.addBases p bs = some st')
    (st1 : St) (hst1 : st1 = st.rebase p (fun l => l.filter (fun b => !(dedupLast bs).contains b) ++ dedupLast bs)) :
    p ∈ st.ids ∧ (∀ b ∈ bs, b ∈ st.ids) ∧ (∀ q ∈ st1.ids, (st1.mro q).isSome = true) ∧
      (∀ d ∈ p :: st1.subs p, ∀ l, st1.mro d = some l → st1.noConflict l (st1.childNames d) = true) ∧
      st' = st1.updateAll (p :: st1.subs p) := by
  obtain ⟨hacc, rfl⟩ := of_eq_ite_some (addBases_eq ..) hop
  simp only [St.acceptsAddBases, ← hst1, Bool.and_eq_true, has_iff_mem_ids, List.all_eq_true] at hacc
  refine ⟨hacc.1.1, hacc.1.2, hacc.2.1, fun d hd l hl => ?_, by rw [hst1]⟩
  have := hacc.2.2 d hd
  rw [hl] at this
  exact this

def St.acceptsRemoveBases (st : St) (p : Path) (bs : List Path) : Bool :=
  st.has p && bs.all st.has && bs.all (fun b => (st.basesOf p).contains b) && (bs.eraseDups.length == bs.length) &&
    (let st1 := st.rebase p (fun l => l.filter (fun b => !bs.contains b))
     st1.ids.all (fun q => (st1.mro q).isSome))

theorem removeBases_eq (st : St) (p : Path) (bs : List Path) :
    st.removeBases p bs =
      if st.acceptsRemoveBases p bs = true then
        some ((st.rebase p (fun l => l.filter (fun b => !bs.contains b))).updateAll (p :: st.subs p))
      else none := by
  unfold St.removeBases St.acceptsRemoveBases St.rebase
  simp only [bne, ite_not_or_none, ite_not_none, ite_and_none, Bool.and_assoc]

theorem removeBases_some {st st' : St} {p : Path} {bs : List Path} (hop : st.removeBases p bs = some st')
    (st1 : St) (hst1 : st1 = st.rebase p (fun l => l.filter (fun b => !bs.contains b))) :
    p ∈ st.ids ∧ (∀ q ∈ st1.ids, (st1.mro q).isSome = true) ∧ st' = st1.updateAll (p :: st.subs p) := by
  obtain ⟨hacc, rfl⟩ := of_eq_ite_some (removeBases_eq ..) hop
  simp only [St.acceptsRemoveBases, ← hst1, Bool.and_eq_true, has_iff_mem_ids, List.all_eq_true] at hacc
  exact ⟨hacc.1.1.1.1, hacc.2, by rw [hst1]⟩

def St.acceptsNewSpace (kw : List String) (st : St) (parent : Path) (name : String) (bases : List Path) : Bool :=
  (parent == [] || st.has parent) && bases.all st.has && st.canAdd parent name .space &&
    Names.isValidName kw name &&
    (match (st.push (freshSpace parent name bases)).mro (parent ++ [name]) with
     | some l => (st.push (freshSpace parent name bases)).noConflict l []
     | none => false)

theorem newSpace_eq (kw : List String) (st : St) (parent : Path) (name : String) (bases : List Path) :
    st.newSpace kw parent name bases =
      if st.acceptsNewSpace kw parent name bases = true then
        some ((st.push (freshSpace parent name bases)).updateDerived (parent ++ [name]))
      else none := by
  unfold St.newSpace St.acceptsNewSpace St.push freshSpace
  simp only [ite_not_or_none, ite_not_none, ite_and_none]
  generalize St.mro _ _ = m
  cases m with
  | none => simp
  | some l => simp only [ite_and_none, Bool.and_assoc]

theorem newSpace_some {kw : List String} {st st' : St} {parent : Path} {name : String} {bases : List Path}
    (hop : st.newSpace kw parent name bases = some st') :
    (parent = [] ∨ parent ∈ st.ids) ∧ (∀ b ∈ bases, b ∈ st.ids) ∧ st.canAdd parent name .space = true ∧
      Names.isValidName kw name = true ∧
      (∃ l, (st.push (freshSpace parent name bases)).mro (parent ++ [name]) = some l ∧
        (st.push (freshSpace parent name bases)).noConflict l [] = true) ∧
      st' = (st.push (freshSpace parent name bases)).updateDerived (parent ++ [name]) := by
  obtain ⟨hacc, rfl⟩ := of_eq_ite_some (newSpace_eq ..) hop
  simp only [St.acceptsNewSpace, Bool.and_eq_true, Bool.or_eq_true, beq_iff_eq, has_iff_mem_ids,
    List.all_eq_true] at hacc
  refine ⟨hacc.1.1.1.1, hacc.1.1.1.2, hacc.1.1.2, hacc.1.2, ?_, rfl⟩
  cases hm : (st.push (freshSpace parent name bases)).mro (parent ++ [name]) with
  | none => rw [hm] at hacc; cases hacc.2
  | some l => rw [hm] at hacc; exact ⟨l, rfl, hacc.2⟩

def St.acceptsDelSpace (st : St) (p : Path) : Bool :=
  st.has p &&
    (((st.removedBy p).flatMap st.subs).eraseDups.filter (fun q => !(st.removedBy p).contains q)).all
      (fun q => ((st.without (st.removedBy p)).mro q).isSome)

theorem delSpace_eq (st : St) (p : Path) :
    st.delSpace p =
      if st.acceptsDelSpace p = true then some ((st.without (st.removedBy p)).updateAll (st.rederivedBy p))
      else none := by
  unfold St.delSpace St.acceptsDelSpace St.rederivedBy St.removedBy St.without stripBases
  simp only [ite_not_none, ite_and_none]

theorem delSpace_some {st st' : St} {p : Path} (hop : st.delSpace p = some st') :
    p ∈ st.ids ∧ (∀ q ∈ st.rederivedBy p, ((st.without (st.removedBy p)).mro q).isSome = true) ∧
      st' = (st.without (st.removedBy p)).updateAll (st.rederivedBy p) := by
  obtain ⟨hacc, rfl⟩ := of_eq_ite_some (delSpace_eq ..) hop
  simp only [St.acceptsDelSpace, Bool.and_eq_true, has_iff_mem_ids, List.all_eq_true] at hacc
  exact ⟨hacc.1, hacc.2, rfl⟩

def St.acceptsRename (kw : List String) (st : St) (p : Path) (old new : String) : Bool :=
  (st.mem .cells p old).isSome && Names.isValidName kw new && st.canAdd p new .cells &&
    !(st.tail p).any (fun b => (st.mem .cells b old).isSome)

theorem renameCells_isSome (kw : List String) (st : St) (p : Path) (old new : String) :
    (st.renameCells kw p old new).isSome = st.acceptsRename kw p old new := by
  unfold St.renameCells St.acceptsRename
  cases st.mem .cells p old with
  | none => rfl
  | some m =>
    simp only [ite_not_none]
    cases Names.isValidName kw new <;> cases st.canAdd p new .cells <;>
      cases (st.tail p).any (fun b => (st.mem .cells b old).isSome) <;> rfl

/-- the spaces `renameCells p old new` renames in: `p`, and the sub spaces whose cells `old` is their own
or derived from `p`'s -/
def St.renameTargets (st : St) (p : Path) (old : String) : List Path :=
  (p :: st.subs p).filter (fun q =>
    match st.mem .cells q old with
    | none => false
    | some m =>
      q == p || !m.derived ||
        (match st.firstDef .cells (st.tail q) old with
         | some (b, _) => b == p
         | none => false))

theorem renameCells_some {kw : List String} {st st' : St} {p : Path} {old new : String}
    (hop : st.renameCells kw p old new = some st') :
    ∃ m, st.mem .cells p old = some m ∧ Names.isValidName kw new = true ∧ st.canAdd p new .cells = true ∧
      (st.tail p).any (fun b => (st.mem .cells b old).isSome) = false ∧
      st' = ((st.renameTargets p old).foldl (fun s q => s.renameIn p old new q) st).updateAll
        (((st.renameTargets p old).foldl (fun s q => s.renameIn p old new q) st).subs p) := by
  unfold St.renameCells at hop
  cases hm : st.mem .cells p old with
  | none => rw [hm] at hop; cases hop
  | some m =>
    rw [hm] at hop
    simp only [ite_not_none] at hop
    simp only [ite_none_else, ite_and_none] at hop
    obtain ⟨hacc, rfl⟩ := of_eq_ite_some rfl hop
    simp only [Bool.and_eq_true, Bool.not_eq_true'] at hacc
    exact ⟨m, rfl, hacc.1, hacc.2.1, hacc.2.2, rfl⟩

theorem setRefs_cons_some {kw : List String} {st st' : St} {p : Path} {e : String × Nat}
    {rest : List (String × Nat)} (hop : st.setRefs kw p (e :: rest) = some st') :
    ∃ s, st.setRef kw p e.1 e.2 = some s ∧ s.setRefs kw p rest = some st' := by
  simp only [St.setRefs] at hop
  cases hs : st.setRef kw p e.1 e.2 with
  | none => rw [hs] at hop; cases hop
  | some s => rw [hs] at hop; exact ⟨s, rfl, hop⟩

theorem newSpaceRefs_some {kw : List String} {st st' : St} {parent : Path} {name : String} {bases : List Path}
    {refs : List (String × Nat)} (hop : st.newSpaceRefs kw parent name bases refs = some st') :
    ∃ st1, st.newSpace kw parent name bases = some st1 ∧ st1.setRefs kw (parent ++ [name]) refs = some st' := by
  unfold St.newSpaceRefs at hop
  cases hs : st.newSpace kw parent name bases with
  | none => rw [hs] at hop; cases hop
  | some st1 => rw [hs] at hop; exact ⟨st1, rfl, hop⟩

/-- the name a new cells gets (`CellsImpl.__init__`): the one given if valid, else the formula's if
valid, else the next automatic name that can be added -/
def St.cellsName (kw : List String) (st : St) (p : Path) (name fname : String) : String :=
  if Names.isValidName kw name then name
  else if Names.isValidName kw fname then fname
  else Names.cand "" "Cells" (st.autoCells p)

theorem newCellsNamed_some {kw : List String} {st st' : St} {p : Path} {name fname : String} {v : Nat}
    (hop : st.newCellsNamed kw p name fname v = some st') :
    ∃ s x, st.newCells kw p (st.cellsName kw p name fname) v = some s ∧ st' = { s with namers := x } := by
  unfold St.newCellsNamed at hop
  unfold St.cellsName
  split at hop
  · rename_i h1
    exact ⟨st', st'.namers, by rw [if_pos h1]; exact hop, rfl⟩
  · rename_i h1
    split at hop
    · rename_i h2
      exact ⟨st', st'.namers, by rw [if_neg h1, if_pos h2]; exact hop, rfl⟩
    · rename_i h2
      rw [if_neg h1, if_neg h2]
      simp only at hop
      cases hs : st.newCells kw p (Names.cand "" "Cells" (st.autoCells p)) v with
      | none => rw [hs] at hop; cases hop
      | some s =>
        rw [hs] at hop
        exact ⟨s, _, rfl, (Option.some.inj hop).symm⟩

theorem delSpaceOp_some {st st' : St} {p : Path} (hop : st.delSpaceOp p = some st') :
    ∃ s x, st.delSpace p = some s ∧ st' = { s with namers := x } := by
  unfold St.delSpaceOp at hop
  cases hs : st.delSpace p with
  | none => rw [hs] at hop; cases hop
  | some s =>
    rw [hs] at hop
    exact ⟨s, _, rfl, (Option.some.inj hop).symm⟩

end MxModel.SM
