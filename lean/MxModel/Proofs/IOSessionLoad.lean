import MxModel.Proofs.IOSessionInv
import MxModel.Proofs.Foldl
/-! `load` of `Kernels/IOSession.lean`, followed phase by phase (`Phase`): it keeps the session invariant, so that every
state the session reaches has it (`reachable_inv`), and when it fails (`load … false`) it leaves the io state of the
session exactly as it was. -/
namespace MxModel.IOSession

/-- what a file object was before the load: registered before (`iid < i`), with the specs it had (`sid < n`) -/
def old (n i : Nat) (io : Io) : Option Io :=
  if io.iid < i then
    (if (io.specs.filter (fun s => decide (s.sid < n))).isEmpty then none
     else some { io with specs := io.specs.filter (fun s => decide (s.sid < n)) })
  else none

def restr (n i : Nat) (l : List Io) : List Io := l.filterMap (old n i)

theorem old_self {n i : Nat} {io : Io} (h1 : io.iid < i) (h2 : io.specs ≠ []) (h3 : ∀ s ∈ io.specs, s.sid < n) :
    old n i io = some io := by
  have hf : io.specs.filter (fun s => decide (s.sid < n)) = io.specs :=
    List.filter_eq_self.2 (fun s hs => by simpa using h3 s hs)
  unfold old
  rw [hf]
  have : io.specs.isEmpty = false := by
    cases hh : io.specs with
    | nil => exact absurd hh h2
    | cons a r => rfl
  simp [h1, this]

theorem restr_self {n i : Nat} {l : List Io}
    (h : ∀ io ∈ l, io.iid < i ∧ io.specs ≠ [] ∧ ∀ s ∈ io.specs, s.sid < n) : restr n i l = l :=
  (filterMap_congr' fun io hio => old_self (h io hio).1 (h io hio).2.1 (h io hio).2.2).trans List.filterMap_some

theorem old_congr {n i : Nat} {a b : Io} (h1 : a.iid = b.iid) (h2 : a.group = b.group) (h3 : a.path = b.path)
    (h4 : a.multi = b.multi)
    (h5 : a.specs.filter (fun s => decide (s.sid < n)) = b.specs.filter (fun s => decide (s.sid < n))) :
    old n i a = old n i b := by
  obtain ⟨_, _, _, _, sa⟩ := a
  obtain ⟨_, _, _, _, sb⟩ := b
  cases h1; cases h2; cases h3; cases h4
  dsimp only at h5
  simp only [old, h5]

theorem restr_congr_map {n i : Nat} (f : Io → Io) (l : List Io) (h : ∀ x ∈ l, old n i (f x) = old n i x) :
    restr n i (l.map f) = restr n i l :=
  List.filterMap_map.trans (filterMap_congr' h)

theorem restr_addSpec {n i : Nat} {st st' : St} {m : Nat} {p : Path} {multi : Bool} {sheet : Option String} {v : Nat}
    (ha : addSpec st m p multi sheet v = some st') (hn : n ≤ st.nextSid) (hi : i ≤ st.nextIid) :
    restr n i st'.ios = restr n i st.ios := by
  rcases addSpec_cases ha with rfl | rfl
  · apply restr_congr_map
    intro x _
    split
    · refine old_congr rfl rfl rfl rfl ?_
      have : decide (st.nextSid < n) = false := decide_eq_false (Nat.not_lt.2 hn)
      simp only [List.filter_append, List.filter_cons, this, Bool.false_eq_true, ↓reduceIte, List.filter_nil,
        List.append_nil]
    · rfl
  · have : old n i ⟨st.nextIid, keyGroup m p, p, multi, [⟨st.nextSid, v, sheet⟩]⟩ = none := by
      unfold old
      rw [if_neg (Nat.not_lt.2 hi)]
    simp only [restr, List.filterMap_append, List.filterMap_cons, this, List.filterMap_nil, List.append_nil]

theorem restr_dropSids {n i : Nat} {d : List Nat} (hd : ∀ x ∈ d, n ≤ x) (l : List Io) :
    restr n i (l.filterMap (Io.dropSids d)) = restr n i l := by
  refine List.filterMap_filterMap.trans (filterMap_congr' fun io _ => ?_)
  have hf : (io.specs.filter (fun s => !d.contains s.sid)).filter (fun s => decide (s.sid < n)) =
      io.specs.filter (fun s => decide (s.sid < n)) := by
    rw [List.filter_filter]
    refine List.filter_congr fun s _ => ?_
    cases hc : d.contains s.sid with
    | false => simp
    | true => simpa using hd s.sid (List.contains_iff_mem.1 hc)
  rcases dropSids_cases d io with ⟨e, he⟩ | ⟨e, _⟩ <;> rw [e]
  · show none = old n i io
    unfold old
    rw [← hf, he]
    simp
  · exact old_congr rfl rfl rfl rfl hf

theorem restr_filter {n i : Nat} (p : Io → Bool) (l : List Io)
    (h : ∀ io ∈ l, ∀ io', old n i io = some io' → p io = true) :
    restr n i (l.filter p) = restr n i l := by
  refine List.filterMap_filter.trans (filterMap_congr' fun io hio => ?_)
  split
  · rfl
  · rename_i hp
    cases ho : old n i io with
    | none => rfl
    | some io' => exact absurd (h io hio io' ho) hp

theorem old_some {n i : Nat} {io io' : Io} (h : old n i io = some io') : io'.iid = io.iid := by
  unfold old at h
  split at h
  · split at h
    · simp at h
    · simp only [Option.some.injEq] at h
      rw [← h]
  · simp at h

/-- what holds of the state while a load of model `m` with the new values `V` is under way, relative to the state
`st0` before it -/
structure Phase (st0 : St) (V : List Nat) (m : Nat) (st : St) : Prop where
  inv : Inv st
  sidGe : st0.nextSid ≤ st.nextSid
  iidGe : st0.nextIid ≤ st.nextIid
  restr : restr st0.nextSid st0.nextIid st.ios = st0.ios
  newVals : ∀ io ∈ st.ios, ∀ s ∈ io.specs, V.contains s.val = true → st0.nextSid ≤ s.sid
  mRefs : ∀ r ∈ st.refs, r.model = m → V.contains r.val = true
  others : ∀ m', m' ≠ m →
    st.refs.filter (fun r => r.model == m') = st0.refs.filter (fun r => r.model == m')
  mLt : m < st.nextModel

theorem phase_addSpec {st0 : St} {V : List Nat} {m : Nat} {st st' : St} (h : Phase st0 V m st)
    {p : Path} {multi : Bool} {sheet : Option String} {v : Nat}
    (ha : addSpec st m p multi sheet v = some st') : Phase st0 V m st' := by
  have hA := addSpec_specs ha
  refine ⟨inv_addSpec h.inv ha, ?_, Nat.le_trans h.iidGe hA.nextIid, ?_, ?_, ?_, ?_, ?_⟩
  · rw [hA.nextSid]; exact Nat.le_succ_of_le h.sidGe
  · rw [restr_addSpec ha h.sidGe h.iidGe]; exact h.restr
  · intro io' hio' s hs hv
    rcases hA.specs io' hio' s hs with ⟨e, _⟩ | ⟨io, hio, hsm, _⟩
    · rw [e]; exact h.sidGe
    · exact h.newVals io hio s hsm hv
  · rw [hA.refs]; exact h.mRefs
  · rw [hA.refs]; exact h.others
  · rw [hA.nextModel]; exact h.mLt

theorem phase_delSids {st0 : St} {V : List Nat} {m : Nat} {st : St} (h : Phase st0 V m st)
    {d : List Nat} (hd : ∀ x ∈ d, st0.nextSid ≤ x) : Phase st0 V m (delSids st d) := by
  refine ⟨inv_delSids h.inv d, h.sidGe, h.iidGe, ?_, ?_, h.mRefs, h.others, h.mLt⟩
  · show IOSession.restr _ _ (st.ios.filterMap (Io.dropSids d)) = _
    rw [restr_dropSids hd]; exact h.restr
  · intro io' hio' s hs hv
    rcases shrinks_dropSids d st.ios io' hio' with ⟨io, hio, _, _, _, hsub, _⟩
    exact h.newVals io hio s (hsub s hs) hv

theorem phase_release {st0 : St} {V : List Nat} {m : Nat} {st : St} (h : Phase st0 V m st)
    {v : Nat} (hv : V.contains v = true) : Phase st0 V m (release st m v) := by
  unfold release
  split
  · exact h
  · split
    · rename_i f hf
      apply phase_delSids h
      intro x hx
      simp only [List.mem_singleton] at hx
      rcases findVal_some hf with ⟨io, hio, hs, hval, _, _⟩
      rw [hx]
      exact h.newVals io (mem_view.1 hio).1 f.spec hs (by rw [hval]; exact hv)
    · exact h

theorem filter_model_map {m m' : Nat} (hne : m' ≠ m) (n : String) (v : Nat) (l : List Ref) :
    (l.map (fun r => if isRef m n r then (⟨m, n, v⟩ : Ref) else r)).filter (fun r => r.model == m')
      = l.filter (fun r => r.model == m') := by
  induction l with
  | nil => rfl
  | cons r rest ih =>
    simp only [List.map_cons, List.filter_cons]
    rw [ih]
    by_cases hr : isRef m n r = true
    · have h1 : (r.model == m') = false := by
        simp only [isRef, Bool.and_eq_true, beq_iff_eq] at hr
        rw [hr.1]
        simpa using fun h => hne h.symm
      have h2 : (m == m') = false := by simpa using fun h => hne h.symm
      simp [hr, h1, h2]
    · simp [hr]

theorem phase_setRefs {st0 : St} {V : List Nat} {m : Nat} {st : St} (h : Phase st0 V m st) {r' : List Ref}
    (h1 : ∀ r ∈ r', r.model = m → V.contains r.val = true)
    (h2 : ∀ m', m' ≠ m → r'.filter (fun r => r.model == m') = st.refs.filter (fun r => r.model == m')) :
    Phase st0 V m { st with refs := r' } := by
  refine ⟨inv_setRefs h.inv r' fun r hr => ?_, h.sidGe, h.iidGe, h.restr, h.newVals, h1,
    fun m' hne => (h2 m' hne).trans (h.others m' hne), h.mLt⟩
  by_cases hm : r.model = m
  · rw [hm]; exact h.mLt
  · have : r ∈ st.refs.filter (fun x => x.model == r.model) :=
      h2 _ hm ▸ List.mem_filter.2 ⟨hr, beq_self_eq_true _⟩
    exact h.inv.refLt r (List.mem_filter.1 this).1

theorem phase_bind {st0 : St} {V : List Nat} {m : Nat} {st : St} (h : Phase st0 V m st)
    (n : String) {v : Nat} (hv : V.contains v = true) : Phase st0 V m (bind st m n v) := by
  unfold bind
  split
  · refine phase_setRefs h (fun r hr hm => ?_) (fun m' hne => ?_)
    · rcases List.mem_append.1 hr with hr | hr
      · exact h.mRefs r hr hm
      · rw [List.mem_singleton.1 hr]; exact hv
    · have h2 : (m == m') = false := beq_eq_false_iff_ne.2 fun e => hne e.symm
      simp only [List.filter_append, List.filter_cons, h2, Bool.false_eq_true, ↓reduceIte, List.filter_nil,
        List.append_nil]
  · rename_i oldr hfind
    have hold : V.contains oldr.val = true := by
      have hp := List.find?_some hfind
      rw [isRef, Bool.and_eq_true, beq_iff_eq] at hp
      exact h.mRefs oldr (List.mem_of_find?_eq_some hfind) hp.1
    refine phase_release (phase_setRefs h (fun r hr hm => ?_) (fun m' hne => filter_model_map hne n v _)) hold
    rcases List.mem_map.1 hr with ⟨r0, hr0, e⟩
    split at e
    · rw [← e]; exact hv
    · rw [← e] at hm ⊢; exact h.mRefs r0 hr0 hm

theorem phase_bindItems {st0 : St} {V : List Nat} {m : Nat} (items : List Item) (st : St) (h : Phase st0 V m st)
    (hv : ∀ it ∈ items, V.contains it.val = true) : Phase st0 V m (bindItems st m items) :=
  bindItems_induction m items st (fun it hit _ hs => phase_bind hs it.name (hv it hit)) h

/-- `read` holds exactly the spec identities handed out since the load began (`n0`: the counter then, `n`: now) -/
def ReadSince (n0 n : Nat) (read : List Nat) : Prop :=
  (∀ k ∈ read, n0 ≤ k) ∧ ∀ k, n0 ≤ k → k < n → k ∈ read

theorem phase_readSpecs {st0 : St} {V : List Nat} {m : Nat} : ∀ (items : List Item) (st : St) (acc : List Nat),
    Phase st0 V m st → ReadSince st0.nextSid st.nextSid acc →
    Phase st0 V m (readSpecs st m items acc).1 ∧
    ReadSince st0.nextSid (readSpecs st m items acc).1.nextSid (readSpecs st m items acc).2.1
  | [], _, _, h, hr => ⟨h, hr⟩
  | it :: rest, st, acc, h, hr => by
    unfold readSpecs
    split
    · exact ⟨h, hr⟩
    · rename_i st' ha
      refine phase_readSpecs rest st' (acc ++ [st.nextSid]) (phase_addSpec h ha) ⟨fun k hk => ?_, fun k hk hlt => ?_⟩
      · rcases List.mem_append.1 hk with hk | hk
        · exact hr.1 k hk
        · rw [List.mem_singleton.1 hk]; exact h.sidGe
      · rw [(addSpec_specs ha).nextSid] at hlt
        rcases Nat.lt_succ_iff_lt_or_eq.1 hlt with hlt | heq
        · exact List.mem_append_left _ (hr.2 k hk hlt)
        · exact List.mem_append_right _ (by simp [heq])

theorem phase_cleanup {st0 : St} {V : List Nat} {m : Nat} {st : St} (h0 : Inv st0) (h : Phase st0 V m st)
    {read : List Nat} (hr : ReadSince st0.nextSid st.nextSid read) :
    (cleanup st m (st0.ios.map (·.iid)) read).ios = st0.ios ∧ (cleanup st m (st0.ios.map (·.iid)) read).refs = st.refs := by
  refine ⟨?_, cleanup_refs st m _ read⟩
  -- `del_all_spec` of the half-read model deletes specs of the load only
  have hD : ∀ x ∈ (specsOf st m).map (·.spec.sid), st0.nextSid ≤ x := by
    intro x hx
    rcases List.mem_map.1 hx with ⟨f, hf, e⟩
    rcases mem_specsOf hf with ⟨io, hio, _, hs, _, _, hb⟩
    rcases List.any_eq_true.1 hb with ⟨r, hr, hrm⟩
    rw [Bool.and_eq_true, beq_iff_eq, beq_iff_eq] at hrm
    rw [← e]
    exact h.newVals io hio f.spec hs (by rw [← hrm.2]; exact h.mRefs r hr hrm.1)
  obtain ⟨d, hd, hios⟩ := closeModel_ios st m
  -- so the restriction of the result is the registry of before
  have hc : restr st0.nextSid st0.nextIid ((closeModel st m).ios.filterMap (Io.dropSids read)) = st0.ios := by
    rw [restr_dropSids hr.1, hios]
    show restr _ _ (st.ios.filterMap (Io.dropSids d)) = _
    rw [restr_dropSids fun x hx => hD x (hd x hx)]; exact h.restr
  have hR : restr st0.nextSid st0.nextIid (cleanup st m (st0.ios.map (·.iid)) read).ios = st0.ios := by
    rw [cleanup_ios, restr_filter, hc]
    intro io hio io' ho
    have hmem : io' ∈ restr st0.nextSid st0.nextIid ((closeModel st m).ios.filterMap (Io.dropSids read)) :=
      List.mem_filterMap.2 ⟨io, hio, ho⟩
    rw [hc] at hmem
    exact List.contains_iff_mem.2 (List.mem_map.2 ⟨io', hmem, old_some ho⟩)
  -- and the result holds nothing but what its restriction holds
  refine (restr_self ?_).symm.trans hR
  intro io hio
  have hinv := inv_cleanup h.inv m (st0.ios.map (·.iid)) read
  obtain ⟨hsnap, hnr⟩ := cleanup_removes st m _ read io hio
  refine ⟨?_, hinv.nonempty io hio, fun s hs => ?_⟩
  · rcases List.mem_map.1 (List.contains_iff_mem.1 hsnap) with ⟨io0, h00, e⟩
    rw [← e]; exact h0.iidLt io0 h00
  · have hlt := hinv.sidLt io hio s hs
    rw [cleanup_nextSid] at hlt
    cases Nat.lt_or_ge s.sid st0.nextSid with
    | inl hl => exact hl
    | inr hge =>
      have hc := hnr s hs
      rw [List.contains_iff_mem.2 (hr.2 s.sid hge hlt)] at hc
      cases hc

theorem freshVals_not_mentioned {st : St} : ∀ {items : List Item}, freshVals st items = true →
    ∀ it ∈ items, mentions st it.val = false
  | [], _, _, h => by simp at h
  | a :: rest, hf, it, h => by
    simp only [freshVals, Bool.and_eq_true, Bool.not_eq_true'] at hf
    rcases List.mem_cons.1 h with e | e
    · rw [e]; exact hf.1.1
    · exact freshVals_not_mentioned hf.2 it e

theorem phase_load {st : St} (h : Inv st) {items : List Item} (hfresh : freshVals st items = true)
    {st2 : St} {read : List Nat} {all : Bool}
    (hrs : readSpecs { st with opened := st.opened ++ [st.nextModel], nextModel := st.nextModel + 1 }
      st.nextModel items [] = (st2, read, all)) :
    Phase st (items.map (·.val)) st.nextModel (bindItems st2 st.nextModel (if all then items else [])) ∧
    ReadSince st.nextSid (bindItems st2 st.nextModel (if all then items else [])).nextSid read := by
  have hp0 : Phase st (items.map (·.val)) st.nextModel
      { st with opened := st.opened ++ [st.nextModel], nextModel := st.nextModel + 1 } := by
    refine ⟨inv_newModel h, Nat.le_refl _, Nat.le_refl _, ?_, ?_, ?_, fun _ _ => rfl, Nat.lt_succ_self _⟩
    · exact restr_self (fun io hio => ⟨h.iidLt io hio, h.nonempty io hio, h.sidLt io hio⟩)
    · intro io hio s hs hv
      rcases List.mem_map.1 (List.contains_iff_mem.1 hv) with ⟨it, hit, e⟩
      have := freshVals_not_mentioned hfresh it hit
      rw [mentions, Bool.or_eq_false_iff, List.any_eq_false, List.any_eq_false] at this
      exact (this.2 io hio (List.any_eq_true.2 ⟨s, hs, beq_iff_eq.2 (e ▸ rfl)⟩)).elim
    · intro r hr hm
      exact absurd (h.refLt r hr) (by rw [hm]; exact Nat.lt_irrefl _)
  obtain ⟨p1, r⟩ := phase_readSpecs items _ [] hp0
    ⟨fun _ hk => absurd hk List.not_mem_nil, fun k hk hlt => absurd hlt (Nat.not_lt.2 hk)⟩
  rw [hrs] at p1 r
  refine ⟨phase_bindItems _ _ p1 fun it hit => ?_, by rw [bindItems_nextSid]; exact r⟩
  split at hit
  · exact List.contains_iff_mem.2 (List.mem_map.2 ⟨it, hit, rfl⟩)
  · cases hit

theorem inv_load {st : St} (h : Inv st) (items : List Item) (ok : Bool) : Inv (load st items ok).1 := by
  rcases load_cases st items ok with e | ⟨hfresh, st2, read, all, hrs, ⟨_, e⟩ | e⟩ <;> rw [e]
  · exact h
  · exact (phase_load h hfresh hrs).1.inv
  · exact inv_cleanup (phase_load h hfresh hrs).1.inv _ _ _

theorem inv_step {st : St} (h : Inv st) (op : Op) : Inv (step st op) := by
  unfold step stepR
  cases op with
  | newModel => exact inv_newModel h
  | close m => simp only; split; exact inv_closeModel h m; exact h
  | newSpec m n p multi sheet v => simp only; split; exact inv_newSpec h (by assumption) _ _ _ _ _; exact h
  | bind m n v => simp only; split; exact inv_bind h (by assumption) _ _; exact h
  | unbind m n => simp only; split; exact inv_unbind h m n; exact h
  | load items ok => exact inv_load h items ok

theorem reachable_inv (ops : List Op) : Inv (run {} ops) :=
  foldl_keeps Inv (fun _ op _ h => inv_step h op) inv_init

/-- **A failed load leaves the io state of the session exactly as it was**: the registry of file objects (identities,
keys, specs, order) and, for every model other than the half-read one, the references and `iospecs`. -/
theorem failed_load_restores {st : St} (h : Inv st) (items : List Item) :
    (load st items false).1.ios = st.ios ∧
    ∀ m', m' ≠ st.nextModel →
      (load st items false).1.refs.filter (fun r => r.model == m') = st.refs.filter (fun r => r.model == m') ∧
      specsOf (load st items false).1 m' = specsOf st m' := by
  rcases load_cases st items false with e | ⟨hfresh, st2, read, all, hrs, ⟨hok, _⟩ | e⟩
  · rw [e]; exact ⟨rfl, fun _ _ => ⟨rfl, rfl⟩⟩
  · cases hok
  rw [e]
  obtain ⟨p2, r⟩ := phase_load h hfresh hrs
  obtain ⟨c1, c2⟩ := phase_cleanup h p2 r
  refine ⟨c1, fun m' hne => ?_⟩
  have hf := p2.others m' hne
  rw [← c2] at hf
  exact ⟨hf, specsOf_congr m' hf c1⟩

end MxModel.IOSession
