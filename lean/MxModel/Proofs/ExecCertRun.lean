import MxModel.Proofs.ExecCertFrame
import MxModel.Proofs.ExecGraph
import MxModel.Proofs.ExecAlive
/-!
# Evaluation maintains the certificates (T1), part 1: formula bodies and `eval_node`

Regime: terminating programs (`Ranked env lt`, as in C06/C08) in which no formula turns a
failure into a value (`NoCatchEnv`).  No hypothesis about the depth limit is needed here: a
`DeepReferenceError` is a failure like any other and, uncaught, stores nothing.
-/
namespace MxModel.Exec

variable {env : Env} {lt : Node → Node → Prop}

/-- what holds at every point of an evaluation -/
structure Mid (env : Env) (lt : Node → Node → Prop) (s : St) : Prop where
  gi : GI env lt s
  idxok : IdxOK env s.stack s.idx
  len : s.idx.length = s.stack.length
  refsBelow : RefsBelow s
  certs : CInv env s

/-- the level of the frame that receives the reads an uncached callee hands over -/
def retLvl (s : St) : Option Nat := if s.stack = [] then none else some (s.stack.length - 1)

/-- the edges into the nearest cached caller `T` that a step added are justified by `evs` -/
def NewIn (s s' : St) (T : Option Node) (evs : List FEv) : Prop :=
  ∀ a t, T = some t → (a, GNode.elem t) ∈ s'.ge → (a, GNode.elem t) ∈ s.ge ∨ JustE evs a

theorem NewIn.mono {s s' : St} {T : Option Node} {evs evs' : List FEv} (h : NewIn s s' T evs)
    (hsub : ∀ ev ∈ evs, ev ∈ evs') : NewIn s s' T evs' :=
  fun a t hT he => (h a t hT he).imp id (JustE.mono hsub)

theorem NewIn.trans {a b c : St} {T : Option Node} {e1 e2 : List FEv} (h1 : NewIn a b T e1)
    (h2 : NewIn b c T e2) : NewIn a c T (e1 ++ e2) := by
  intro x t hT he
  rcases h2 x t hT he with h | h
  · exact (h1 x t hT h).imp id (JustE.mono (fun ev hm => List.mem_append_left _ hm))
  · exact Or.inr (JustE.mono (fun ev hm => List.mem_append_right _ hm) h)

theorem NewIn.of_ge {s s' : St} (T : Option Node) (evs : List FEv) (h : s'.ge = s.ge) : NewIn s s' T evs :=
  fun _ _ _ he => Or.inl (h ▸ he)

/-- what a callee that returned `w` leaves for the trace of its caller -/
def Ret (env : Env) (s s' : St) (T : Option Node) (lvl : Option Nat) (m : Node) (w : Val) : Prop :=
  (env.cached m.1 = true ∧ PendEv env s' T lvl (.call m w) ∧ NewIn s s' T [.call m w]) ∨
  (env.cached m.1 = false ∧ ∃ sub, Replay env sub (env.formula m) w ∧
    (∀ ev ∈ flat m.1 sub, PendEv env s' T lvl ev) ∧ PendEv env s' T lvl (.ucall m) ∧
    NewIn s s' T (.ucall m :: flat m.1 sub))

structure Post (env : Env) (lt : Node → Node → Prop) (s s' : St) : Prop where
  mid : Mid env lt s'
  idx : s'.idx = s.idx
  presH : PresH s s'
  presP : PresP s s'
  inputs : s'.inputs = s.inputs
  body : BodyRel s s'
  /-- among the executing elements, only the nearest cached caller gets new edges -/
  stackIn : ∀ a t, t ∈ s.stack → (a, GNode.elem t) ∈ s'.ge → (a, GNode.elem t) ∈ s.ge ∨ s.edgeTarget = some t

theorem Post.trans {a b c : St} (h1 : Post env lt a b) (h2 : Post env lt b c) : Post env lt a c :=
  ⟨h2.mid, h2.idx.trans h1.idx, h1.presH.trans h2.presH, h1.presP.trans h2.presP,
   h2.inputs.trans h1.inputs, h1.body.trans h2.body, fun x t ht he => by
     rcases h2.stackIn x t (by rw [h1.presP.stack]; exact ht) he with h | h
     · exact h1.stackIn x t ht h
     · exact Or.inr (by rw [← edgeTarget_same h1.presP.stack h1.idx]; exact h)⟩

theorem Post.of_same {s s' : St} (hm : Mid env lt s) (hg : SameG s s') (hc : SameC s s')
    (hb : BodyRel s s') : Post env lt s s' := by
  refine ⟨⟨GI.of_sameG hg hm.gi, by rw [hg.stack, hg.idx]; exact hm.idxok, by rw [hg.stack, hg.idx]; exact hm.len,
    hb.refsBelow hm.refsBelow, hm.certs.of_sameC hc⟩, hg.idx, PresH.of_sameC hc, ?_, hc.inputs, hb,
    fun _ _ _ he => Or.inl (hc.ge ▸ he)⟩
  refine ⟨Ext.of_data hc.data, hg.stack, fun a t _ h _ => by rw [hc.ge]; exact h, ?_⟩
  obtain ⟨new, hnew, _⟩ := hb.refs
  intro e he; rw [hnew]; exact List.mem_append_left _ he

def CalleeC (env : Env) (lt : Node → Node → Prop) (f : Node → St → Res × St) : Prop :=
  ∀ m s, Mid env lt s → (∀ a ∈ s.stack, lt m a) →
    Post env lt s (f m s).2 ∧
    ∀ w, (f m s).1 = .ok w → Ret env s (f m s).2 s.edgeTarget (retLvl s) m w

def EvalC (env : Env) (lt : Node → Node → Prop) (f : Node → St → Res × St) : Prop :=
  ∀ m s, Mid env lt s → (∀ a ∈ s.stack, lt m a) → lookup s.data m = none →
    Post env lt s (f m s).2 ∧
    ∀ w, (f m s).1 = .ok w → Ret env s (f m s).2 s.edgeTarget (retLvl s) m w

theorem sameC_noteRead (s : St) (a : Bool) (r : RefId) : SameC s (s.noteRead a r) := by
  unfold St.noteRead; split <;> exact ⟨rfl, rfl, rfl, rfl⟩

theorem sameC_addEdge_data (s : St) (a b : GNode) :
    (s.addEdge a b).data = s.data ∧ (s.addEdge a b).inputs = s.inputs ∧ (s.addEdge a b).rg = s.rg ∧
    (s.addEdge a b).stack = s.stack ∧ (s.addEdge a b).idx = s.idx ∧ (s.addEdge a b).refstack = s.refstack :=
  have hg := graphOnly_addEdge s a b
  ⟨hg.sameCache.data, hg.sameCache.inputs, hg.rg, hg.stack, hg.idx, hg.frameSame.refstack⟩

theorem addEdge_pres (s : St) (a : GNode) (t : Node) (ht : ¬ Held s t) :
    PresH s (s.addEdge a (.elem t)) ∧ PresP s (s.addEdge a (.elem t)) := by
  obtain ⟨hd, _, hr, hst, _, hrs⟩ := sameC_addEdge_data s a (.elem t)
  have hge : ∀ e ∈ s.ge, e ∈ (s.addEdge a (.elem t)).ge :=
    fun e he => (mem_addEdge_ge s a (.elem t) e).mpr (Or.inl he)
  refine ⟨⟨Ext.of_data hd, fun _ _ _ _ h => by rw [hd]; exact h, fun _ _ h _ _ => hge _ h,
      fun e he => by rw [hr]; exact he, ?_⟩,
    ⟨Ext.of_data hd, hst, fun _ _ _ h _ => hge _ h, fun e he => by rw [hrs]; exact he⟩⟩
  intro x n hn he
  rcases (mem_addEdge_ge s a (.elem t) _).mp he with h | h
  · exact h
  · cases h; exact absurd hn ht

theorem certs_addEdge (s : St) (a : GNode) (t : Node) (ht : ¬ Held s t) (hc : CInv env s) :
    CInv env (s.addEdge a (.elem t)) :=
  hc.presH (addEdge_pres s a t ht).1 (sameC_addEdge_data s a (.elem t)).2.1
    (fun n v hl hn _ => by rw [(sameC_addEdge_data s a (.elem t)).1] at hl; rw [hn] at hl; cases hl)

theorem retLvl_of_stack {s : St} {base : List Node} {n : Node} (h : s.stack = base ++ [n]) :
    retLvl s = some base.length := by
  unfold retLvl; rw [h]; simp

theorem PendEv.of_same {s s' : St} {T : Option Node} {lvl : Option Nat} (hd : s'.data = s.data)
    (hg : s'.ge = s.ge) (hr : s'.refstack = s.refstack) {ev : FEv} (p : PendEv env s T lvl ev) :
    PendEv env s' T lvl ev := by
  cases ev with
  | read c a r x => exact ⟨p.1, fun ha hx l hl => by rw [hr]; exact p.2 ha hx l hl⟩
  | call m w => exact ⟨by rw [hd]; exact p.1, fun t ht => by rw [hg]; exact p.2 t ht⟩
  | ucall m => exact fun t ht => by show _ ∈ s'.ge; rw [hg]; exact p t ht

theorem keepExc_cert (s0 s : St) (p : Res × St) (m : Node) (T : Option Node) (lvl : Option Nat)
    (h : Post env lt s p.2 ∧ ∀ w, p.1 = .ok w → Ret env s p.2 T lvl m w) :
    Post env lt s (keepExc s0 p).2 ∧ ∀ w, (keepExc s0 p).1 = .ok w → Ret env s (keepExc s0 p).2 T lvl m w := by
  have ho := keepExc_excOnly s0 p
  refine ⟨h.1.trans (Post.of_same h.1.mid (keepExc_sameG s0 p) ⟨ho.data, ho.inputs, ho.ge, ho.rg⟩
    (BodyRel.of_frameSame (frameSame_keepExc s0 p))), ?_⟩
  intro w hw
  rw [keepExc_fst] at hw
  have hni : ∀ evs, NewIn s p.2 T evs → NewIn s (keepExc s0 p).2 T evs :=
    fun evs hn a t hT he => hn a t hT (ho.ge ▸ he)
  rcases h.2 w hw with ⟨hc, hp, hn⟩ | ⟨hc, sub, hrep, hev, hu, hn⟩
  · exact Or.inl ⟨hc, hp.of_same ho.data ho.ge ho.refstack, hni _ hn⟩
  · exact Or.inr ⟨hc, sub, hrep, fun ev hm => (hev ev hm).of_same ho.data ho.ge ho.refstack,
      hu.of_same ho.data ho.ge ho.refstack, hni _ hn⟩

theorem evalNode_cert (ef : Node → St → Res × St) (hefG : EvalGL env lt (fun _ _ => True) ef) (hef : EvalC env lt ef) :
    CalleeC env lt (evalNode env ef) := by
  intro m s hm hbelow
  have hgraph := (evalNode_graphL rides_true ef hefG m s hm.gi hm.idxok hm.len hbelow).1
  have hs := evalNode_step env ef m s
  generalize evalNode env ef m s = q at hs hgraph ⊢
  cases hs with
  | dead ha =>
    -- the cells does not exist: the caller's code raises; only the exception fields change
    refine ⟨Post.of_same hm ⟨rfl, rfl, rfl, rfl, rfl, rfl⟩ ⟨rfl, rfl, rfl, rfl⟩
      ⟨rfl, rfl, [], by simp [St.newExc], by simp⟩, ?_⟩
    intro w hw; cases hw
  | run ha hu =>
    exact keepExc_cert s s _ m _ _ (hef m s hm hbelow (hm.gi.unheld_of hu))
  | hit v ha hc hl =>
    simp only [] at hgraph ⊢
    obtain ⟨g', hst', hidx', _⟩ := hgraph
    have hfs := frameSame_hitEdge s m
    have hdata : (s.hitEdge m).data = s.data := (sameCache_hitEdge s m).data
    have hinp : (s.hitEdge m).inputs = s.inputs := (sameCache_hitEdge s m).inputs
    have hunheld : ∀ t, s.edgeTarget = some t → ¬ Held s t := by
      intro t ht hh
      unfold Held at hh
      rw [hm.gi.stackUnheld t (edgeTarget_mem s t ht)] at hh; cases hh
    have hpres : PresH s (s.hitEdge m) ∧ PresP s (s.hitEdge m) ∧ CInv env (s.hitEdge m) := by
      unfold St.hitEdge
      cases ht : s.edgeTarget with
      | some t =>
        exact ⟨(addEdge_pres s _ t (hunheld t ht)).1, (addEdge_pres s _ t (hunheld t ht)).2,
          certs_addEdge s _ t (hunheld t ht) hm.certs⟩
      | none => exact ⟨PresH.refl s, PresP.refl s, hm.certs⟩
    have hgeq : ∀ e, e ∈ (s.hitEdge m).ge → e ∈ s.ge ∨ ∃ t, s.edgeTarget = some t ∧ e = (.elem m, .elem t) := by
      intro e he
      unfold St.hitEdge at he
      cases ht : s.edgeTarget with
      | some t => rw [ht] at he; exact ((mem_addEdge_ge s _ _ e).mp he).imp id (fun h => ⟨t, rfl, h⟩)
      | none => rw [ht] at he; exact Or.inl he
    refine ⟨⟨⟨g', by rw [hst', hidx']; exact hm.idxok, by rw [hst', hidx']; exact hm.len,
        (BodyRel.of_frameSame hfs).refsBelow hm.refsBelow, hpres.2.2⟩, hidx', hpres.1, hpres.2.1, hinp,
        BodyRel.of_frameSame hfs, ?_⟩, ?_⟩
    · intro a t _ he
      rcases hgeq _ he with h | ⟨t', ht', h⟩
      · exact Or.inl h
      · cases h; exact Or.inr ht'
    intro w hw
    cases hw
    left
    refine ⟨hc, ⟨by rw [hdata]; exact hl, ?_⟩, ?_⟩
    · intro t ht
      unfold St.hitEdge
      rw [ht]
      exact (mem_addEdge_ge s _ _ _).mpr (Or.inr rfl)
    · intro a t _ he
      rcases hgeq _ he with h | ⟨t', _, h⟩
      · exact Or.inl h
      · cases h; exact Or.inr (Or.inl ⟨m, v, rfl, by simp⟩)

theorem runBody_cert (ho : StrictOrder lt) (f : Node → St → Res × St) (hfC : CalleeC env lt f)
    (base : List Node) (n : Node) (hbelow : ∀ a ∈ base, lt n a) :
    ∀ (p : Prog), NoCatch p → CallsBelow lt n p → ∀ (s : St), Mid env lt s → s.stack = base ++ [n] →
      Post env lt s (runBody env f p s).2 ∧
      ∀ v, (runBody env f p s).1 = .ok v → ∃ tr, Replay env tr p v ∧
        (∀ ev ∈ flat n.1 tr, PendEv env (runBody env f p s).2 s.edgeTarget (some base.length) ev) ∧
        NewIn s (runBody env f p s).2 s.edgeTarget (flat n.1 tr) := by
  intro p
  induction p with
  | ret v0 =>
    intro _ _ s hm _
    refine ⟨Post.of_same hm ⟨rfl, rfl, rfl, rfl, rfl, rfl⟩ ⟨rfl, rfl, rfl, rfl⟩ (BodyRel.refl s), ?_⟩
    intro v hv
    simp only [runBody, Res.ok.injEq] at hv
    subst hv
    exact ⟨.nil, rfl, by simp [flat], NewIn.of_ge _ _ rfl⟩
  | raise e =>
    intro _ _ s hm _
    simp only [runBody]
    refine ⟨Post.of_same hm ⟨rfl, rfl, rfl, rfl, rfl, rfl⟩ ⟨rfl, rfl, rfl, rfl⟩
      ⟨rfl, rfl, [], by simp [St.newExc], by simp⟩, ?_⟩
    intro v hv; cases hv
  | reraise e =>
    intro _ _ s hm _
    refine ⟨Post.of_same hm ⟨rfl, rfl, rfl, rfl, rfl, rfl⟩ ⟨rfl, rfl, rfl, rfl⟩ (BodyRel.refl s), ?_⟩
    intro v hv; simp [runBody] at hv
  | read a r k ih =>
    intro hnc hcb s hm hs
    simp only [NoCatch] at hnc
    simp only [CallsBelow] at hcb
    simp only [runBody]
    generalize hb : (a && (env.refs r).isSome) = b
    have hsg := sameG_noteRead s b r
    have hsc := sameC_noteRead s b r
    have hbr := bodyRel_noteRead s b r
    have h0 : Post env lt s (s.noteRead b r) := Post.of_same hm hsg hsc hbr
    obtain ⟨h1, h2⟩ := ih (env.refs r) (hnc.2 _) (hcb _) (s.noteRead b r) h0.mid (hsg.stack.trans hs)
    refine ⟨h0.trans h1, ?_⟩
    intro v hv
    obtain ⟨tr, hrep, hpend, hnew⟩ := h2 v hv
    refine ⟨.read a r (env.refs r) tr, ⟨rfl, rfl, hrep⟩, ?_, ?_⟩
    rotate_left
    · rw [edgeTarget_same hsg.stack hsg.idx] at hnew
      intro x t hT he
      rcases hnew x t hT he with h | h
      · exact Or.inl (hsc.ge ▸ h)
      · exact Or.inr (JustE.mono (fun ev hm => by simp [flat, hm]) h)
    intro ev hm'
    simp only [flat, List.mem_cons] at hm'
    rcases hm' with rfl | hm'
    · refine ⟨rfl, ?_⟩
      intro ha hx l hl
      cases hl
      -- the read was pushed on the reference stack at the level of this frame
      have hbt : b = true := by rw [← hb, ha, hx]; rfl
      have : (base.length, r) ∈ (s.noteRead b r).refstack := by
        unfold St.noteRead
        rw [hbt, hs]
        simp
      exact h1.presP.refstack _ this
    · have := hpend ev hm'
      rwa [edgeTarget_same hsg.stack hsg.idx] at this
  | call m k ih =>
    intro hnc hcb s hm hs
    simp only [NoCatch] at hnc
    simp only [CallsBelow] at hcb
    simp only [runBody]
    obtain ⟨h0, hret⟩ := hfC m s hm (hs ▸ ho.below_stack hbelow hcb.1)
    have hst0 : (f m s).2.stack = s.stack := h0.presP.stack
    obtain ⟨h1, h2⟩ := ih (f m s).1 (hnc.2 _) (hcb.2 _) (f m s).2 h0.mid (hst0.trans hs)
    refine ⟨h0.trans h1, ?_⟩
    intro v hv
    cases hres : (f m s).1 with
    | err e =>
      rw [hres] at hv
      exact absurd hv (fails_not_ok env f _ (hnc.1 e) _ v)
    | ok w =>
      rw [hres] at hv h2 h1
      obtain ⟨tr, hrep, hpend, hnew⟩ := h2 v hv
      rw [edgeTarget_same hst0 h0.idx] at hnew
      have hT : ∀ t, s.edgeTarget = some t → t ∈ (f m s).2.stack := by
        intro t ht; rw [hst0]; exact edgeTarget_mem s t ht
      have hpend' : ∀ ev ∈ flat n.1 tr,
          PendEv env (runBody env f (k (.ok w)) (f m s).2).2 s.edgeTarget (some base.length) ev := by
        intro ev hm'
        have := hpend ev hm'
        rwa [edgeTarget_same hst0 h0.idx] at this
      have hlvl : retLvl s = some base.length := retLvl_of_stack hs
      rcases hret w hres with ⟨hc, hp, hn0⟩ | ⟨hc, sub, hsub, hpsub, hpu, hn0⟩
      · refine ⟨.call m w tr, ⟨rfl, hc, hrep⟩, ?_, ?_⟩
        rotate_left
        · exact (hn0.trans hnew).mono (fun ev hm => by simpa [flat] using hm)
        intro ev hm'
        simp only [flat, List.mem_cons] at hm'
        rcases hm' with rfl | hm'
        · rw [hlvl] at hp; exact hp.pres h1.presP hT
        · exact hpend' ev hm'
      · refine ⟨.ucall m w sub tr, ⟨rfl, hc, hsub, hrep⟩, ?_, ?_⟩
        rotate_left
        · exact (hn0.trans hnew).mono (fun ev hm => by simpa [flat, List.append_assoc] using hm)
        intro ev hm'
        simp only [flat, List.mem_cons, List.mem_append] at hm'
        rcases hm' with rfl | hm' | hm'
        · rw [hlvl] at hpu; exact hpu.pres h1.presP hT
        · have := hpsub ev hm'; rw [hlvl] at this; exact this.pres h1.presP hT
        · exact hpend' ev hm'

end MxModel.Exec
