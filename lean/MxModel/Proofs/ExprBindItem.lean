import MxModel.Proofs.ExprBindSpec
import MxModel.Proofs.ItemSpaceBind
/-!
# `bindKey` (exec layer) = `ItemSpace.bindArgs` (C07 kernel) under index ↦ name

The two models of `node._bind_args` – `Exec.bindKey` (parameters by index, values `Val`, defaults as
the list of the trailing defaults) and `ItemSpace.bindArgs` (parameters by name with an optional
default each, values `Int`; C07: `bind_iff`, `bind_canonical`) – agree for every signature and every
spelling, under ANY injective naming of the parameters (`nm : Nat → String`; the driver and the harness
use `"a" ++ toString i`) and the embedding `Int → Val` (`Val.int`):

`bindKey_eq_bindArgs`:
`bindKey a (dflt.map .int) (pos.map .int) (kw.map (i, v) ↦ (i, .int v)) =
  (bindArgs (sigOf nm a dflt) pos (kw.map (i, v) ↦ (nm i, v))).map (·.map .int)`.

(`None` values of the exec layer have no counterpart in the C07 kernel, whose values are integers; for
them `bindKey_iff` is the specification.)
-/
namespace MxModel.Exec
open MxModel

/-- parameter `i` of the signature with `a` parameters whose last `dflt.length` have the defaults `dflt` -/
def paramOf (nm : Nat → String) (a : Nat) (dflt : List Int) (i : Nat) : ItemSpace.Param :=
  ⟨nm i, if a ≤ i + dflt.length then dflt[i + dflt.length - a]? else none⟩

def sigOf (nm : Nat → String) (a : Nat) (dflt : List Int) : ItemSpace.Sig :=
  (List.range' 0 a).map (paramOf nm a dflt)

def kwNamed (nm : Nat → String) (kw : List (Nat × Int)) : ItemSpace.KwArgs := kw.map (fun e => (nm e.1, e.2))
def kwVals (kw : List (Nat × Int)) : List (Nat × Val) := kw.map (fun e => (e.1, Val.int e.2))

variable {nm : Nat → String}

theorem nodup_map_nm (hinj : ∀ i j, nm i = nm j → i = j) : ∀ (l : List Nat), (l.map nm).Nodup ↔ l.Nodup
  | [] => by simp
  | x :: xs => by
    simp only [List.map_cons, List.nodup_cons, nodup_map_nm hinj xs, List.mem_map]
    constructor
    · rintro ⟨h1, h2⟩; exact ⟨fun hx => h1 ⟨x, hx, rfl⟩, h2⟩
    · rintro ⟨h1, h2⟩
      refine ⟨?_, h2⟩
      rintro ⟨y, hy, hxy⟩
      exact h1 (hinj y x hxy ▸ hy)

theorem kwKeys_named (kw : List (Nat × Int)) : ItemSpace.kwKeys (kwNamed nm kw) = (kw.map (·.1)).map nm := by
  simp [ItemSpace.kwKeys, kwNamed, List.map_map, Function.comp_def]

theorem kwVals_keys (kw : List (Nat × Int)) : (kwVals kw).map (·.1) = kw.map (·.1) := by
  simp [kwVals, List.map_map, Function.comp_def]

theorem mem_keys_named (hinj : ∀ i j, nm i = nm j → i = j) (kw : List (Nat × Int)) (i : Nat) :
    nm i ∈ ItemSpace.kwKeys (kwNamed nm kw) ↔ i ∈ kw.map (·.1) := by
  rw [kwKeys_named, List.mem_map]
  constructor
  · rintro ⟨j, hj, hji⟩; exact hinj j i hji ▸ hj
  · intro h; exact ⟨i, h, rfl⟩

theorem kwVal_named (hinj : ∀ i j, nm i = nm j → i = j) : ∀ (kw : List (Nat × Int)) (i : Nat),
    kwVal (kwVals kw) i = (ItemSpace.kwFind (kwNamed nm kw) (nm i)).map Val.int
  | [], i => rfl
  | (j, v) :: kw, i => by
    have ih := kwVal_named hinj kw i
    unfold kwVal at ih ⊢
    simp only [kwVals, kwNamed, List.map_cons, List.find?_cons, ItemSpace.kwFind] at ih ⊢
    by_cases hji : j = i
    · subst hji; simp
    · have h1 : (j == i) = false := by simpa using hji
      have h2 : ¬ nm j = nm i := fun h => hji (hinj j i h)
      simp only [h1, h2, if_false]
      exact ih

theorem sigOf_length (nm : Nat → String) (a : Nat) (dflt : List Int) : (sigOf nm a dflt).length = a := by
  simp [sigOf]

theorem sigOf_drop (nm : Nat → String) (a : Nat) (dflt : List Int) (n : Nat) :
    (sigOf nm a dflt).drop n = (List.range' n (a - n)).map (paramOf nm a dflt) := by
  unfold sigOf
  rw [← List.map_drop, List.drop_range']
  simp

theorem names_sigOf (nm : Nat → String) (a : Nat) (dflt : List Int) :
    ItemSpace.names (sigOf nm a dflt) = (List.range' 0 a).map nm := by
  simp [ItemSpace.names, sigOf, List.map_map, Function.comp_def, paramOf]

theorem names_sigOf_nodup (hinj : ∀ i j, nm i = nm j → i = j) (a : Nat) (dflt : List Int) :
    (ItemSpace.names (sigOf nm a dflt)).Nodup := by
  rw [names_sigOf, nodup_map_nm hinj]
  exact List.nodup_range'

theorem paramOf_dflt_none (nm : Nat → String) (a : Nat) (dflt : List Int) (i : Nat) (hi : i < a) :
    (paramOf nm a dflt i).dflt = none ↔ i + dflt.length < a := by
  unfold paramOf
  simp only []
  by_cases h : a ≤ i + dflt.length
  · have h3 : i + dflt.length - a < dflt.length := by omega
    simp only [h, if_true, List.getElem?_eq_getElem h3]
    constructor
    · intro hn; cases hn
    · intro hlt; omega
  · simp only [h, if_false, true_iff]; omega

theorem mem_map_nm (hinj : ∀ i j, nm i = nm j → i = j) {α : Type} (f : α → Nat) (l : List α) (i : Nat) :
    nm i ∈ l.map (fun x => nm (f x)) ↔ i ∈ l.map f := by
  simp only [List.mem_map]
  exact ⟨fun ⟨x, hx, h⟩ => ⟨x, hx, hinj _ _ h⟩, fun ⟨x, hx, h⟩ => ⟨x, hx, congrArg nm h⟩⟩

theorem paramOf_name (nm : Nat → String) (a : Nat) (dflt : List Int) (i : Nat) : (paramOf nm a dflt i).name = nm i :=
  rfl

theorem binds_iff_accepts (hinj : ∀ i j, nm i = nm j → i = j) (a : Nat) (dflt pos : List Int)
    (kw : List (Nat × Int)) :
    Binds a (dflt.map .int) (pos.map .int) (kwVals kw) ↔
      ItemSpace.Accepts (sigOf nm a dflt) pos (kwNamed nm kw) := by
  unfold ItemSpace.Accepts
  rw [sigOf_length, sigOf_drop, kwKeys_named, nodup_map_nm hinj]
  -- both sides speak of parameter indices now
  simp only [ItemSpace.names, List.map_map, List.forall_mem_map, Function.comp_def, paramOf_name, mem_map_nm hinj,
    List.map_id', List.mem_range'_1]
  constructor
  · intro hb
    have h1 : pos.length ≤ a := by simpa using hb.noSurplus
    refine ⟨kwVals_keys kw ▸ hb.kwDistinct, h1, fun e he => ?_, fun j hj hd => ?_⟩
    · have : pos.length ≤ e.1 ∧ e.1 < a := by
        simpa using hb.kwKnown (e.1, .int e.2) (List.mem_map.mpr ⟨e, he, rfl⟩)
      omega
    · exact kwVals_keys kw ▸ hb.supplied j (by simpa using hj.1)
        (by simpa using (paramOf_dflt_none nm a dflt j (by omega)).mp hd)
  · rintro ⟨h1, h2, h3, h4⟩
    refine ⟨by simpa using h2, (kwVals_keys kw).symm ▸ h1, fun e he => ?_, fun i hi hd => ?_⟩
    · obtain ⟨e0, he0, rfl⟩ := List.mem_map.mp he
      have := h3 e0 he0
      show (pos.map Val.int).length ≤ e0.1 ∧ e0.1 < a
      rw [List.length_map]
      omega
    · simp only [List.length_map] at hi hd
      exact (kwVals_keys kw).symm ▸ h4 i (by omega) ((paramOf_dflt_none nm a dflt i (by omega)).mpr hd)

theorem specKey_eq_append : ∀ (sig : ItemSpace.Sig) (args : List Int) (kw : ItemSpace.KwArgs),
    ItemSpace.specKey sig args kw =
      args.take sig.length ++ (sig.drop args.length).map (fun p => (ItemSpace.kwFind kw p.name).getD (p.dflt.getD 0))
  | [], _, _ => by simp [ItemSpace.specKey]
  | _ :: ps, a :: as, kw => congrArg (a :: ·) (specKey_eq_append ps as kw)
  | p :: ps, [], kw => by
    rw [ItemSpace.specKey, specKey_eq_append ps [] kw, List.take_nil, List.take_nil]; rfl

theorem canonKey_eq_specKey (hinj : ∀ i j, nm i = nm j → i = j) (a : Nat) (dflt pos : List Int)
    (kw : List (Nat × Int)) (hb : Binds a (dflt.map .int) (pos.map .int) (kwVals kw)) :
    canonKey a (dflt.map .int) (pos.map .int) (kwVals kw) =
      (ItemSpace.specKey (sigOf nm a dflt) pos (kwNamed nm kw)).map Val.int := by
  have hl : pos.length ≤ a := by simpa using hb.noSurplus
  rw [canonKey_eq_append hb.noSurplus, specKey_eq_append, sigOf_length, List.take_of_length_le hl, sigOf_drop,
    List.map_append, List.map_map, List.map_map, List.length_map]
  refine congrArg (pos.map Val.int ++ ·) (List.map_congr_left fun i hi => ?_)
  rw [List.mem_range'_1] at hi
  simp only [Function.comp_def, canonSlot, paramOf, List.length_map, if_neg (Nat.not_lt.mpr hi.1),
    kwVal_named hinj kw i]
  cases hf : ItemSpace.kwFind (kwNamed nm kw) (nm i) with
  | some v => rfl
  | none =>
    -- not given positionally, not by keyword: the parameter has a default
    have hnk : i ∉ (kwVals kw).map (·.1) := by
      rw [kwVals_keys, ← mem_keys_named hinj kw i, ← ItemSpace.kwFind_isSome_iff, hf]
      exact Bool.false_ne_true
    have hd : a ≤ i + dflt.length := Nat.le_of_not_lt fun hlt =>
      hnk (hb.supplied i (by simpa using hi.1) (by simpa using hlt))
    have h3 : i + dflt.length - a < dflt.length := by omega
    simp [hd, List.getElem?_eq_getElem h3]

/-- **`bindKey` (exec layer) and `bindArgs` (C07 kernel) are the same function** under index ↦ name, for
every signature with integer defaults and every spelling with integer values. -/
theorem bindKey_eq_bindArgs (hinj : ∀ i j, nm i = nm j → i = j) (a : Nat) (dflt pos : List Int)
    (kw : List (Nat × Int)) :
    bindKey a (dflt.map .int) (pos.map .int) (kwVals kw) =
      (ItemSpace.bindArgs (sigOf nm a dflt) pos (kwNamed nm kw)).map (·.map Val.int) := by
  have hwf := names_sigOf_nodup hinj a dflt
  by_cases hb : Binds a (dflt.map .int) (pos.map .int) (kwVals kw)
  · have hacc := (binds_iff_accepts hinj a dflt pos kw).mp hb
    rw [bindKey_of_binds hb,
      (ItemSpace.bindArgs_iff_accepts (sigOf nm a dflt) hwf pos (kwNamed nm kw) _).mpr ⟨hacc, rfl⟩,
      canonKey_eq_specKey hinj a dflt pos kw hb]
    rfl
  · rw [(bindKey_eq_none_iff _ _ _ _).mpr hb]
    cases hr : ItemSpace.bindArgs (sigOf nm a dflt) pos (kwNamed nm kw) with
    | none => rfl
    | some key =>
      exact absurd ((binds_iff_accepts hinj a dflt pos kw).mpr
        ((ItemSpace.bindArgs_iff_accepts (sigOf nm a dflt) hwf pos (kwNamed nm kw) key).mp hr).1) hb

/-! Non-vacuity: an injective naming (`i ↦ "a…a"`, `i` letters); `rate(t, base=100, step=10)`. -/
def nmA (i : Nat) : String := String.ofList (List.replicate i 'a')

theorem nmA_inj : ∀ i j, nmA i = nmA j → i = j := by
  intro i j h
  have := congrArg (fun s => s.toList.length) h
  simpa [nmA] using this

example : sigOf nmA 3 [100, 10] = [⟨"", none⟩, ⟨"a", some 100⟩, ⟨"aa", some 10⟩] := by decide

example : bindKey 3 [.int 100, .int 10] [.int 3] [(2, .int 5)] =
    (ItemSpace.bindArgs (sigOf nmA 3 [100, 10]) [3] [("aa", 5)]).map (·.map Val.int) :=
  bindKey_eq_bindArgs nmA_inj 3 [100, 10] [3] [(2, 5)]

/-! the spellings of the concrete instances of `Proofs/ExprBind.lean` through the C07 kernel (names instead of indices) -/
private def rateSig : ItemSpace.Sig := [⟨"a0", none⟩, ⟨"a1", some 100⟩, ⟨"a2", some 10⟩]
example : ItemSpace.bindArgs rateSig [3, 200] [] = some [3, 200, 10] := by decide +kernel
example : ItemSpace.bindArgs rateSig [3] [("a2", 5)] = some [3, 100, 5] := by decide +kernel
example : ItemSpace.bindArgs rateSig [] [("a2", 5), ("a0", 3)] = some [3, 100, 5] := by decide +kernel
example : ItemSpace.bindArgs rateSig [3] [("a0", 4)] = none := by decide +kernel
example : ItemSpace.bindArgs rateSig [3] [("a3", 4)] = none := by decide +kernel

end MxModel.Exec
