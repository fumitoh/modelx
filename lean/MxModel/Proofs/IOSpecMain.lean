import MxModel.Proofs.IOSpecStep
import MxModel.Proofs.Foldl
/-! The step and run theorems behind Props/C18. -/
namespace MxModel.IOSpec

theorem clean_parts {st : St} {op : Op} (h : clean st op = true) :
    trigCellsName st op = false ∧ trigDoubleSpec st op = false ∧
    trigDirtyDelete st op = false ∧ trigUpdateOnto st op = false := by
  simp only [clean, Bool.and_eq_true, Bool.not_eq_true'] at h
  obtain ⟨⟨⟨a, b⟩, e⟩, f⟩ := h
  exact ⟨a, b, e, f⟩

theorem sidOK_empty : SidOK (sp {}) := ⟨List.forall_mem_nil _, List.forall_mem_nil _⟩

theorem rinv_empty : RInv ({} : St) :=
  ⟨List.forall_mem_nil _, List.forall_mem_nil _, fun _ _ => List.forall_mem_nil _, .nil, List.forall_mem_nil _,
    List.forall_mem_nil _, List.forall_mem_nil _, sidOK_empty⟩

/-- operations that are meant to remove specs -/
def removesSpecs : Op → Bool
  | .delSpec _ _ => true
  | .close _ => true
  | _ => false

theorem Act.spec {kw : List String} {st st' : St} {op : Op} (a : Act kw st op st') (h : RInv st)
    (hc : clean st op = true) : RInv st' ∧ (removesSpecs op = false → Survives st st') := by
  obtain ⟨hCells, hDouble, hDelete, hOnto⟩ := clean_parts hc
  have hsid : SidOK (sp st') := sidOK_strans a.strans h.sid
  cases a with
  | admin _ _ hr hv hn hs _ =>
    have hs' : st'.specs = st.specs := congrArg Prod.fst hs
    exact ⟨rinv_respec h (.of_sub hr hv hn fun τ hτ => hs' ▸ hτ) hsid, fun _ => .of_specs hs'⟩
  | newPandas o name path csv sheet data _ =>
    have p := newPandas_spec (kw := kw) (path := normPath path) (csv := csv) (sheet := sheet) h hCells hDouble
    exact ⟨p.1, fun _ => p.2⟩
  | bind o name v =>
    cases hr : (setAttr kw st o name v).2 with
    | ok u => cases u; exact ⟨(setAttr_ok_spec h hr).1, fun _ => (setAttr_ok_spec h hr).2.2⟩
    | error e =>
      have e1 : (setAttr kw st o name v).1 = st := congrArg Prod.fst (setAttr_error hr).1
      exact ⟨by rw [e1]; exact h, fun _ => .of_specs (by rw [e1])⟩
  | del o name => exact ⟨(delAttr_spec h hDelete).1, fun _ => (delAttr_spec h hDelete).2⟩
  | update m old new => exact ⟨(rinv_rmUpdateValue h hOnto).1, fun _ => .of_kept (rinv_rmUpdateValue h hOnto).2⟩
  | setSheet m v sh =>
    have mv := setSheet_spec (Q := fun _ _ => True) st m v sh
    exact ⟨rinv_respec h mv.respec hsid, fun _ => .of_kept mv.kept⟩
  | setPath m v p =>
    have mv := setPath_spec (Q := fun _ _ => True) st m v (normPath p) fun _ _ => trivial
    exact ⟨rinv_respec h mv.respec hsid, fun _ => .of_kept mv.kept⟩
  | delSpec m v => exact ⟨rinv_respec h (delSpecOf_spec (Q := fun _ _ => True) st m v).2 hsid, fun hop => by cases hop⟩
  | close m _ => exact ⟨rinv_respec h (respec_closeModel st m) hsid, fun hop => by cases hop⟩

theorem rinv_step (kw : List String) {st : St} (h : RInv st) {op : Op} (hc : clean st op = true) :
    RInv (step kw st op) :=
  ((step_act kw st op).spec h hc).1

theorem spec_survives_step (kw : List String) {st : St} (h : RInv st) {op : Op} (hc : clean st op = true)
    (hop : removesSpecs op = false) : Survives st (step kw st op) :=
  ((step_act kw st op).spec h hc).2 hop

theorem run_induction (kw : List String) {P : St → Prop}
    (hstep : ∀ st op, P st → clean st op = true → P (step kw st op)) :
    ∀ (ops : List Op) (st : St), P st → AllClean kw st ops → P (run kw st ops)
  | [], _, h, _ => h
  | op :: rest, st, h, hc => run_induction kw hstep rest _ (hstep st op h hc.1) hc.2

theorem rinv_run (kw : List String) (ops : List Op) (st : St) (h : RInv st) (hc : AllClean kw st ops) :
    RInv (run kw st ops) :=
  run_induction kw (fun _ _ h hc => rinv_step kw h hc) ops st h hc

theorem rmSpecsAux_eq (st : St) (m : Nat) : ∀ (ents : List ((Nat × Val) × List Ref)), (∀ e ∈ ents, e.2 ≠ []) →
    rmSpecsAux st m ents = .ok (ents.filterMap fun e =>
      if e.1.1 = m then e.2.head?.bind fun r => getSpecFromValue st m r.val else none)
  | [], _ => rfl
  | (k, l) :: rest, hne => by
    have ih := rmSpecsAux_eq st m rest fun e he => hne e (List.mem_cons_of_mem _ he)
    unfold rmSpecsAux
    by_cases hk : k.1 = m
    · cases l with
      | nil => exact absurd rfl (hne _ List.mem_cons_self)
      | cons r tl =>
        simp only [hk, ↓reduceIte, ih, List.filterMap_cons, List.head?_cons, Option.bind_some]
        cases getSpecFromValue st m r.val <;> rfl
    · simp only [hk, ↓reduceIte, ih, List.filterMap_cons]

/-- `ReferenceManager.specs` (= `model.iospecs`) never fails and is the set of specs registered in
the IOManager for the model -/
theorem rmSpecs_exact {st : St} (h : RInv st) (m : Nat) :
    ∃ L, rmSpecs st m = .ok L ∧ ∀ σ, σ ∈ L ↔ (σ ∈ st.specs ∧ σ.group = m) := by
  refine ⟨_, rmSpecsAux_eq st m st.v2r fun e he h0 => h.core.noEmpty e.1 (h0 ▸ mem_alookup h.keys he), fun σ => ?_⟩
  rw [List.mem_filterMap]
  constructor
  · rintro ⟨e, _, hσ⟩
    split at hσ
    · obtain ⟨r, _, hg⟩ := Option.bind_eq_some_iff.1 hσ
      exact ⟨(getSpec_some hg).1, (getSpec_some hg).2.1⟩
    · cases hσ
  · rintro ⟨a, b⟩
    -- the value of the spec is bound, so it has an entry; the spec found for the entry's first reference is this one
    obtain ⟨r, hr, hm, hv⟩ := h.specRef σ a id
    have hr' := (h.core.entMem m σ.val r).mpr ⟨hr, hm.trans b, hv, tracked_of_isPandas (h.specPandas σ a)⟩
    refine ⟨_, mem_of_mem_ent hr', ?_⟩
    cases hl : ent st.v2r (m, σ.val) with
    | nil => rw [hl] at hr'; cases hr'
    | cons r0 tl =>
      rw [if_pos rfl, List.head?_cons, Option.bind_some,
        ((h.core.entMem m σ.val r0).mp (hl ▸ List.mem_cons_self)).2.2.1]
      cases hg : getSpecFromValue st m σ.val with
      | none => exact absurd ⟨b, rfl⟩ (getSpec_none hg σ a)
      | some σ' =>
        obtain ⟨g1, g2, g3⟩ := getSpec_some hg
        rw [h.specVal σ' g1 σ a (g2.trans b.symm) g3]

theorem closeModel_releases {st : St} (h : RInv st) (m : Nat) :
    (closeModel st m).2 = .ok () ∧ (∀ σ ∈ (closeModel st m).1.specs, σ.group ≠ m) ∧
    m ∉ (closeModel st m).1.models := by
  obtain ⟨L, hL, hmem⟩ := rmSpecs_exact h m
  rcases closeModel_cases st m with ⟨_, he, _⟩ | ⟨L', hL', e⟩
  · rw [hL] at he; cases he
  rw [hL] at hL'; cases hL'
  rw [e]
  obtain ⟨_, _, _, _, _, f⟩ := foldl_delSpec_fields L.reverse st
  refine ⟨rfl, fun σ hσ hg => ?_, by simp⟩
  have := (f σ).mp hσ
  exact this.2 σ (List.mem_reverse.mpr ((hmem σ).mpr ⟨this.1, hg⟩)) rfl

/-! ### a rejected creation leaves nothing behind (needs only fresh spec identities) -/

theorem newPandas_rejected {kw : List String} {st : St} (hs : SidOK (sp st)) {o : Owner} {n path : String}
    {csv : Bool} {sheet : Option String} {data : Val} {e : Rej}
    (he : (newPandas kw st o n path csv sheet data).2 = .error e) :
    (newPandas kw st o n path csv sheet data).1.specs = st.specs ∧
    (newPandas kw st o n path csv sheet data).1.refs = st.refs ∧
    (newPandas kw st o n path csv sheet data).1.v2r = st.v2r ∧
    (newPandas kw st o n path csv sheet data).1.cells = st.cells := by
  rcases newPandas_cases kw st o n path csv sheet data with ⟨_, he'⟩ | ⟨_, _, ⟨_, he'⟩ | he'⟩ <;> rw [he'] at he ⊢
  · exact ⟨rfl, rfl, rfl, rfl⟩
  · cases he
  · exact ⟨filter_insertSpec fun τ hτ => Nat.ne_of_lt (hs.sidLt τ hτ), rfl, rfl, rfl⟩

theorem sidOK_run (kw : List String) (ops : List Op) (st : St) (h : SidOK (sp st)) : SidOK (sp (run kw st ops)) :=
  foldl_keeps (fun st => SidOK (sp st)) (fun st op _ h => sidOK_strans (step_act kw st op).strans h) h

theorem loc_run (kw : List String) (ops : List Op) (st : St) (hs : SidOK (sp st)) (hl : Loc st.specs) :
    Loc (run kw st ops).specs :=
  (foldl_keeps (fun st => SidOK (sp st) ∧ Loc st.specs)
    (fun st op _ h => ⟨sidOK_strans (step_act kw st op).strans h.1, loc_strans (step_act kw st op).strans h.1 h.2⟩)
    ⟨hs, hl⟩).2

end MxModel.IOSpec
