import MxModel.Proofs.StructMechMapPaths
import MxModel.Proofs.StructMechNames
/-!
# `rename_space` keeps the invariant of the mechanism

`relabel p new` (the code's mapping, the identity outside the tree of the renamed space) is not injective
on ALL paths (`parent ++ [new]` is the image of itself and of `p`), but it agrees, on every path a state
accepted by `renameSpace` holds, with the bijection `swapAt parent old new` (below `parent`, transpose
the names `old` / `new` of the next component): the precondition `_can_add(parent, new)` says that
there is no space `parent ++ [new]`, and ids are closed under prefixes.  `swapAt` is an involution, maps
the root to the root and children to children, so `inv_mapPaths` applies.
-/
namespace MxModel.SM
open MxModel.C3

def swapName (a b c : String) : String := if c = a then b else if c = b then a else c

theorem swapName_invol (a b c : String) : swapName a b (swapName a b c) = c := by
  unfold swapName
  by_cases h1 : c = a
  · subst h1
    by_cases h2 : b = c
    · subst h2; simp
    · simp [h2]
  · by_cases h2 : c = b
    · subst h2; simp [h1]
    · simp [h1, h2]

def swapHead (a b : String) : Path → Path
  | [] => []
  | c :: r => swapName a b c :: r

def swapAt (parent : Path) (a b : String) (q : Path) : Path :=
  if isPrefix parent q then parent ++ swapHead a b (q.drop parent.length) else q

theorem swapAt_append (parent : Path) (a b : String) (d : Path) :
    swapAt parent a b (parent ++ d) = parent ++ swapHead a b d := by
  unfold swapAt
  rw [(isPrefix_iff parent (parent ++ d)).mpr (List.prefix_append _ _), List.drop_left]
  rfl

theorem swapAt_self (parent : Path) (a b : String) : swapAt parent a b parent = parent := by
  have := swapAt_append parent a b []
  rwa [List.append_nil, swapHead, List.append_nil] at this

theorem swapAt_of_not_prefix (parent : Path) (a b : String) (q : Path) (h : ¬ parent <+: q) :
    swapAt parent a b q = q := by
  unfold swapAt
  rw [isPrefix_eq_false h]
  rfl

theorem swapAt_invol (parent : Path) (a b : String) (q : Path) :
    swapAt parent a b (swapAt parent a b q) = q := by
  by_cases h : parent <+: q
  · obtain ⟨d, rfl⟩ := h
    rw [swapAt_append, swapAt_append]
    cases d with
    | nil => rfl
    | cons c r => rw [swapHead, swapHead, swapName_invol]
  · rw [swapAt_of_not_prefix parent a b q h, swapAt_of_not_prefix parent a b q h]

theorem swapAt_inj (parent : Path) (a b : String) (x y : Path)
    (h : swapAt parent a b x = swapAt parent a b y) : x = y := by
  rw [← swapAt_invol parent a b x, h, swapAt_invol]

theorem swapAt_nil (parent : Path) (a b : String) : swapAt parent a b [] = [] := by
  by_cases h : parent <+: []
  · rw [List.prefix_nil.mp h]
    exact swapAt_self [] a b
  · exact swapAt_of_not_prefix parent a b [] h

theorem swapAt_snoc (parent : Path) (a b : String) (q : Path) (n : String) :
    swapAt parent a b (q ++ [n]) = swapAt parent a b q ++ [if q = parent then swapName a b n else n] := by
  by_cases h : parent <+: q
  · obtain ⟨d, rfl⟩ := h
    rw [List.append_assoc, swapAt_append, swapAt_append, List.append_assoc]
    cases d with
    | nil => simp [swapHead]
    | cons c r =>
      have : parent ++ c :: r ≠ parent := fun e => by simpa using congrArg List.length e
      simp [swapHead, this]
  · have hq : q ≠ parent := fun e => h (e ▸ List.prefix_refl _)
    rw [swapAt_of_not_prefix parent a b q h, if_neg hq]
    by_cases h2 : parent <+: q ++ [n]
    · rcases List.prefix_concat_iff.mp h2 with e | e
      · rw [← e, swapAt_self]
      · exact absurd e h
    · exact swapAt_of_not_prefix parent a b _ h2

theorem relabel_of_not_prefix (p : Path) (new : String) (q : Path) (h : ¬ p <+: q) : relabel p new q = q := by
  unfold relabel
  rw [isPrefix_eq_false h]
  rfl

theorem relabel_below (parent : Path) (old new : String) (r : Path) :
    relabel (parent ++ [old]) new (parent ++ old :: r) = parent ++ new :: r := by
  unfold relabel
  rw [(isPrefix_iff _ _).mpr ⟨r, by simp⟩]
  simp

theorem relabel_eq_swapAt (parent : Path) (old new : String) (q : Path) (hq : ¬ (parent ++ [new]) <+: q) :
    relabel (parent ++ [old]) new q = swapAt parent old new q := by
  by_cases h : parent <+: q
  · obtain ⟨d, rfl⟩ := h
    rw [swapAt_append]
    have hpre : ∀ c, (parent ++ [c]) <+: parent ++ d ↔ ∃ r, d = c :: r := fun c => by
      rw [List.prefix_append_right_inj]
      cases d <;> simp [List.cons_prefix_cons, eq_comm]
    cases d with
    | nil => exact relabel_of_not_prefix _ new _ (fun hp => by simpa using (hpre old).mp hp)
    | cons c r =>
      have hc : c ≠ new := fun e => hq ((hpre new).mpr ⟨r, by rw [e]⟩)
      by_cases hco : c = old
      · rw [hco, relabel_below]
        simp [swapHead, swapName]
      · rw [relabel_of_not_prefix _ new _ (fun hp => hco (by simpa using (hpre old).mp hp))]
        simp [swapHead, swapName, hco, hc]
  · rw [swapAt_of_not_prefix parent old new q h,
      relabel_of_not_prefix _ new q (fun hp => h ((List.prefix_append parent [old]).trans hp))]

theorem mapPaths_congr (st : St) (ρ ρ' : Path → Path)
    (h : ∀ s ∈ st.spaces, ρ s.id = ρ' s.id ∧ ∀ b ∈ s.bases, ρ b = ρ' b) :
    st.mapPaths ρ = { st.mapPaths ρ' with namers := st.namers.map (fun e => (ρ e.1, e.2)) } := by
  unfold St.mapPaths
  simp only [St.mk.injEq, and_true]
  apply List.map_congr_left
  intro s hs
  obtain ⟨h1, h2⟩ := h s hs
  unfold Space.mapPaths
  rw [h1, List.map_congr_left h2]

/-- The keys of the name counters keep `relabel`: nothing says they are ids, and `Inv` does not read them
(`inv_namers`). -/
theorem renameSpace_ok (kw : List String) (st st' : St) (h : WF st) (p : Path) (new : String)
    (hop : st.renameSpace kw p new = .ok st') :
    ∃ parent old, p = parent ++ [old] ∧ p ∈ st.ids ∧ Names.isValidName kw new = true ∧
      st.canAdd parent new .space = true ∧
      st' = { st.mapPaths (swapAt parent old new) with namers := st.namers.map (fun e => (relabel p new e.1, e.2)) } ∧
      ∀ x ∈ st.ids, relabel p new x = swapAt parent old new x := by
  unfold St.renameSpace at hop
  by_cases h1 : (p == [] || !st.has p) = true
  · rw [if_pos h1] at hop; cases hop
  by_cases h2 : (!Names.isValidName kw new) = true
  · rw [if_neg h1, if_pos h2] at hop; cases hop
  by_cases h3 : (!st.canAdd p.dropLast new .space) = true
  · rw [if_neg h1, if_neg h2, if_pos h3] at hop; cases hop
  rw [if_neg h1, if_neg h2, if_neg h3, Except.ok.injEq] at hop
  simp only [Bool.or_eq_true, beq_iff_eq, Bool.not_eq_true', not_or, Bool.not_eq_false] at h1 h2 h3
  obtain ⟨hp0, hhas⟩ := h1
  have hpe : p.dropLast ++ [p.getLast hp0] = p := List.dropLast_concat_getLast hp0
  -- no id is at or below `parent ++ [new]`, so on the ids the code's mapping is the bijection
  have hno := h.no_id_below (p.dropLast ++ [new]) (by simp) (canAdd_space_free h p.dropLast new h3).1
  have hag : ∀ x ∈ st.ids, relabel p new x = swapAt p.dropLast (p.getLast hp0) new x := fun x hx => by
    have := relabel_eq_swapAt p.dropLast (p.getLast hp0) new x (hno x hx)
    rwa [hpe] at this
  refine ⟨p.dropLast, p.getLast hp0, hpe.symm, (has_iff_mem_ids st p).mp hhas, h2, h3, ?_, hag⟩
  rw [← hop]
  apply mapPaths_congr
  intro s hs
  refine ⟨hag _ (List.mem_map.mpr ⟨s, hs, rfl⟩), fun b hb => hag b (h.bases s.id b ?_)⟩
  unfold St.basesOf
  rw [find_of_mem st h.nodup s hs]
  exact hb

theorem inv_renameSpace (kw : List String) (st st' : St) (h : Inv st) (p : Path) (new : String)
    (hop : st.renameSpace kw p new = .ok st') : Inv st' := by
  obtain ⟨parent, old, rfl, hpid, _, hca, rfl, _⟩ := renameSpace_ok kw st st' h.wf _ new hop
  apply inv_namers
  obtain ⟨hfree, hc, hr, hg⟩ := canAdd_space_free h.wf parent new hca
  apply inv_mapPaths _ st (swapAt_inj parent old new) (swapAt_nil parent old new)
    (fun q n => ⟨_, swapAt_snoc parent old new q n⟩) ?_ h
  intro q n n' hqn he
  rw [swapAt_snoc] at he
  have hn' : n' = if q = parent then swapName old new n else n := by
    have := (List.append_inj' he rfl).2
    simpa using this.symm
  by_cases hq : q = parent
  · subst hq
    simp only [if_true] at hn'
    by_cases h1 : n = old
    · right
      subst h1
      have : n' = new := by rw [hn']; simp [swapName]
      subst this
      exact ⟨hc, hr, hg⟩
    · by_cases h2 : n = new
      · subst h2; exact absurd hqn hfree
      · left; rw [hn']; simp [swapName, h1, h2]
  · left; rw [hn']; simp [hq]

theorem mem_relabel (p : Path) (new : String) (q : Path) (c : String) (hc : c ∈ relabel p new q) :
    c ∈ p ∨ c = new ∨ c ∈ q := by
  unfold relabel at hc
  split at hc
  · rcases List.mem_append.mp hc with h | h
    · exact Or.inl (List.dropLast_subset p h)
    · exact Or.inr ((List.mem_cons.mp h).imp_right List.mem_of_mem_drop)
  · exact Or.inr (Or.inr hc)

theorem namesOK_renameSpace (kw : List String) (st st' : St) (h : WF st) (hn : NamesOK kw st) (p : Path)
    (new : String) (hop : st.renameSpace kw p new = .ok st') : NamesOK kw st' := by
  obtain ⟨parent, old, rfl, hpid, hv, _, rfl, hag⟩ := renameSpace_ok kw st st' h _ new hop
  refine ⟨?_, ?_⟩
  · intro q' hq' c hc
    rw [(shape_namers _ _).ids] at hq'
    obtain ⟨q, hq, rfl⟩ := (mem_ids_mapPaths (swapAt parent old new) st q').mp hq'
    rw [← hag q hq] at hc
    rcases mem_relabel _ new q c hc with e | e | e
    · exact hn.ids _ hpid c e
    · exact e ▸ hv
    · exact hn.ids q hq c e
  · intro a q' n hd
    -- `q'` is the image of `swapAt … q'`, whose definitions it has
    rw [sameDefs_namers, ← swapAt_invol parent old new q',
      defd_mapPaths (swapAt parent old new) st (swapAt_inj parent old new)] at hd
    exact hn.defs a _ n hd

theorem renameSpace_commutes (kw : List String) (st st' : St) (h : WF st) (p : Path) (new : String)
    (hop : st.renameSpace kw p new = .ok st') :
    st'.ids = st.ids.map (relabel p new) ∧ st'.globals = st.globals ∧
    ∀ q ∈ st.ids,
      st'.basesOf (relabel p new q) = (st.basesOf q).map (relabel p new) ∧
      st'.mro (relabel p new q) = (st.mro q).map (List.map (relabel p new)) ∧
      st'.tail (relabel p new q) = (st.tail q).map (relabel p new) ∧
      ∀ a n, st'.mem a (relabel p new q) n = st.mem a q n ∧ st'.defd a (relabel p new q) n = st.defd a q n := by
  obtain ⟨parent, old, hp, hpid, _, _, rfl, hag⟩ := renameSpace_ok kw st st' h _ new hop
  have hρ := swapAt_inj parent old new
  have S := shape_namers (st.mapPaths (swapAt parent old new)) (st.namers.map fun e => (relabel p new e.1, e.2))
  have hmap : ∀ l : List Path, (∀ x ∈ l, x ∈ st.ids) → l.map (relabel p new) = l.map (swapAt parent old new) :=
    fun l hl => List.map_congr_left (fun x hx => hag x (hl x hx))
  refine ⟨?_, rfl, ?_⟩
  · rw [S.ids, ids_mapPaths, hmap st.ids (fun _ hx => hx)]
  · intro q hq
    have htail : ∀ x ∈ st.tail q, x ∈ st.ids := h.tail_mem_ids q
    rw [hag q hq, S.basesOf, S.mro, S.tail, mem_namers, basesOf_mapPaths _ st hρ,
      mro_mapPaths _ st hρ, tail_mapPaths _ st hρ, hmap _ (h.bases q), hmap _ htail, h.mro_all q]
    refine ⟨rfl, ?_, rfl, fun a n => ⟨mem_mapPaths _ st hρ a q n, ?_⟩⟩
    · rw [Option.map_some, Option.map_some, List.map_cons, List.map_cons, hag q hq, hmap _ htail]
    · rw [sameDefs_namers, defd_mapPaths _ st hρ]

theorem applyR_renameSpace (kw : List String) (st : St) (p : Path) (new : String) :
    st.applyR kw (.renameSpace p new) =
      (match st.renameSpace kw p new with | .ok st' => some st' | .error _ => none) := rfl

theorem St.runR_nil (kw : List String) (st : St) : St.runR kw st [] = st := rfl

theorem St.runR_cons (kw : List String) (st : St) (op : OpR) (ops : List OpR) :
    St.runR kw st (op :: ops) = St.runR kw (st.stepR kw op).1 ops := rfl

theorem St.runR_append (kw : List String) (st : St) (xs ys : List OpR) :
    St.runR kw st (xs ++ ys) = St.runR kw (St.runR kw st xs) ys :=
  List.foldl_append ..

theorem invN_stepR (kw : List String) (st : St) (op : OpR) (h : InvN kw st) : InvN kw (st.stepR kw op).1 := by
  cases op with
  | op o => exact invN_step kw st o h
  | renameSpace p new =>
    unfold St.stepR
    rw [applyR_renameSpace]
    cases hop : st.renameSpace kw p new with
    | error e => exact h
    | ok st' => exact ⟨inv_renameSpace kw st st' h.toInv p new hop, namesOK_renameSpace kw st st' h.toInv.wf h.names p new hop⟩

theorem invN_runR (kw : List String) (ops : List OpR) : ∀ (st : St), InvN kw st → InvN kw (St.runR kw st ops) := by
  induction ops with
  | nil => intro st h; exact h
  | cons op ops ih => intro st h; exact ih _ (invN_stepR kw st op h)

theorem runR_invN (kw : List String) (ops : List OpR) : InvN kw (St.runR kw {} ops) :=
  invN_runR kw ops {} ⟨inv_empty, namesOK_empty kw⟩

theorem runR_inv (kw : List String) (ops : List OpR) : Inv (St.runR kw {} ops) := (runR_invN kw ops).toInv

theorem runR_map_op (kw : List String) (ops : List Op) : ∀ (st : St), St.runR kw st (ops.map .op) = St.run kw st ops := by
  intro st
  unfold St.runR St.run
  rw [List.foldl_map]
  rfl

theorem stepR_refused (kw : List String) (st : St) (p : Path) (new : String) (e : RenameErr)
    (h : st.renameSpace kw p new = .error e) : st.stepR kw (.renameSpace p new) = (st, false) := by
  unfold St.stepR
  rw [applyR_renameSpace, h]

end MxModel.SM
