import MxModel.Proofs.IOSession
/-! The session invariant of `Kernels/IOSession.lean`: `Inv`, and its preservation by every operation but `load`
(`Proofs/IOSessionLoad.lean`). -/
namespace MxModel.IOSession

structure Inv (st : St) : Prop where
  sidLt : ∀ io ∈ st.ios, ∀ s ∈ io.specs, s.sid < st.nextSid
  iidLt : ∀ io ∈ st.ios, io.iid < st.nextIid
  det : SidDet st
  /-- a file object is registered exactly while it has a spec (`_del_io`) -/
  nonempty : NoEmptyIo st
  refLt : ∀ r ∈ st.refs, r.model < st.nextModel
  /-- `_get_io_key`: the session-wide group holds the absolute paths and nothing else -/
  wellKeyed : ∀ io ∈ st.ios, io.group.isNone = io.path.abs

theorem inv_init : Inv {} :=
  ⟨List.forall_mem_nil _, List.forall_mem_nil _, List.forall_mem_nil _, List.forall_mem_nil _, List.forall_mem_nil _,
    List.forall_mem_nil _⟩

/-- `l'` is `l` with specs / file objects taken away -/
def Shrinks (l' l : List Io) : Prop :=
  ∀ io' ∈ l', ∃ io ∈ l, io'.iid = io.iid ∧ io'.group = io.group ∧ io'.path = io.path ∧
    (∀ s ∈ io'.specs, s ∈ io.specs) ∧ (io.specs ≠ [] → io'.specs ≠ [])

theorem shrinks_refl (l : List Io) : Shrinks l l :=
  fun io h => ⟨io, h, rfl, rfl, rfl, fun _ hs => hs, fun h => h⟩

theorem shrinks_trans {a b c : List Io} (h1 : Shrinks a b) (h2 : Shrinks b c) : Shrinks a c := by
  intro x hx
  rcases h1 x hx with ⟨y, hy, e1, e2, e3, e4, e5⟩
  rcases h2 y hy with ⟨z, hz, f1, f2, f3, f4, f5⟩
  exact ⟨z, hz, e1.trans f1, e2.trans f2, e3.trans f3, fun s hs => f4 s (e4 s hs), fun h => e5 (f5 h)⟩

theorem shrinks_filter (p : Io → Bool) (l : List Io) : Shrinks (l.filter p) l :=
  fun io h => ⟨io, (List.mem_filter.1 h).1, rfl, rfl, rfl, fun _ hs => hs, fun h => h⟩

theorem shrinks_dropSids (d : List Nat) (l : List Io) : Shrinks (l.filterMap (Io.dropSids d)) l := by
  intro io' h
  rcases List.mem_filterMap.1 h with ⟨io, hio, hd⟩
  obtain ⟨heq, hne⟩ := dropSids_eq_some hd
  refine ⟨io, hio, by rw [heq], by rw [heq], by rw [heq], ?_, hne⟩
  intro s hs
  rw [heq] at hs
  exact (List.mem_filter.1 hs).1

theorem inv_shrink {st st' : St} (h : Inv st) (hs : Shrinks st'.ios st.ios)
    (h1 : st'.nextSid = st.nextSid) (h2 : st'.nextIid = st.nextIid)
    (h3 : ∀ r ∈ st'.refs, r.model < st'.nextModel) : Inv st' := by
  refine ⟨?_, ?_, ?_, ?_, h3, ?_⟩
  · intro io' hio' s hsm
    rcases hs io' hio' with ⟨io, hio, _, _, _, hsub, _⟩
    rw [h1]; exact h.sidLt io hio s (hsub s hsm)
  · intro io' hio'
    rcases hs io' hio' with ⟨io, hio, e, _⟩
    rw [h2, e]; exact h.iidLt io hio
  · intro io1 m1 s hs1 io2 m2 s' hs2 e
    rcases hs io1 m1 with ⟨a, ha, _, hga, _, hsa, _⟩
    rcases hs io2 m2 with ⟨b, hb, _, hgb, _, hsb, _⟩
    have := h.det a ha s (hsa s hs1) b hb s' (hsb s' hs2) e
    exact ⟨this.1, by rw [hga, hgb]; exact this.2⟩
  · intro io' hio'
    rcases hs io' hio' with ⟨io, hio, _, _, _, _, hne⟩
    exact hne (h.nonempty io hio)
  · intro io' hio'
    rcases hs io' hio' with ⟨io, hio, _, eg, ep, _⟩
    rw [eg, ep]; exact h.wellKeyed io hio

theorem inv_delSids {st : St} (h : Inv st) (d : List Nat) : Inv (delSids st d) :=
  inv_shrink h (shrinks_dropSids d st.ios) rfl rfl h.refLt

theorem release_cases (st : St) (m v : Nat) :
    release st m v = st ∨ ∃ f, lookup st m v = some f ∧ release st m v = delSids st [f.spec.sid] := by
  unfold release
  split
  · exact Or.inl rfl
  · split
    · rename_i f hf; exact Or.inr ⟨f, hf, rfl⟩
    · exact Or.inl rfl

theorem inv_release {st : St} (h : Inv st) (m v : Nat) : Inv (release st m v) := by
  rcases release_cases st m v with e | ⟨f, _, e⟩ <;> rw [e]
  · exact h
  · exact inv_delSids h _

theorem release_nextSid (st : St) (m v : Nat) : (release st m v).nextSid = st.nextSid := by
  rcases release_cases st m v with e | ⟨f, _, e⟩ <;> rw [e] <;> rfl

theorem inv_closeModel {st : St} (h : Inv st) (m : Nat) : Inv (closeModel st m) := by
  obtain ⟨d, _, hios⟩ := closeModel_ios st m
  refine inv_shrink h ?_ (closeModel_nextSid st m) (closeModel_nextIid st m) ?_
  · rw [hios]; exact shrinks_dropSids d st.ios
  · rw [closeModel_refs, closeModel_nextModel]; exact h.refLt

/-- a model is created: `new_model`, and the first step of a load -/
theorem inv_newModel {st : St} (h : Inv st) :
    Inv { st with opened := st.opened ++ [st.nextModel], nextModel := st.nextModel + 1 } :=
  inv_shrink h (shrinks_refl _) rfl rfl (fun r hr => Nat.lt_succ_of_lt (h.refLt r hr))

theorem inv_setRefs {st : St} (h : Inv st) (r' : List Ref) (hr : ∀ r ∈ r', r.model < st.nextModel) :
    Inv { st with refs := r' } :=
  inv_shrink h (shrinks_refl _) rfl rfl hr

theorem inv_bind {st : St} (h : Inv st) {m : Nat} (hm : m < st.nextModel) (n : String) (v : Nat) :
    Inv (bind st m n v) := by
  unfold bind
  split
  · apply inv_setRefs h
    intro r hr
    rcases List.mem_append.1 hr with hr | hr
    · exact h.refLt r hr
    · simp only [List.mem_singleton] at hr
      rw [hr]; exact hm
  · apply inv_release
    apply inv_setRefs h
    intro r hr
    rcases List.mem_map.1 hr with ⟨r0, hr0, e⟩
    split at e
    · rw [← e]; exact hm
    · rw [← e]; exact h.refLt r0 hr0

theorem inv_unbind {st : St} (h : Inv st) (m : Nat) (n : String) : Inv (unbind st m n).1 := by
  unfold unbind
  split
  · exact h
  · apply inv_release
    apply inv_setRefs h
    intro r hr
    exact h.refLt r (List.mem_filter.1 hr).1

theorem addSpec_cases {st st' : St} {m : Nat} {p : Path} {multi : Bool} {sheet : Option String} {v : Nat}
    (ha : addSpec st m p multi sheet v = some st') :
    st' = { st with
        ios := st.ios.map (fun x => if hasKey (keyGroup m p) p x
                                    then { x with specs := x.specs ++ [⟨st.nextSid, v, sheet⟩] } else x),
        nextSid := st.nextSid + 1 } ∨
    st' = { st with
        ios := st.ios ++ [⟨st.nextIid, keyGroup m p, p, multi, [⟨st.nextSid, v, sheet⟩]⟩],
        nextSid := st.nextSid + 1, nextIid := st.nextIid + 1 } := by
  unfold addSpec at ha
  split at ha
  · split at ha
    · exact Or.inl (Option.some.inj ha).symm
    · cases ha
  · exact Or.inr (Option.some.inj ha).symm

/-- `st'` is `st` after `add_spec` of the value `v` under the key of `(m, p)` -/
structure AddSpec (st st' : St) (m : Nat) (p : Path) (sheet : Option String) (v : Nat) : Prop where
  refs : st'.refs = st.refs
  nextModel : st'.nextModel = st.nextModel
  nextSid : st'.nextSid = st.nextSid + 1
  nextIid : st.nextIid ≤ st'.nextIid
  /-- a spec is the new one, in a file of that key, or was there -/
  specs : ∀ io' ∈ st'.ios, ∀ s ∈ io'.specs,
    (s = ⟨st.nextSid, v, sheet⟩ ∧ io'.group = keyGroup m p) ∨ (∃ io ∈ st.ios, s ∈ io.specs ∧ io.group = io'.group)
  /-- a file object was there, or is the new one of that key -/
  ios : ∀ io' ∈ st'.ios,
    (∃ io ∈ st.ios, io'.iid = io.iid ∧ io'.group = io.group ∧ io'.path = io.path ∧ (io.specs ≠ [] → io'.specs ≠ [])) ∨
    (io'.iid = st.nextIid ∧ st'.nextIid = st.nextIid + 1 ∧ io'.group = keyGroup m p ∧ io'.path = p ∧ io'.specs ≠ [])

theorem addSpec_specs {st st' : St} {m : Nat} {p : Path} {multi : Bool} {sheet : Option String} {v : Nat}
    (ha : addSpec st m p multi sheet v = some st') : AddSpec st st' m p sheet v := by
  rcases addSpec_cases ha with rfl | rfl
  · refine ⟨rfl, rfl, rfl, Nat.le_refl _, ?_, ?_⟩
    · intro io' hio' s hs
      rcases List.mem_map.1 hio' with ⟨x, hx, e⟩
      split at e
      · rename_i hk
        subst e
        rcases List.mem_append.1 hs with hs | hs
        · exact Or.inr ⟨x, hx, hs, rfl⟩
        · rw [hasKey, Bool.and_eq_true, beq_iff_eq] at hk
          exact Or.inl ⟨List.mem_singleton.1 hs, hk.1⟩
      · subst e
        exact Or.inr ⟨x, hx, hs, rfl⟩
    · intro io' hio'
      rcases List.mem_map.1 hio' with ⟨x, hx, e⟩
      split at e
      · subst e
        exact Or.inl ⟨x, hx, rfl, rfl, rfl, fun _ => List.append_ne_nil_of_right_ne_nil _ (List.cons_ne_nil _ _)⟩
      · subst e
        exact Or.inl ⟨x, hx, rfl, rfl, rfl, id⟩
  · refine ⟨rfl, rfl, rfl, Nat.le_succ _, ?_, ?_⟩
    · intro io' hio' s hs
      rcases List.mem_append.1 hio' with h | h
      · exact Or.inr ⟨io', h, hs, rfl⟩
      · cases List.mem_singleton.1 h
        exact Or.inl ⟨List.mem_singleton.1 hs, rfl⟩
    · intro io' hio'
      rcases List.mem_append.1 hio' with h | h
      · exact Or.inl ⟨io', h, rfl, rfl, rfl, id⟩
      · cases List.mem_singleton.1 h
        exact Or.inr ⟨rfl, rfl, rfl, rfl, List.cons_ne_nil _ _⟩

theorem keyGroup_wellKeyed (m : Nat) (p : Path) : (keyGroup m p).isNone = p.abs := by
  unfold keyGroup; cases p.abs <;> simp

theorem inv_addSpec {st st' : St} (h : Inv st) {m : Nat} {p : Path} {multi : Bool} {sheet : Option String} {v : Nat}
    (ha : addSpec st m p multi sheet v = some st') : Inv st' := by
  have hA := addSpec_specs ha
  refine ⟨?_, ?_, ?_, ?_, ?_, ?_⟩
  · intro io' hio' s hs
    rw [hA.nextSid]
    rcases hA.specs io' hio' s hs with ⟨e, _⟩ | ⟨io, hio, hsm, _⟩
    · rw [e]; exact Nat.lt_succ_self _
    · exact Nat.lt_succ_of_lt (h.sidLt io hio s hsm)
  · intro io' hio'
    rcases hA.ios io' hio' with ⟨io, hio, e, _⟩ | ⟨e, e2, _⟩
    · rw [e]; exact Nat.lt_of_lt_of_le (h.iidLt io hio) hA.nextIid
    · rw [e, e2]; exact Nat.lt_succ_self _
  · intro io1 m1 s hs1 io2 m2 s' hs2 e
    rcases hA.specs io1 m1 s hs1 with ⟨e1, g1⟩ | ⟨a, ha', hsa, ga⟩
    · rcases hA.specs io2 m2 s' hs2 with ⟨e2, g2⟩ | ⟨b, hb, hsb, gb⟩
      · exact ⟨by rw [e1, e2], by rw [g1, g2]⟩
      · have := h.sidLt b hb s' hsb
        rw [← e, e1] at this
        exact absurd this (Nat.lt_irrefl _)
    · rcases hA.specs io2 m2 s' hs2 with ⟨e2, g2⟩ | ⟨b, hb, hsb, gb⟩
      · have := h.sidLt a ha' s hsa
        rw [e, e2] at this
        exact absurd this (Nat.lt_irrefl _)
      · have := h.det a ha' s hsa b hb s' hsb e
        exact ⟨this.1, by rw [← ga, ← gb]; exact this.2⟩
  · intro io' hio'
    rcases hA.ios io' hio' with ⟨io, hio, _, _, _, hne⟩ | ⟨_, _, _, _, hne⟩
    · exact hne (h.nonempty io hio)
    · exact hne
  · intro r hr'
    rw [hA.refs] at hr'; rw [hA.nextModel]; exact h.refLt r hr'
  · intro io' hio'
    rcases hA.ios io' hio' with ⟨io, hio, _, eg, ep, _⟩ | ⟨_, _, eg, ep, _⟩
    · rw [eg, ep]; exact h.wellKeyed io hio
    · rw [eg, ep]; exact keyGroup_wellKeyed m p

theorem inv_newSpec {st : St} (h : Inv st) {m : Nat} (hm : m < st.nextModel) (n : String) (p : Path)
    (multi : Bool) (sheet : Option String) (v : Nat) : Inv (newSpec st m n p multi sheet v).1 := by
  unfold newSpec
  split
  · exact h
  · split
    · exact h
    · rename_i st' ha
      exact inv_bind (inv_addSpec h ha) (by rw [(addSpec_specs ha).nextModel]; exact hm) n v

theorem bindItems_induction {P : St → Prop} (m : Nat) : ∀ (items : List Item) (st : St),
    (∀ it ∈ items, ∀ st, P st → P (bind st m it.name it.val)) → P st → P (bindItems st m items)
  | [], _, _, h => h
  | it :: rest, st, hb, h => by
    unfold bindItems
    refine bindItems_induction m rest _ (fun x hx => hb x (List.mem_cons_of_mem _ hx)) ?_
    split
    · exact hb it List.mem_cons_self st h
    · exact h

theorem inv_cleanup {st : St} (h : Inv st) (m : Nat) (snapshot read : List Nat) :
    Inv (cleanup st m snapshot read) :=
  inv_shrink (inv_delSids (inv_closeModel h m) read) (shrinks_filter _ _) rfl rfl
    (inv_delSids (inv_closeModel h m) read).refLt

theorem load_cases (st : St) (items : List Item) (ok : Bool) :
    (load st items ok).1 = st ∨
    (freshVals st items = true ∧ ∃ st2 read all,
      readSpecs { st with opened := st.opened ++ [st.nextModel], nextModel := st.nextModel + 1 }
        st.nextModel items [] = (st2, read, all) ∧
      ((ok = true ∧ (load st items ok).1 = bindItems st2 st.nextModel (if all then items else [])) ∨
       (load st items ok).1 = cleanup (bindItems st2 st.nextModel (if all then items else [])) st.nextModel
          (st.ios.map (·.iid)) read)) := by
  generalize hL : (load st items ok).1 = L
  unfold load at hL
  split at hL
  · exact Or.inl hL.symm
  · rename_i hf
    refine Or.inr ⟨by simpa using hf, ?_⟩
    dsimp only at hL
    generalize readSpecs { st with opened := st.opened ++ [st.nextModel], nextModel := st.nextModel + 1 }
      st.nextModel items [] = rs at hL
    obtain ⟨st2, read, all⟩ := rs
    refine ⟨st2, read, all, rfl, ?_⟩
    dsimp only at hL
    split at hL
    · rename_i hc
      exact Or.inl ⟨(Bool.and_eq_true _ _ ▸ hc).2, hL.symm⟩
    · exact Or.inr hL.symm

theorem bind_nextSid (st : St) (m : Nat) (n : String) (v : Nat) : (bind st m n v).nextSid = st.nextSid := by
  unfold bind
  split
  · rfl
  · rw [release_nextSid]

theorem bindItems_nextSid (m : Nat) (items : List Item) (st : St) : (bindItems st m items).nextSid = st.nextSid :=
  bindItems_induction (P := fun s => s.nextSid = st.nextSid) m items st
    (fun _ _ s hs => (bind_nextSid s m _ _).trans hs) rfl

/-- `AbsPrivate` for every pair of models of the session - a decidable predicate on the state -/
def AbsPrivateAll (st : St) : Prop :=
  ∀ m, m < st.nextModel → ∀ m', m' < st.nextModel → m ≠ m' → AbsPrivate st m m'

instance (st : St) : Decidable (AbsPrivateAll st) := by unfold AbsPrivateAll; infer_instance

theorem boundIn_lt {st : St} (h : Inv st) {m v : Nat} (hb : boundIn st.refs m v = true) : m < st.nextModel := by
  simp only [boundIn, List.any_eq_true, Bool.and_eq_true, beq_iff_eq] at hb
  rcases hb with ⟨r, hr, hm, _⟩
  rw [← hm]; exact h.refLt r hr

theorem absPrivate_of_all {st : St} (h : Inv st) (hall : AbsPrivateAll st) (m m' : Nat) (hne : m ≠ m') :
    AbsPrivate st m m' := by
  intro io hio hg s hs s' hs' hb hb'
  exact hall m (boundIn_lt h hb) m' (boundIn_lt h hb') hne io hio hg s hs s' hs' hb hb'

end MxModel.IOSession
