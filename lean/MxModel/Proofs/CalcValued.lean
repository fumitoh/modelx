import MxModel.Proofs.CalcExec
/-!
# The valued cache erases to the value-free cache

Every primitive of the valued cache (`clearAtV`, `evalNodeV`, `setValueV`, the three actions, a whole
action list) commutes with forgetting the values: for every value domain and every valuation of the
formulas.  So which elements are held, pasted, cleared, computed never depends on a value.
-/
namespace MxModel.CalcSteps

variable {V : Type} (f : Node → List (Option V) → V) (preds : Node → List Node)

theorem foldl_erase {α : Type} (g : VCache V → α → VCache V) (h : Cache → α → Cache)
    (hgh : ∀ c x, (g c x).erase = h c.erase x) (l : List α) (c : VCache V) :
    (l.foldl g c).erase = l.foldl h c.erase := by
  induction l generalizing c with
  | nil => rfl
  | cons x xs ih => simp only [List.foldl_cons]; rw [ih, hgh]

theorem erase_clearAtV (n : Node) (c : VCache V) : (clearAtV n c).erase = clearAt n c.erase := by
  unfold clearAtV clearAt
  by_cases h : n ∈ c.data.map (·.1)
  · have h' : n ∈ c.erase.held := h
    rw [if_pos h, if_pos h']
    simp only [VCache.erase, List.filter_map]
    rfl
  · have h' : n ∉ c.erase.held := h
    rw [if_neg h, if_neg h']

theorem erase_enter (c : VCache V) (n : Node) : (c.enter n).erase = c.erase.enter n := rfl
theorem erase_addEdge (c : VCache V) (p n : Node) : (c.addEdge p n).erase = c.erase.addEdge p n := rfl
theorem erase_store (c : VCache V) (n : Node) (v : V) : (c.store n v).erase = c.erase.store n := by
  simp [VCache.erase, VCache.store, Cache.store]

theorem erase_evalNodeV :
    ∀ (fuel : Nat) (n : Node) (c : VCache V),
      (evalNodeV f preds fuel n c).erase = evalNode preds fuel n c.erase := by
  intro fuel
  induction fuel with
  | zero => intro n c; rfl
  | succ fuel ih =>
    intro n c
    unfold evalNodeV evalNode
    by_cases h : n ∈ c.data.map (·.1)
    · have h' : n ∈ c.erase.held := h
      rw [if_pos h, if_pos h']
    · have h' : n ∉ c.erase.held := h
      rw [if_neg h, if_neg h']
      simp only
      rw [erase_store, foldl_erase _ (fun c p => (evalNode preds fuel p c).addEdge p n)
        (fun c p => by rw [erase_addEdge, ih]), erase_enter]

theorem erase_setValueV (n : Node) (v : V) (c : VCache V) : (setValueV n v c).erase = setValue n c.erase := by
  unfold setValueV setValue
  simp only
  rw [← erase_clearAtV]
  simp [VCache.erase]

theorem erase_execActionV [Inhabited V]
    (fuel : Nat) (c : VCache V) (a : Action) :
    (execActionV f preds fuel c a).erase = execAction preds fuel c.erase a := by
  cases a with
  | doCalc ns =>
    exact foldl_erase _ (fun c n => evalNode preds fuel n c) (fun c n => erase_evalNodeV f preds fuel n c) ns c
  | doPaste ns =>
    simp only [execActionV, execAction]
    rw [foldl_erase _ (fun c n => setValue n c) (fun c n => erase_setValueV n _ c),
      foldl_erase _ (fun c n => evalNode preds fuel n c) (fun c n => erase_evalNodeV f preds fuel n c)]
  | doClear ns => exact foldl_erase _ (fun c n => clearAt n c) (fun c n => erase_clearAtV n c) ns c

theorem erase_executeV [Inhabited V]
    (fuel : Nat) (actions : List Action) (c : VCache V) :
    (executeV f preds fuel actions c).erase = execute preds fuel actions c.erase :=
  foldl_erase _ _ (fun c a => erase_execActionV f preds fuel c a) actions c

theorem value_append_of_not_mem (l : List (Node × V)) (n : Node) (v : V)
    (h : n ∉ l.map (·.1)) : ((l ++ [(n, v)]).find? (fun e => e.1 == n)).map (·.2) = some v := by
  have : l.find? (fun e => e.1 == n) = none :=
    List.find?_eq_none.mpr fun e he hen => h (List.mem_map.mpr ⟨e, he, by simpa using hen⟩)
  rw [List.find?_append, this]
  simp

theorem setValueV_value (n : Node) (v : V) (c : VCache V) : (setValueV n v c).value n = some v := by
  unfold setValueV VCache.value
  simp only
  apply value_append_of_not_mem
  unfold clearAtV
  by_cases h : n ∈ c.data.map (·.1)
  · rw [if_pos h]
    simp only [List.mem_map, List.mem_filter, not_exists, not_and]
    intro e he hen
    have := self_mem_withDescs c.edges n
    rw [hen] at he
    simp [this] at he
  · rw [if_neg h]; exact h

end MxModel.CalcSteps
