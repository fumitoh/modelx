import MxModel.Kernels.RelativeHist
import MxModel.Proofs.Relative
import MxModel.Proofs.StructMechC3
/-!
# References under edit histories (C10): the invariant of `Kernels/RelativeHist.lean`

`get_relative` reads the linearisation function only at non-empty prefixes of the sub space (`getRelative_congr`
in `Proofs/Relative.lean`); the object a derived reference is bound to does not depend on which objects exist,
except that a missing counterpart gives a null object (`reinherit_expected`).  So what a
derived reference has to be (`Expected`) depends on the linearisations of the enclosing spaces and on the first
definer only, and every operation keeps the invariant `RInv` by looking at the spaces it derives again
(`rinv_rederive`) and leaving the others as they are (`RInv.frame`).
-/
namespace MxModel.RelHist
open MxModel.Relative

/-- equal, or a null object where the counterpart (now) exists -/
def UpToNull (a b : DRef) : Prop :=
  a = b ∨ (a.mode = b.mode ∧ a.binding.isRelative = true ∧ b.binding.isRelative = true ∧
    a.binding.target = .null ∧ ∃ p, b.binding.target = .obj p)

theorem UpToNull.eq_of_absolute {a b : DRef} (h : UpToNull a b) (hb : b.binding.isRelative = false) : a = b := by
  rcases h with h | ⟨_, _, h3, _⟩
  · exact h
  · rw [hb] at h3; cases h3

theorem UpToNull.isRelative {a b : DRef} (h : UpToNull a b) (hb : b.binding.isRelative = true) :
    a.binding.isRelative = true := by
  rcases h with h | ⟨_, h2, _⟩
  · rw [h]; exact hb
  · exact h2

/-- what a reference derived in `S` from a definer in `D` with mode `dm` and value `t` has to be: it carries the
mode and is bound to what `on_inherit` gives when everything exists (a null object where the counterpart was
missing); a value that is no object is copied -/
def ExpectedOf (mro : Path → List Path) (dm : Mode) (S D : Path) (t : Target) (a : DRef) : Prop :=
  a.mode = dm ∧
    match t with
    | .obj v => ∃ b, reinherit mro (fun _ => true) (createDerived dm) dm S D (.obj v) = some b ∧ UpToNull a b
    | t => a.binding.target = t

theorem reinherit_expected {mro : Path → List Path} {ex : Path → Bool} {r a : DRef} {dm : Mode} {S D : Path}
    {t : Target} (h : reinherit mro ex r dm S D t = some a) : ExpectedOf mro dm S D t a := by
  constructor
  · unfold reinherit at h
    split at h
    · cases h; rfl
    · cases h
  cases t with
  | null => cases h; rfl
  | plain x => cases h; rfl
  | obj v =>
    by_cases hm : dm = .absolute
    · subst hm
      exact ⟨a, h, Or.inl rfl⟩
    · show ∃ b, _ ∧ _
      rw [reinherit_obj _ hm] at h ⊢
      obtain ⟨⟨rel, t⟩, hx, ha⟩ := Option.bind_eq_some_iff.mp h
      obtain ⟨t', ht', hu⟩ := getRelativeInterface_upToNull hx
      rw [ht', Option.bind_some]
      split at ha
      · cases ha
      · rename_i hc
        rw [if_neg hc]
        obtain rfl := Option.some.inj ha
        refine ⟨_, rfl, ?_⟩
        rcases hu with rfl | ⟨rfl, rfl, p, rfl⟩
        · exact Or.inl rfl
        · exact Or.inr ⟨rfl, rfl, rfl, rfl, p, rfl⟩

theorem newRefSub_expected {mro : Path → List Path} {ex : Path → Bool} {m : Mode} {S D : Path} {t : Target}
    {a : DRef} (hchk : checkSubRelref mro m S D t = false) (h : newRefSub mro ex m S D t = some a) :
    ExpectedOf mro m S D t a := by
  cases t with
  | obj v =>
    rw [newRefSub_eq_reinherit mro ex m (createDerived m) S D v hchk] at h
    exact reinherit_expected h
  | null => cases h; exact ⟨rfl, rfl⟩
  | plain x => cases h; exact ⟨rfl, rfl⟩

/-- what the derived reference `n` of the space `q` has to be NOW: it carries the mode of its first definer
and is bound to what `on_inherit` from that definer gives in the current linearisations (a null object
where the counterpart was missing when it was derived); a value that is no object is copied -/
def Expected (st : RState) (q : Path) (n : String) (r : DRef) : Prop :=
  ∃ D dr, st.firstDefiner q n = some (D, dr) ∧ r.mode = dr.mode ∧
    match dr.binding.target with
    | .obj v => ∃ b, reinherit st.mroOf (fun _ => true) (createDerived dr.mode) dr.mode q D (.obj v) = some b ∧
        UpToNull r b
    | t => r.binding.target = t

theorem expected_iff {st : RState} {q : Path} {n : String} {r : DRef} :
    Expected st q n r ↔
      ∃ D dr, st.firstDefiner q n = some (D, dr) ∧ ExpectedOf st.mroOf dr.mode q D dr.binding.target r :=
  Iff.rfl

structure RShape (st : RState) : Prop where
  allMro : ∀ q ∈ st.ids, (st.mroOpt q).isSome = true
  outside : ∀ q, q ∉ st.ids → st.bases q = [] ∧ ∀ n, st.ref q n = none
  basesIn : ∀ q, ∀ b ∈ st.bases q, b ∈ st.ids
  tree : ∀ q ∈ st.ids, ∀ x, x ≠ [] → x <+: q → x ∈ st.ids
  clean : ∀ q ∈ st.ids, Clean q

structure RInv (st : RState) : Prop extends RShape st where
  rebound : ∀ q n r, st.ref q n = some ⟨false, r⟩ → st.dirty q = false → Expected st q n r

theorem rshape_empty : RShape {} := by
  refine ⟨?_, ?_, ?_, ?_, ?_⟩
  · intro q hq; cases hq
  · intro q _; exact ⟨rfl, fun _ => rfl⟩
  · intro q b hb; cases hb
  · intro q hq; cases hq
  · intro q hq; cases hq

theorem rinv_empty : RInv {} := ⟨rshape_empty, fun q n r h => by cases h⟩

variable {st st' : RState}

/-- the shape speaks of the spaces, their bases, and of which spaces hold references -/
theorem RShape.congr (h : RShape st) (hi : st'.ids = st.ids) (hb : st'.bases = st.bases)
    (hr : ∀ q, q ∉ st.ids → ∀ n, st'.ref q n = none) : RShape st' := by
  have hm : st'.mroOpt = st.mroOpt := by funext q; unfold RState.mroOpt; rw [hi, hb]
  refine ⟨?_, ?_, ?_, ?_, ?_⟩
  · rw [hi, hm]; exact h.allMro
  · rw [hi, hb]; exact fun q hq => ⟨(h.outside q hq).1, hr q hq⟩
  · rw [hi, hb]; exact h.basesIn
  · rw [hi]; exact h.tree
  · rw [hi]; exact h.clean

theorem RShape.setBases (h : RShape st) {P : Path} {nb : List Path}
    (hb : ∀ q, st'.bases q = if q = P then nb else st.bases q) (hr : st'.ref = st.ref)
    (hsub : ∀ q ∈ st.ids, q ∈ st'.ids) (hsup : ∀ q ∈ st'.ids, q ∈ st.ids ∨ q = P) (hP : P ∈ st'.ids)
    (hc : Clean P) (htree : ∀ x, x ≠ [] → x <+: P → x ∈ st'.ids) (hnb : ∀ b ∈ nb, b ∈ st.ids)
    (hall : ∀ q ∈ st'.ids, (st'.mroOpt q).isSome = true) : RShape st' := by
  refine ⟨hall, fun q hq => ?_, fun q b hbq => hsub b ?_, fun q hq x hxne hxq => ?_, fun q hq => ?_⟩
  · have hq' : q ∉ st.ids := fun e => hq (hsub q e)
    rw [hb, hr, if_neg (fun (e : q = P) => hq (e ▸ hP))]
    exact h.outside q hq'
  · rw [hb] at hbq
    split at hbq
    · exact hnb b hbq
    · exact h.basesIn q b hbq
  · rcases hsup q hq with hq | rfl
    · exact hsub x (h.tree q hq x hxne hxq)
    · exact htree x hxne hxq
  · rcases hsup q hq with hq | rfl
    · exact h.clean q hq
    · exact hc

theorem ref_in_ids (h : RShape st) {q : Path} {n : String} {x : RRef} (hr : st.ref q n = some x) : q ∈ st.ids := by
  apply Classical.byContradiction
  intro hc
  rw [(h.outside q hc).2 n] at hr; cases hr

theorem mroOpt_nobases (st : RState) (x : Path) (hb : st.bases x = []) : st.mroOpt x = some [x] := by
  unfold RState.mroOpt
  simp [C3.mro, hb, C3.merge, C3.totalLen]

theorem mroOpt_some (h : RShape st) (x : Path) : ∃ l, st.mroOpt x = some l := by
  by_cases hx : x ∈ st.ids
  · exact Option.isSome_iff_exists.mp (h.allMro x hx)
  · exact ⟨[x], mroOpt_nobases st x (h.outside x hx).1⟩

theorem mroOf_of_opt {x : Path} {l : List Path} (h : st.mroOpt x = some l) : st.mroOf x = l := by
  unfold RState.mroOf; rw [h]; rfl

theorem mem_mroOf_ids (h : RShape st) {x y : Path} (hy : y ∈ st.mroOf x) : y = x ∨ y ∈ st.ids := by
  obtain ⟨l, hl⟩ := mroOpt_some h x
  rw [mroOf_of_opt hl] at hy
  rcases C3.mro_mem_cases st.bases _ x l hl y hy with rfl | ⟨z, _, hz⟩
  · exact Or.inl rfl
  · exact Or.inr (h.basesIn z y hz)

theorem mroOpt_off (h : RShape st) (hlen : st.ids.length ≤ st'.ids.length) {P x : Path}
    (hb : ∀ y, y ≠ P → st'.bases y = st.bases y) (hx : P ∉ st.mroOf x) : st'.mroOpt x = st.mroOpt x := by
  obtain ⟨l, hl⟩ := mroOpt_some h x
  rw [mroOf_of_opt hl] at hx
  rw [hl]
  exact C3.mro_transfer_le st.bases st'.bases _ _ x l hl (fun y hy => hb y (fun e => hx (e ▸ hy))) (by omega)

theorem mroOf_head {st : RState} (x : Path) : ∃ t, st.mroOf x = x :: t := by
  unfold RState.mroOf
  cases hm : st.mroOpt x with
  | none => exact ⟨[], rfl⟩
  | some l =>
    obtain ⟨r, hr⟩ := C3.mro_head st.bases _ x l hm
    exact ⟨r, by simp [hr]⟩

theorem firstDefiner_some {q D : Path} {n : String} {dr : DRef} (h : st.firstDefiner q n = some (D, dr)) :
    D ∈ (st.mroOf q).tail ∧ st.definedRef D n = some dr := by
  unfold RState.firstDefiner at h
  obtain ⟨b, hb, hf⟩ := List.exists_of_findSome?_eq_some h
  obtain ⟨r, hd, hr⟩ := Option.map_eq_some_iff.mp hf
  obtain ⟨rfl, rfl⟩ := Prod.mk.inj hr
  exact ⟨hb, hd⟩

theorem findSome_congr {β : Type} (f g : Path → Option β) : ∀ (l : List Path), (∀ b ∈ l, f b = g b) →
    l.findSome? f = l.findSome? g
  | [], _ => rfl
  | b :: rest, h => by
    simp only [List.findSome?_cons, h b (by simp)]
    rw [findSome_congr f g rest (fun x hx => h x (by simp [hx]))]

theorem firstDefiner_congr {q : Path} {n : String} (hm : st'.mroOf q = st.mroOf q)
    (hd : ∀ b ∈ (st.mroOf q).tail, st'.definedRef b n = st.definedRef b n) :
    st'.firstDefiner q n = st.firstDefiner q n := by
  unfold RState.firstDefiner
  rw [hm]
  exact findSome_congr _ _ _ (fun b hb => by rw [hd b hb])

theorem findSome_off {β : Type} (f1 f : Path → Option β) (p : Path) (y : β) (hp : f1 p = some y)
    (hoff : ∀ b, b ≠ p → f1 b = f b) : ∀ (L : List Path), L.findSome? f1 = some y ∨ L.findSome? f1 = L.findSome? f
  | [] => Or.inr rfl
  | b :: rest => by
    by_cases hb : b = p
    · exact Or.inl (by rw [List.findSome?_cons, hb, hp])
    · rw [List.findSome?_cons, List.findSome?_cons, hoff b hb]
      cases f b with
      | some x => exact Or.inr rfl
      | none => exact findSome_off f1 f p y hp hoff rest

theorem definedRef_some_ref {b : Path} {n : String} {r : DRef} (h : st.definedRef b n = some r) :
    st.ref b n = some ⟨true, r⟩ := by
  unfold RState.definedRef at h
  split at h
  · rename_i r' hr; cases h; exact hr
  · cases h

theorem definedRef_of_ref_derived {b : Path} {n : String} {r : DRef} (h : st.ref b n = some ⟨false, r⟩) :
    st.definedRef b n = none := by
  unfold RState.definedRef; rw [h]

theorem definedRef_of_ref_eq {b : Path} {n : String} (h : st'.ref b n = st.ref b n) :
    st'.definedRef b n = st.definedRef b n := by
  unfold RState.definedRef; rw [h]

theorem Expected_congr (h : RShape st) {q : Path} {n : String} {r : DRef} (hq : q ∈ st.ids)
    (hf : st'.firstDefiner q n = st.firstDefiner q n)
    (hm : ∀ x, x ≠ [] → x <+: q → st'.mroOf x = st.mroOf x) (he : Expected st q n r) : Expected st' q n r := by
  obtain ⟨D, dr, h1, h2, h3⟩ := he
  refine ⟨D, dr, by rw [hf]; exact h1, h2, ?_⟩
  have hD := h.clean D (ref_in_ids h (definedRef_some_ref (firstDefiner_some h1).2))
  cases ht : dr.binding.target with
  | obj v =>
    rw [ht] at h3
    obtain ⟨b, hb, hu⟩ := h3
    exact ⟨b, (reinherit_congr _ _ _ _ _ (h.clean q hq) hD _ hm).trans hb, hu⟩
  | null => rw [ht] at h3; exact h3
  | plain x => rw [ht] at h3; exact h3

theorem RInv.frame (h : RInv st) {q : Path} {n : String} {r : DRef}
    (hr : st.ref q n = some ⟨false, r⟩) (hd : st.dirty q = false)
    (hm : ∀ x, x ≠ [] → x <+: q → st'.mroOf x = st.mroOf x)
    (hdef : ∀ b ∈ (st.mroOf q).tail, st'.definedRef b n = st.definedRef b n) : Expected st' q n r :=
  have hq := ref_in_ids h.toRShape hr
  Expected_congr h.toRShape hq (firstDefiner_congr (hm q (h.clean q hq).1 (List.prefix_refl q)) hdef) hm
    (h.rebound q n r hr hd)

theorem Expected.of_definer {q D : Path} {n : String} {r dr : DRef} (he : Expected st q n r)
    (hf : st.firstDefiner q n = some (D, dr)) : ExpectedOf st.mroOf dr.mode q D dr.binding.target r := by
  obtain ⟨D', dr', hf', hexp⟩ := expected_iff.mp he
  obtain ⟨rfl, rfl⟩ := Prod.mk.inj (Option.some.inj (hf.symm.trans hf'))
  exact hexp

theorem ref_rederive_mem (st : RState) (qs : List Path) (b : Path) (n : String) (hb : b ∈ qs) :
    (st.rederive qs).ref b n = (st.derive1 b n).getD none :=
  if_pos (List.contains_iff_mem.mpr hb)

theorem ref_rederive_not_mem (st : RState) (qs : List Path) (b : Path) (n : String) (hb : b ∉ qs) :
    (st.rederive qs).ref b n = st.ref b n :=
  if_neg (fun e => hb (List.contains_iff_mem.mp e))

theorem dirty_rederive (st : RState) (qs : List Path) (q : Path) :
    (st.rederive qs).dirty q = if qs.contains q then false else st.dirty q := rfl

theorem dirty_markBelow (st : RState) (A : List Path) (q : Path) :
    (st.markBelow A).dirty q =
      if A.contains q then st.dirty q else if strictPrefixIn A q then true else st.dirty q := rfl

theorem strictPrefixIn_iff {A : List Path} {q : Path} :
    strictPrefixIn A q = true ↔ ∃ a ∈ A, a.length < q.length ∧ a <+: q := by
  simp [strictPrefixIn, List.any_eq_true]

theorem derive1_some {q : Path} {n : String} {x : RRef} (h : (st.derive1 q n).getD none = some x) :
    (x.defined = true ∧ st.definedRef q n = some x.r) ∨
    (x.defined = false ∧ st.definedRef q n = none ∧ ∃ D dr, st.firstDefiner q n = some (D, dr) ∧
      reinherit st.mroOf st.exist (st.oldOr q n dr.mode) dr.mode q D dr.binding.target = some x.r) := by
  unfold RState.derive1 at h
  cases hd : st.definedRef q n with
  | some r0 =>
    rw [hd] at h
    cases h
    exact Or.inl ⟨rfl, rfl⟩
  | none =>
    rw [hd] at h
    dsimp only at h
    cases hf : st.firstDefiner q n with
    | none => rw [hf] at h; cases h
    | some p =>
      obtain ⟨D, dr⟩ := p
      rw [hf] at h
      dsimp only at h
      cases hre : reinherit st.mroOf st.exist (st.oldOr q n dr.mode) dr.mode q D dr.binding.target with
      | none => rw [hre] at h; cases h
      | some a =>
        rw [hre] at h
        cases h
        exact Or.inr ⟨rfl, rfl, D, dr, rfl, hre⟩

theorem definedRef_rederive (st : RState) (qs : List Path) (b : Path) (n : String) :
    (st.rederive qs).definedRef b n = st.definedRef b n := by
  by_cases hb : b ∈ qs
  · have hr := ref_rederive_mem st qs b n hb
    cases hx : (st.derive1 b n).getD none with
    | none =>
      rw [hx] at hr
      cases hd : st.definedRef b n with
      | none => unfold RState.definedRef; rw [hr]
      | some r => rw [RState.derive1, hd] at hx; cases hx
    | some x =>
      rw [hx] at hr
      obtain ⟨d, r⟩ := x
      rcases derive1_some hx with ⟨hdef, hd⟩ | ⟨hdef, hd, _⟩
      · cases hdef; rw [hd]; unfold RState.definedRef; rw [hr]
      · cases hdef; rw [hd]; exact definedRef_of_ref_derived hr
  · exact definedRef_of_ref_eq (ref_rederive_not_mem st qs b n hb)

theorem mroOf_rederive (st : RState) (qs : List Path) : (st.rederive qs).mroOf = st.mroOf := rfl
theorem mroOpt_rederive (st : RState) (qs : List Path) : (st.rederive qs).mroOpt = st.mroOpt := rfl

theorem firstDefiner_rederive (st : RState) (qs : List Path) (q : Path) (n : String) :
    (st.rederive qs).firstDefiner q n = st.firstDefiner q n :=
  firstDefiner_congr rfl (fun b _ => definedRef_rederive st qs b n)

theorem mem_subs {p q : Path} : q ∈ st.subs p ↔ q ∈ st.ids ∧ q ≠ p ∧ p ∈ st.mroOf q := by
  unfold RState.subs
  simp only [List.mem_filter, Bool.and_eq_true, bne_iff_ne, ne_eq, List.contains_eq_mem, decide_eq_true_eq]

theorem not_in_area {p x : Path} (hx : x ∈ st.ids) (hA : x ∉ p :: st.subs p) : p ∉ st.mroOf x := by
  intro hm
  apply hA
  by_cases hxp : x = p
  · simp [hxp]
  · exact List.mem_cons_of_mem _ (mem_subs.mpr ⟨hx, hxp, hm⟩)

theorem area_in_ids {p : Path} (hp : p ∈ st.ids) : ∀ q ∈ p :: st.subs p, q ∈ st.ids := by
  intro q hq
  rcases List.mem_cons.mp hq with rfl | hq
  · exact hp
  · exact (mem_subs.mp hq).1

/-- the invariant after a re-derivation of the spaces `A`, whatever marks `d` the spaces get then: a space that was
derived again holds what is expected; of the others it is enough that those left unmarked did -/
theorem rinv_rederive (h : RShape st) (A : List Path) (hA : ∀ q ∈ A, q ∈ st.ids) (d : Path → Bool)
    (hkeep : ∀ q n r, q ∉ A → st.ref q n = some ⟨false, r⟩ → d q = false → Expected st q n r) :
    RInv { st.rederive A with dirty := d } := by
  refine ⟨h.congr rfl rfl (fun q hq n => ?_), fun q n r hr hd => ?_⟩
  · exact (ref_rederive_not_mem st A q n (fun hqa => hq (hA q hqa))).trans ((h.outside q hq).2 n)
  · have hfd := firstDefiner_rederive st A q n
    by_cases hq : q ∈ A
    · have hr' := (ref_rederive_mem st A q n hq).symm.trans hr
      rcases derive1_some hr' with ⟨hdef, _⟩ | ⟨_, _, D, dr, hf, hre⟩
      · cases hdef
      · exact expected_iff.mpr ⟨D, dr, hfd.trans hf, reinherit_expected hre⟩
    · have hr' := (ref_rederive_not_mem st A q n hq).symm.trans hr
      exact Expected_congr h (ref_in_ids h hr') hfd (fun _ _ _ => rfl) (hkeep q n r hq hr' hd)

/-- the state of `delRef` before the re-derivation -/
abbrev RState.dropRef (st : RState) (p : Path) (n : String) : RState :=
  { st with ref := fun q k => if q = p ∧ k = n then none else st.ref q k }

theorem delRef_some {p : Path} {n : String} (h : st.delRef p n = some st') :
    (∃ r, st.definedRef p n = some r) ∧ st' = (st.dropRef p n).rederive (p :: st.subs p) := by
  simp only [RState.delRef, Option.ite_none_left_eq_some, Option.some.injEq] at h
  obtain ⟨hd, _, rfl⟩ := h
  cases hx : st.definedRef p n with
  | none => exact absurd (by rw [hx]; rfl) hd
  | some r => exact ⟨⟨r, rfl⟩, rfl⟩

theorem rinv_delRef (h : RInv st) (p : Path) (n : String) (hop : st.delRef p n = some st') : RInv st' := by
  obtain ⟨⟨r0, hdef⟩, rfl⟩ := delRef_some hop
  have hp : p ∈ st.ids := ref_in_ids h.toRShape (definedRef_some_ref hdef)
  have hs1 : RShape (st.dropRef p n) := h.toRShape.congr rfl rfl (fun q hq k => by
    show (if q = p ∧ k = n then none else st.ref q k) = none
    split
    · rfl
    · exact (h.outside q hq).2 k)
  refine rinv_rederive hs1 (p :: st.subs p) (area_in_ids hp) _ (fun q k r hq hr hd => ?_)
  have hqp : q ≠ p := fun e => hq (e ▸ List.mem_cons_self)
  have hr' : st.ref q k = some ⟨false, r⟩ := (if_neg (fun e => hqp e.1)).symm.trans hr
  -- a space that is not derived again does not have `p` on its linearisation
  have hnm : p ∉ st.mroOf q := not_in_area (ref_in_ids h.toRShape hr') hq
  refine h.frame hr' ((if_neg (fun e => hq (List.contains_iff_mem.mp e))).symm.trans hd) (fun _ _ _ => rfl)
    (fun b hb => definedRef_of_ref_eq (if_neg (fun (e : b = p ∧ k = n) => hnm (e.1 ▸ List.mem_of_mem_tail hb))))

def ROp.isRebase : ROp → Bool
  | .addBase _ _ => true
  | .removeBase _ _ => true
  | _ => false

/-- the state of `rebase` before the re-derivation -/
abbrev RState.setBases (st : RState) (p : Path) (nb : List Path) : RState :=
  { st with bases := fun q => if q = p then nb else st.bases q }

theorem rebase_some {p : Path} {nb : List Path} (h : st.rebase p nb = some st') :
    (∀ q ∈ st.ids, ((st.setBases p nb).mroOpt q).isSome = true) ∧
      st' = ((st.setBases p nb).rederive (p :: st.subs p)).markBelow (p :: st.subs p) := by
  simp only [RState.rebase, Option.ite_none_left_eq_some, Option.some.injEq] at h
  obtain ⟨hall, _, rfl⟩ := h
  rw [Bool.not_eq_true', Bool.not_eq_false] at hall
  exact ⟨List.all_eq_true.mp hall, rfl⟩

theorem rebaseOp_some {op : ROp} (hop : op.isRebase = true) (h : st.apply op = some st') :
    ∃ p nb, p ∈ st.ids ∧ (∀ b ∈ nb, b ∈ st.ids ∨ b ∈ st.bases p) ∧ st.rebase p nb = some st' := by
  cases op with
  | addBase p b =>
    simp only [RState.apply, RState.addBase, Option.ite_none_left_eq_some] at h
    obtain ⟨hc, hr⟩ := h
    simp only [Bool.or_eq_true, Bool.not_eq_true', List.contains_eq_mem, decide_eq_false_iff_not,
      decide_eq_true_eq, not_or, Decidable.not_not] at hc
    refine ⟨p, _, hc.1.1, fun x hx => ?_, hr⟩
    rcases List.mem_append.mp hx with hx | hx
    · exact Or.inr hx
    · exact Or.inl (List.mem_singleton.mp hx ▸ hc.1.2)
  | removeBase p b =>
    simp only [RState.apply, RState.removeBase, Option.ite_none_left_eq_some] at h
    obtain ⟨hc, hr⟩ := h
    simp only [Bool.or_eq_true, Bool.not_eq_true', List.contains_eq_mem, decide_eq_false_iff_not,
      not_or, Decidable.not_not] at hc
    exact ⟨p, _, hc.1, fun x hx => Or.inr (List.mem_filter.mp hx).1, hr⟩
  | _ => cases hop

theorem rinv_rebase (h : RInv st) (p : Path) (nb : List Path) (hp : p ∈ st.ids)
    (hnb : ∀ b ∈ nb, b ∈ st.ids) (hop : st.rebase p nb = some st') : RInv st' := by
  obtain ⟨hall, rfl⟩ := rebase_some hop
  have hs1 : RShape (st.setBases p nb) := h.toRShape.setBases (fun _ => rfl) rfl (fun _ hq => hq) (fun _ hq => Or.inl hq) hp
    (h.clean p hp) (h.tree p hp) hnb hall
  refine rinv_rederive hs1 (p :: st.subs p) (area_in_ids hp) _ (fun q k r hq hr hd => ?_)
  -- `q` is not marked afterwards: it was not before, and no enclosing space is derived again
  rw [if_neg (fun e => hq (List.contains_iff_mem.mp e))] at hd
  split at hd
  · cases hd
  rename_i hsp
  have hr' : st.ref q k = some ⟨false, r⟩ := hr
  refine h.frame hr' ((if_neg (fun e => hq (List.contains_iff_mem.mp e))).symm.trans hd)
    (fun x hxne hxq => ?_) (fun b _ => rfl)
  have hxA : x ∉ p :: st.subs p := by
    intro hxa
    by_cases hxe : x = q
    · exact hq (hxe ▸ hxa)
    · exact hsp (strictPrefixIn_iff.mpr
        ⟨x, hxa, Nat.lt_of_le_of_ne hxq.length_le (fun e => hxe (hxq.eq_of_length e)), hxq⟩)
  unfold RState.mroOf
  rw [mroOpt_off (st' := st.setBases p nb) h.toRShape (Nat.le_refl _) (fun y hy => if_neg hy)
    (not_in_area (h.tree q (ref_in_ids h.toRShape hr') x hxne hxq) hxA)]

/-- the state of `newSpace` before the new space derives its references -/
abbrev RState.addSpace (st : RState) (P : Path) (bases : List Path) (cells : List String) : RState :=
  { st with
    ids := st.ids ++ [P]
    bases := fun q => if q = P then bases else st.bases q
    cells := fun q => if q = P then cells else st.cells q }

theorem newSpace_some {parent : Path} {name : String} {bases : List Path} {cells : List String}
    (h : st.newSpace parent name bases cells = some st') :
    name ≠ "" ∧ "" ∉ parent ∧ parent ++ [name] ∉ st.ids ∧ (parent = [] ∨ parent ∈ st.ids) ∧
      (∀ b ∈ bases, b ∈ st.ids) ∧
      ((st.addSpace (parent ++ [name]) bases cells).mroOpt (parent ++ [name])).isSome = true ∧
      st' = (st.addSpace (parent ++ [name]) bases cells).rederive [parent ++ [name]] := by
  simp only [RState.newSpace, Option.ite_none_left_eq_some, Option.some.injEq] at h
  obtain ⟨hg, hm, _, rfl⟩ := h
  simp only [Bool.or_eq_true, beq_iff_eq, List.contains_eq_mem, decide_eq_true_eq, Bool.not_eq_true',
    Bool.or_eq_false_iff, decide_eq_false_iff_not, not_or] at hg
  obtain ⟨⟨⟨⟨⟨hname, hpar⟩, _⟩, hnew⟩, hparent⟩, hbases⟩ := hg
  refine ⟨hname, hpar, hnew, ?_, by simpa using hbases,
    by rw [← Option.not_isNone, Bool.not_eq_true']; exact Bool.eq_false_iff.mpr hm, rfl⟩
  by_cases hp : parent = []
  · exact Or.inl hp
  · exact Or.inr (Classical.byContradiction fun hni => hparent ⟨by simpa using hp, hni⟩)

theorem mroOpt_addSpace (h : RShape st) {P : Path} (hnew : P ∉ st.ids) (bases : List Path)
    (cells : List String) {x : Path} (hx : x ≠ P) : (st.addSpace P bases cells).mroOpt x = st.mroOpt x :=
  mroOpt_off h (by rw [List.length_append]; exact Nat.le_add_right _ _) (fun y hy => if_neg hy)
    (fun hm => (mem_mroOf_ids h hm).elim (fun e => hx e.symm) hnew)

theorem rinv_newSpace (h : RInv st) (parent : Path) (name : String) (bases : List Path)
    (cells : List String) (hop : st.newSpace parent name bases cells = some st') : RInv st' := by
  obtain ⟨hname, hpar, hnew, hparent, hbases, hmro, rfl⟩ := newSpace_some hop
  have hP : parent ++ [name] ∈ st.ids ++ [parent ++ [name]] := List.mem_append_right _ List.mem_cons_self
  have hsup : ∀ q ∈ st.ids ++ [parent ++ [name]], q ∈ st.ids ∨ q = parent ++ [name] :=
    fun q hq => (List.mem_append.mp hq).imp_right List.mem_singleton.mp
  have hs1 : RShape (st.addSpace (parent ++ [name]) bases cells) := by
    refine h.toRShape.setBases (fun _ => rfl) rfl (fun _ hq => List.mem_append_left _ hq) hsup hP
      ⟨by simp, fun hm => (List.mem_append.mp hm).elim hpar (fun hm => hname (List.mem_singleton.mp hm).symm)⟩
      (fun x hxne hxq => ?_) hbases (fun q hq => ?_)
    · rcases List.prefix_concat_iff.mp hxq with rfl | hx
      · exact hP
      · rcases hparent with hp | hp
        · exact absurd (List.prefix_nil.mp (hp ▸ hx)) hxne
        · exact List.mem_append_left _ (h.tree parent hp x hxne hx)
    · rcases hsup q hq with hq | rfl
      · rw [mroOpt_addSpace h.toRShape hnew bases cells (fun e => hnew (e ▸ hq))]
        exact h.allMro q hq
      · exact hmro
  refine rinv_rederive hs1 [parent ++ [name]] (fun q hq => List.mem_append_right _ hq) _
    (fun q k r hq hr hd => ?_)
  have hr' : st.ref q k = some ⟨false, r⟩ := hr
  refine h.frame hr' ((if_neg (fun e => hq (List.contains_iff_mem.mp e))).symm.trans hd)
    (fun x hxne hxq => ?_) (fun b _ => rfl)
  unfold RState.mroOf
  rw [mroOpt_addSpace h.toRShape hnew bases cells
    (fun e => hnew (e ▸ h.tree q (ref_in_ids h.toRShape hr') x hxne hxq))]

theorem mem_takers {st1 : RState} {p q : Path} {n : String} :
    q ∈ st.takers st1 p n ↔
      q ∈ st.subs p ∧ st.definedRef q n = none ∧ ∃ dr, st1.firstDefiner q n = some (p, dr) := by
  unfold RState.takers
  rw [List.mem_filter, Bool.and_eq_true, Option.isNone_iff_eq_none]
  refine and_congr_right fun _ => and_congr_right fun _ => ?_
  cases st1.firstDefiner q n with
  | none => simp
  | some x => obtain ⟨D, dr⟩ := x; simp

theorem ref_define (st : RState) (p : Path) (n : String) (t : Target) (m : Mode) (q : Path) (k : String) :
    (st.define p n t m).ref q k = if q = p ∧ k = n then some ⟨true, ⟨m, ⟨t, ctorFlag m⟩⟩⟩ else st.ref q k := rfl

theorem definedRef_define_self (st : RState) (p : Path) (n : String) (t : Target) (m : Mode) :
    (st.define p n t m).definedRef p n = some ⟨m, ⟨t, ctorFlag m⟩⟩ := by
  unfold RState.definedRef; rw [ref_define, if_pos ⟨rfl, rfl⟩]

theorem definedRef_define_of_ne {p b : Path} {n k : String} (t : Target) (m : Mode)
    (h : ¬ (b = p ∧ k = n)) : (st.define p n t m).definedRef b k = st.definedRef b k :=
  definedRef_of_ref_eq (if_neg h)

/-- the state after an accepted `setRef`: the definition in `p`, and the takers bound by the loop of
`new_ref` / `change_ref` -/
abbrev RState.assign (st : RState) (p : Path) (n : String) (t : Target) (m : Mode) : RState :=
  { st.define p n t m with
    ref := fun q k =>
      if k = n ∧ (st.takers (st.define p n t m) p n).contains q then
        (newRefSub st.mroOf st.exist m q p t).map (fun r => ⟨false, r⟩)
      else (st.define p n t m).ref q k }

theorem setRef_some {p : Path} {n : String} {t : Target} {m : Mode} (h : st.setRef p n t m = some st') :
    p ∈ st.ids ∧ (∀ q ∈ st.takers (st.define p n t m) p n, checkSubRelref st.mroOf m q p t = false) ∧
      st' = st.assign p n t m := by
  simp only [RState.setRef, Option.ite_none_left_eq_some] at h
  obtain ⟨hc, _, h⟩ := h
  simp only [Bool.or_eq_true, Bool.not_eq_true', List.contains_eq_mem, decide_eq_false_iff_not, beq_iff_eq,
    not_or, Decidable.not_not] at hc
  cases hg : setRefGuarded st.mroOf st.exist (st.ref p n).isSome m p t (st.takers (st.define p n t m) p n) with
  | none => rw [hg] at h; cases h
  | some out =>
    rw [hg] at h
    simp only [Option.ite_none_left_eq_some, Option.some.injEq] at h
    exact ⟨hc.1, (setRefGuarded_some hg).1, h.2.symm⟩

section
variable {p q b : Path} {n k : String} {t : Target} {m : Mode}

theorem ref_assign_taker (hq : q ∈ st.takers (st.define p n t m) p n) :
    (st.assign p n t m).ref q n = (newRefSub st.mroOf st.exist m q p t).map (fun r => ⟨false, r⟩) :=
  if_pos ⟨rfl, List.contains_iff_mem.mpr hq⟩

theorem ref_assign_other (h : ¬ (k = n ∧ q ∈ st.takers (st.define p n t m) p n)) :
    (st.assign p n t m).ref q k = (st.define p n t m).ref q k :=
  if_neg (fun e => h ⟨e.1, List.contains_iff_mem.mp e.2⟩)

theorem definedRef_assign : (st.assign p n t m).definedRef b k = (st.define p n t m).definedRef b k := by
  by_cases hbk : k = n ∧ b ∈ st.takers (st.define p n t m) p n
  · obtain ⟨rfl, hb⟩ := hbk
    obtain ⟨hsub, hnd, _⟩ := mem_takers.mp hb
    rw [definedRef_define_of_ne t m (fun e => (mem_subs.mp hsub).2.1 e.1), hnd]
    unfold RState.definedRef
    rw [ref_assign_taker hb]
    cases newRefSub st.mroOf st.exist m b p t <;> rfl
  · exact definedRef_of_ref_eq (ref_assign_other hbk)

end

theorem rinv_setRef (h : RInv st) (p : Path) (n : String) (t : Target) (m : Mode)
    (hop : st.setRef p n t m = some st') : RInv st' := by
  obtain ⟨hp, hchk, rfl⟩ := setRef_some hop
  have hfd : ∀ q k, (st.assign p n t m).firstDefiner q k = (st.define p n t m).firstDefiner q k :=
    fun q k => firstDefiner_congr rfl (fun b _ => definedRef_assign)
  refine ⟨h.toRShape.congr rfl rfl (fun q hq k => ?_), fun q k r hr hd => ?_⟩
  · rw [ref_assign_other (fun e => hq (mem_subs.mp (mem_takers.mp e.2).1).1), ref_define,
      if_neg (fun (e : q = p ∧ k = n) => hq (e.1 ▸ hp))]
    exact (h.outside q hq).2 k
  · by_cases hqk : k = n ∧ q ∈ st.takers (st.define p n t m) p n
    · -- a taker: bound by the loop of `new_ref` / `change_ref`, its first definer is the new definition
      obtain ⟨rfl, hq⟩ := hqk
      rw [ref_assign_taker hq] at hr
      obtain ⟨a, hn, ha⟩ := Option.map_eq_some_iff.mp hr
      obtain rfl : a = r := by cases ha; rfl
      obtain ⟨dr, hfdq⟩ := (mem_takers.mp hq).2.2
      obtain rfl : dr = ⟨m, ⟨t, ctorFlag m⟩⟩ :=
        Option.some.inj ((firstDefiner_some hfdq).2.symm.trans (definedRef_define_self st p k t m))
      exact expected_iff.mpr ⟨p, _, (hfd q k).trans hfdq, newRefSub_expected (hchk q hq) hn⟩
    · -- everything else keeps its reference, and its first definer is not the new definition
      rw [ref_assign_other hqk, ref_define] at hr
      split at hr
      · cases hr
      · rename_i hne
        have hqi := ref_in_ids h.toRShape hr
        refine Expected_congr h.toRShape hqi ((hfd q k).trans ?_) (fun _ _ _ => rfl) (h.rebound q k r hr hd)
        by_cases hk : k = n
        · subst hk
          -- the search from `q` does not stop at the new definition, or `q` would be a taker
          rcases findSome_off (fun b => ((st.define p k t m).definedRef b k).map (fun r => (b, r)))
            (fun b => (st.definedRef b k).map (fun r => (b, r))) p _
            (by rw [definedRef_define_self]; rfl)
            (fun b hb => by rw [definedRef_define_of_ne t m (fun e => hb e.1)]) (st.mroOf q).tail with h1 | h2
          · have hsub := mem_subs.mpr ⟨hqi, fun e => hne ⟨e, rfl⟩, List.mem_of_mem_tail (firstDefiner_some h1).1⟩
            exact absurd ⟨rfl, mem_takers.mpr ⟨hsub, definedRef_of_ref_derived hr, _, h1⟩⟩ hqk
          · exact h2
        · exact firstDefiner_congr rfl (fun b _ => definedRef_define_of_ne t m (fun e => hk e.2))

theorem rinv_cells (h : RInv st) (f : Path → List String) : RInv { st with cells := f } :=
  ⟨h.toRShape.congr rfl rfl (fun q hq => (h.outside q hq).2), h.rebound⟩

theorem newCells_some {p : Path} {c : String} (h : st.newCells p c = some st') :
    ∃ f, st' = { st with cells := f } := by
  simp only [RState.newCells, Option.ite_none_left_eq_some, Option.some.injEq] at h
  exact ⟨_, h.2.symm⟩

theorem delCells_some {p : Path} {c : String} (h : st.delCells p c = some st') :
    ∃ f, st' = { st with cells := f } := by
  simp only [RState.delCells, Option.ite_none_left_eq_some, Option.some.injEq] at h
  exact ⟨_, h.2.symm⟩

theorem step_ind {P : RState → Prop} {op : ROp} (h0 : P st)
    (h1 : ∀ st', st.apply op = some st' → P st') : P (st.step op) := by
  unfold RState.step
  cases h : st.apply op with
  | none => exact h0
  | some st' => exact h1 st' h

theorem run_induction {P : RState → Prop} {Q : ROp → Prop} (hstep : ∀ st op, Q op → P st → P (st.step op)) :
    ∀ (ops : List ROp) (st : RState), (∀ op ∈ ops, Q op) → P st → P (st.run ops)
  | [], _, _, h => h
  | op :: rest, st, hq, h =>
    run_induction hstep rest (st.step op) (fun o ho => hq o (List.mem_cons_of_mem _ ho))
      (hstep st op (hq op List.mem_cons_self) h)

theorem rinv_step (st : RState) (op : ROp) (h : RInv st) : RInv (st.step op) := by
  refine step_ind h (fun st' hop => ?_)
  by_cases hr : op.isRebase = true
  · obtain ⟨p, nb, hp, hnb, hreb⟩ := rebaseOp_some hr hop
    exact rinv_rebase h p nb hp (fun b hb => (hnb b hb).elim id (h.basesIn p b)) hreb
  cases op with
  | newSpace parent name bases cells => exact rinv_newSpace h parent name bases cells hop
  | newCells p c => obtain ⟨f, rfl⟩ := newCells_some hop; exact rinv_cells h f
  | delCells p c => obtain ⟨f, rfl⟩ := delCells_some hop; exact rinv_cells h f
  | setRef p n t m => exact rinv_setRef h p n t m hop
  | delRef p n => exact rinv_delRef h p n hop
  | addBase p b => exact absurd rfl hr
  | removeBase p b => exact absurd rfl hr

theorem rinv_run (ops : List ROp) (st : RState) (h : RInv st) : RInv (st.run ops) :=
  run_induction (Q := fun _ => True) (fun st op _ => rinv_step st op) ops st (fun _ _ => trivial) h

theorem dirty_step (st : RState) (op : ROp) (q : Path) (hq : (st.step op).dirty q = true) :
    st.dirty q = true ∨ (op.isRebase = true ∧ ∃ a ∈ st.ids, a.length < q.length) := by
  have hcl : ∀ (s : RState) (A : List Path), (s.rederive A).dirty q = true → s.dirty q = true := by
    intro s A h
    rw [dirty_rederive] at h
    split at h
    · cases h
    · exact h
  revert hq
  refine step_ind (P := fun s => s.dirty q = true → _) Or.inl (fun st' hop hq => ?_)
  by_cases hr : op.isRebase = true
  · obtain ⟨p, nb, hp, _, hreb⟩ := rebaseOp_some hr hop
    obtain ⟨_, rfl⟩ := rebase_some hreb
    rw [dirty_markBelow] at hq
    split at hq
    · exact Or.inl (hcl _ _ hq)
    · split at hq
      · rename_i hsp
        obtain ⟨a, ha, hlt, _⟩ := strictPrefixIn_iff.mp hsp
        exact Or.inr ⟨hr, a, area_in_ids hp a ha, hlt⟩
      · exact Or.inl (hcl _ _ hq)
  cases op with
  | newSpace parent name bases cells =>
    obtain ⟨_, _, _, _, _, _, rfl⟩ := newSpace_some hop
    exact Or.inl (hcl _ _ hq)
  | newCells p c => obtain ⟨f, rfl⟩ := newCells_some hop; exact Or.inl hq
  | delCells p c => obtain ⟨f, rfl⟩ := delCells_some hop; exact Or.inl hq
  | setRef p n t m => obtain ⟨_, _, rfl⟩ := setRef_some hop; exact Or.inl hq
  | delRef p n => obtain ⟨_, rfl⟩ := delRef_some hop; exact Or.inl (hcl _ _ hq)
  | addBase p b => exact absurd rfl hr
  | removeBase p b => exact absurd rfl hr

theorem no_rebase_no_dirty (ops : List ROp) (st : RState) (hops : ∀ op ∈ ops, op.isRebase = false)
    (h : ∀ q, st.dirty q = false) : ∀ q, (st.run ops).dirty q = false :=
  run_induction (P := fun s => ∀ q, s.dirty q = false) (Q := fun op => op.isRebase = false)
    (fun st op hop h q => by
      cases hd : (st.step op).dirty q with
      | false => rfl
      | true =>
        rcases dirty_step st op q hd with hq | ⟨hr, _⟩
        · rw [← h q]; exact hq.symm
        · rw [hop] at hr; cases hr)
    ops st hops h

theorem dirty_depth_run (ops : List ROp) (st : RState) (hi : RInv st) (h : ∀ q, st.dirty q = true → 2 ≤ q.length) :
    ∀ q, (st.run ops).dirty q = true → 2 ≤ q.length :=
  (run_induction (P := fun s => RInv s ∧ ∀ q, s.dirty q = true → 2 ≤ q.length) (Q := fun _ => True)
    (fun st op _ h => ⟨rinv_step st op h.1, fun q hq => by
      rcases dirty_step st op q hq with hq | ⟨_, a, ha, hlt⟩
      · exact h.2 q hq
      · exact Nat.lt_of_le_of_lt (List.length_pos_iff.mpr (h.1.clean a ha).1) hlt⟩)
    ops st (fun _ _ => trivial) ⟨hi, h⟩).2

end MxModel.RelHist
