import MxModel.Proofs.ExecCertTop
/-!
# Redefinition at a cleared state

What a clearing leaves behind, as facts about the state:

* `Clean s c` – every graph node cells `c` still has is an INPUT element;
* `NoNodes s c` – `c` has no node at all;
* `NoRg s r` – the reference graph has no edge of reference `r`.

`redefine_ci`: from a state in which every cells whose definition changes is `Clean` (and keeps flag and
existence if it holds an input), every reference whose value changes has clean observers and – if it
existed – no reference-graph edge, the certificate invariant holds for the NEW definitions with
NOTHING cleared in addition.  An edit of modelx is a clearing that keeps the invariant for the
definitions in force, followed by such a redefinition: `refEdit_ci` (T3: the edited environment
differs in one reference) and `setFormula_ci` (T4) here, `batchEdit_ci`, the structural edits of
`Proofs/EditMachine*.lean`.
-/
namespace MxModel.Edit
open MxModel.Exec

variable {env env' : Env} {lt : Node → Node → Prop}

def Clean (s : Exec.St) (c : CellId) : Prop := ∀ x ∈ s.gn, x.cell = c → ∃ m, x = .elem m ∧ m ∈ s.inputs

def NoNodes (s : Exec.St) (c : CellId) : Prop := ∀ x ∈ s.gn, x.cell ≠ c

def NoRg (s : Exec.St) (r : RefId) : Prop := ∀ n, (r, n) ∉ s.rg

theorem NoNodes.clean {s : Exec.St} {c : CellId} (h : NoNodes s c) : Clean s c :=
  fun x hx hc => absurd hc (h x hx)

theorem Clean.elem {s : Exec.St} {m : Node} (h : Clean s m.1) (hm : GNode.elem m ∈ s.gn) : m ∈ s.inputs := by
  obtain ⟨m', hm', hin⟩ := h _ hm rfl
  cases hm'; exact hin

theorem Clean.obj {s : Exec.St} {c : CellId} (h : Clean s c) : GNode.obj c ∉ s.gn := by
  intro hc
  obtain ⟨m, hm, _⟩ := h _ hc rfl
  cases hm

theorem Clean.of_clr {s s' : Exec.St} {R : List GNode} {D : RefId × Node → Prop} {c : CellId}
    (h : Clean s c) (hc : Clr s R D s') : Clean s' c := by
  intro x hx hxc
  obtain ⟨h1, h2⟩ := (hc.mem_gn x).mp hx
  obtain ⟨m, rfl, hm⟩ := h x h1 hxc
  exact ⟨m, rfl, (hc.mem_inputs m).mpr ⟨hm, h2⟩⟩

theorem NoNodes.of_clr {s s' : Exec.St} {R : List GNode} {D : RefId × Node → Prop} {c : CellId}
    (h : NoNodes s c) (hc : Clr s R D s') : NoNodes s' c :=
  fun x hx => h x ((hc.mem_gn x).mp hx).1

theorem NoRg.of_clr {s s' : Exec.St} {R : List GNode} {D : RefId × Node → Prop} {r : RefId}
    (h : NoRg s r) (hc : Clr s R D s') : NoRg s' r :=
  fun n hn => h n (hc.rgSub _ hn)

theorem noNodes_of_dead {s : Exec.St} (h : CI env lt s) (c : CellId) (hd : env.alive c = false) : NoNodes s c := by
  intro x hx hxc
  have := h.alive.nodes x hx
  rw [hxc, hd] at this; cases this

structure Redef (env env' : Env) (C : CellId → Prop) (RR : RefId → Prop) : Prop where
  formula : ∀ n : Node, ¬ C n.1 → env'.formula n = env.formula n
  cached : ∀ c, ¬ C c → env'.cached c = env.cached c
  allowNone : ∀ c, ¬ C c → env'.allowNone c = env.allowNone c
  alive : ∀ c, ¬ C c → env'.alive c = env.alive c
  refs : ∀ r, ¬ RR r → env'.refs r = env.refs r

/-- `redefine_ci` with what it needs of the recorded reads as a hypothesis (`hread`: no certificate
of a computed value records a read of a reference that changes) -/
theorem redefine_ci_of_reads {s : Exec.St} {C : CellId → Prop} {RR : RefId → Prop} (h : CI env lt s)
    (hed : Redef env env' C RR)
    (hclean : ∀ c, C c → Clean s c)
    (hinp : ∀ n ∈ s.inputs, C n.1 → env'.cached n.1 = true ∧ env'.alive n.1 = true)
    (hread : ∀ n v tr, n ∉ s.inputs → GNode.elem n ∈ s.gn → Cert env s n v tr →
      ∀ c a r x, RR r → FEv.read c a r x ∉ flat n.1 tr) :
    CI env' lt s := by
  have hc : Clr s [] (fun _ => False) s := Clr.refl s _
  have hflag : ∀ m, GNode.elem m ∈ s.gn → env'.cached m.1 = env.cached m.1 := by
    intro m hm
    by_cases hmC : C m.1
    · rw [(hinp m ((hclean _ hmC).elem hm) hmC).1, h.gi.elemCached m hm]
    · exact hed.cached _ hmC
  refine ⟨h.gi.of_clr h.quiet.stack hc (fun m hm => hflag m hm), h.quiet, ?_, ?_, h.rgHeld⟩
  · refine cinv_clr hc h.certs ?_
    intro n v tr hl hin _ hcert
    have hgn : GNode.elem n ∈ s.gn := (h.gi.heldNodes n (by rw [hl]; rfl)).1
    -- a held value that is no input is of a cells that is not redefined
    have hnC : ¬ C n.1 := fun hnC => hin ((hclean _ hnC).elem hgn)
    refine ⟨hed.formula n hnC, hed.allowNone _ hnC, ?_, fun _ _ _ _ hd => hd⟩
    intro ev hm
    have hok := hcert.events ev hm
    cases ev with
    | read c' a r x => exact hed.refs r (fun hr => hread n v tr hin hgn hcert c' a r x hr hm)
    | call m w =>
      obtain ⟨_, _, hedge⟩ := hok
      exact hflag m (h.gi.edgeNodes _ _ hedge).1
    | ucall m =>
      have hedge : (GNode.obj m.1, GNode.elem n) ∈ s.ge := hok
      have hmC : ¬ C m.1 := fun hmC => (hclean _ hmC).obj (h.gi.edgeNodes _ _ hedge).1
      exact ⟨hed.cached _ hmC, hed.formula m hmC⟩
  · refine h.alive.of_clr hc h.quiet.stack ?_ ?_
    · intro x hx
      by_cases hxC : C x.cell
      · obtain ⟨m, rfl, hin⟩ := hclean _ hxC x hx rfl
        exact ((hinp m hin hxC).2).trans (h.alive.nodes _ hx).symm
      · exact hed.alive _ hxC
    · intro c hcn
      by_cases hcC : C c
      · exact absurd hcn (hclean c hcC).obj
      · exact hed.cached _ hcC

theorem redefine_ci {s : Exec.St} {C : CellId → Prop} {RR : RefId → Prop} (h : CI env lt s)
    (hsc : Scoped env) (hnc : NoCatchEnv env) (hed : Redef env env' C RR)
    (hclean : ∀ c, C c → Clean s c)
    (hinp : ∀ n ∈ s.inputs, C n.1 → env'.cached n.1 = true ∧ env'.alive n.1 = true)
    (hobs : ∀ r, RR r → ∀ c ∈ env.observers r, Clean s c)
    (hrg : ∀ r, RR r → (env.refs r).isSome = true → NoRg s r) :
    CI env' lt s := by
  refine redefine_ci_of_reads h hed hclean hinp ?_
  intro n v tr hin hgn hcert c a r x hr hm
  obtain ⟨_, f2, f3⟩ := replay_facts env hsc hnc tr n.1 _ v hcert.replay (hsc n) (hnc n)
  have hok := hcert.events _ hm
  cases a with
  | false =>
    -- a read by name: the reading cells observes `r`, so it is clean – but it has a computed node
    have hobsc := f2 c r x hm
    rcases flat_read_frame tr n.1 c false r x hm with rfl | ⟨m, hmu, rfl⟩
    · exact hin ((hobs r hr n.1 hobsc).elem hgn)
    · have hedge : (GNode.obj m.1, GNode.elem n) ∈ s.ge := hcert.events _ hmu
      exact (hobs r hr m.1 hobsc).obj (h.gi.edgeNodes _ _ hedge).1
  | true =>
    cases x with
    | none => exact f3 c r hm
    | some w =>
      have hcur : env.refs r = some w := hok.1
      exact hrg r hr (by rw [hcur]; rfl) n (hok.2 rfl rfl)

/-- definitions that agree in everything the invariant looks at -/
theorem ci_congr {s : Exec.St} (h : CI env lt s) (hsc : Scoped env) (hnc : NoCatchEnv env)
    (hed : Redef env env' (fun _ => False) (fun _ => False)) : CI env' lt s :=
  redefine_ci h hsc hnc hed (fun _ h => h.elim) (fun _ _ h => h.elim) (fun _ h => h.elim) (fun _ h => h.elim)

end MxModel.Edit

namespace MxModel.Exec

variable {env env' : Env} {lt : Node → Node → Prop}

/-- a node of a redefined cells that survives the notification is an input element -/
theorem batch_survivor {s : St} {R : List GNode} {L : List CellId} {C : CellId → Prop} (h : CI env lt s)
    (hR : ∀ x, (∃ c ∈ L, NsSeed env s c x) → x ∈ s.gn → x ∈ R)
    (hC : ∀ c, C c → c ∈ L ∨ ∀ x ∈ s.gn, x.cell ≠ c)
    (x : GNode) (hx : x ∈ s.gn) (hxR : x ∉ R) (hxC : C x.cell) : ∃ m, x = .elem m ∧ m ∈ s.inputs := by
  have hL : x.cell ∈ L := by
    rcases hC _ hxC with h1 | h1
    · exact h1
    · exact absurd rfl (h1 x hx)
  cases x with
  | obj c =>
    exact absurd (hR _ ⟨c, hL, Or.inr ⟨h.alive.objs c hx, hx, rfl⟩⟩ hx) hxR
  | elem m =>
    refine ⟨m, rfl, ?_⟩
    apply Classical.byContradiction
    intro hin
    exact hxR (hR _ ⟨m.1, hL, Or.inl ⟨h.gi.elemCached m hx, m, rfl, rfl, h.nodeHeld hx, hin⟩⟩ hx)

theorem clean_of_seeds {s s' : St} {R : List GNode} {D : RefId × Node → Prop} {L : List CellId}
    {C : CellId → Prop} (h : CI env lt s) (hc : Clr s R D s')
    (hR : ∀ x, (∃ c ∈ L, NsSeed env s c x) → x ∈ s.gn → x ∈ R)
    (hC : ∀ c, C c → c ∈ L ∨ ∀ x ∈ s.gn, x.cell ≠ c) (c : CellId) (hcC : C c) : Edit.Clean s' c := by
  intro x hx hxc
  obtain ⟨h1, h2⟩ := (hc.mem_gn x).mp hx
  obtain ⟨m, rfl, hin⟩ := batch_survivor h hR hC x h1 h2 (hxc ▸ hcC)
  exact ⟨m, rfl, (hc.mem_inputs m).mpr ⟨hin, h2⟩⟩

/-- a clearing that also drops reference-graph edges of `r` and of the readers of `r` keeps the
invariant if it removes every element that read `r` by attribute path -/
theorem CI.of_clr_dropOf {s s' : St} {R : List GNode} {P : Prop} {r : RefId} (h : CI env lt s)
    (hsc : Scoped env) (hnc : NoCatchEnv env) (hc : Clr s R (fun e => P ∧ dropOf s r e) s')
    (hP : (env.refs r).isSome = true → P)
    (hattr : P → ∀ n, (r, n) ∈ s.rg → GNode.elem n ∈ s.gn → GNode.elem n ∈ R) : CI env lt s' := by
  refine h.of_clr hc (cinv_clr hc h.certs ?_) (fun _ _ => rfl) (fun _ _ => rfl)
  intro n v tr hl _ hnR hcert
  have hgn : GNode.elem n ∈ s.gn := (h.gi.heldNodes n (by rw [hl]; rfl)).1
  obtain ⟨_, _, f3⟩ := replay_facts env hsc hnc tr n.1 _ v hcert.replay (hsc n) (hnc n)
  refine ⟨rfl, rfl, fun ev _ => stable_refl env ev, ?_⟩
  rintro c r' x hm ⟨hp, hd | hd⟩
  · simp only at hd
    subst hd
    cases x with
    | none => exact f3 c r' hm
    | some w =>
      have hcur : env.refs r' = some w := (hcert.events _ hm).1
      exact hnR (hattr (hP (by rw [hcur]; rfl)) n ((hcert.events _ hm).2 rfl rfl) hgn)
  · exact hnR (hattr hp n hd hgn)

theorem RefEdit.redef {r : RefId} (h : RefEdit env env' r) :
    Edit.Redef env env' (fun _ => False) (· = r) :=
  ⟨fun _ _ => by rw [h.formula], fun _ _ => by rw [h.cached], fun _ _ => by rw [h.allowNone],
   fun _ _ => by rw [h.alive], h.refs⟩

/-- an edit of reference `r` after the clearing modelx performs for it: the observers of `r` are
clean, and if `r` existed no element that read it by attribute path is left -/
theorem refEdit_ci {s s' : St} {r : RefId} {R : List GNode} (h : CI env lt s) (hsc : Scoped env)
    (hnc : NoCatchEnv env) (hed : RefEdit env env' r)
    (hc : Clr s R (fun e => (env.refs r).isSome = true ∧ dropOf s r e) s') (hf : RefFacts env s r R) :
    CI env' lt s' := by
  refine Edit.redefine_ci (h.of_clr_dropOf hsc hnc hc id hf.byAttr) hsc hnc hed.redef
    (fun _ hF => hF.elim) (fun _ _ hF => hF.elim) ?_ ?_
  · rintro _ rfl
    exact clean_of_seeds h hc hf.byName (fun _ hc => Or.inl hc)
  · rintro _ rfl hs n hn
    have hn0 := hc.rgSub _ hn
    exact hc.rgOut _ hn (hf.byAttr hs n hn0 (h.gi.heldNodes n (h.rgHeld _ hn0)).1)

/-- **T3** – `space.r = v`, whether `r` exists or not -/
theorem setRef_ci {s : St} {r : RefId} (h : CI env lt s) (hsc : Scoped env)
    (hnc : NoCatchEnv env) (hed : RefEdit env env' r) : CI env' lt (s.setRef env r) := by
  obtain ⟨R, hc, hf⟩ := clr_setRef env s h.gi.edgeOK r
  exact refEdit_ci h hsc hnc hed hc hf

/-- **T3** – `del space.r` of an existing reference -/
theorem delRef_ci {s : St} {r : RefId} (h : CI env lt s) (hsc : Scoped env)
    (hnc : NoCatchEnv env) (hed : RefEdit env env' r) (hex : (env.refs r).isSome = true) :
    CI env' lt (s.delRef env r) := by
  obtain ⟨R, hc, hf⟩ := clr_delRef env s h.gi.edgeOK r
  exact refEdit_ci h hsc hnc hed (hc.weaken fun _ he => ⟨hex, he⟩) hf

theorem clearObj_noNodes (s : St) (he : EdgeOK s) (c : CellId) :
    ∀ x ∈ (s.clearObj c).gn, x.cell ≠ c := by
  obtain ⟨R, hc, hR⟩ := (clears_clearObj s (fun _ => False) he c).clr
  intro x hx hxc
  obtain ⟨h1, h2⟩ := (hc.mem_gn _).mp hx
  exact h2 (hR x hxc h1)

theorem CellEdit.redef {c : CellId} (h : CellEdit env env' c) :
    Edit.Redef env env' (· = c) (fun _ => False) :=
  ⟨h.formula, h.cached, h.allowNone, fun _ _ => by rw [h.alive], fun _ _ => by rw [h.refs]⟩

/-- **T4** – a new formula, cache flag or `allow_none` for cells `c`: `clear_obj(c)` leaves no node
of `c` -/
theorem setFormula_ci {s : St} {c : CellId} (h : CI env lt s) (hed : CellEdit env env' c) :
    CI env' lt (s.setFormula c) := by
  have h' := clearObj_ci h c
  have hno := clearObj_noNodes s h.gi.edgeOK c
  refine Edit.redefine_ci_of_reads h' hed.redef ?_ ?_ (fun _ _ _ _ _ _ _ _ _ _ hr => hr.elim)
  · rintro _ rfl
    exact Edit.NoNodes.clean hno
  · intro n hn hnC
    exact absurd hnC (hno _ (h'.gi.heldNodes n (h'.gi.inputsHeld n hn)).1)

end MxModel.Exec
