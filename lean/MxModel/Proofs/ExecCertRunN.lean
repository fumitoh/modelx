import MxModel.Proofs.ExecCertRun
/-!
# Evaluation maintains the certificates (T1), part 2: `_eval_formula`

`runN_cert`: when the formula of a cached element returns, the trace its body produced –
pending until then – becomes the certificate of the stored value: the edges to it are in the
graph already (added by `hitEdge` / `pop` of its callees with the `idx` rule), `pop` turns the
pending attribute-path reads of its frame (including those handed up by uncached callees) into
reference-graph edges, and the new entry is the youngest of the cache.  A failed element is
rolled back without touching anything a certificate of a held element mentions.
-/
namespace MxModel.Exec

variable {env : Env} {lt : Node → Node → Prop}

theorem pop_ge (env : Env) (s : St) (n : Node) (e : GNode × GNode) :
    e ∈ (s.pop env n).ge ↔ e ∈ s.ge ∨ ∃ t, s.dropFrame.edgeTarget = some t ∧
      e = ((if env.cached n.1 then GNode.elem n else GNode.obj n.1), GNode.elem t) := by
  unfold St.pop
  rw [(drainSame env _ n).ge]
  unfold St.popEdge
  cases ht : s.dropFrame.edgeTarget with
  | some t =>
    simp only [mem_addEdge_ge, Option.some.injEq, exists_eq_left']
    rfl
  | none =>
    simp only [reduceCtorEq, false_and, exists_false, or_false]
    split
    · rw [addNode_ge]; rfl
    · rfl

theorem pop_rg_mono (env : Env) (s : St) (n : Node) : ∀ e ∈ s.rg, e ∈ (s.pop env n).rg := by
  intro e he
  unfold St.pop
  exact drainRefs_rg_mono env _ n e (by rw [(graphOnly_popEdge env _ n).rg]; exact he)

theorem pop_rg_cached (env : Env) (s : St) (n : Node) (hc : env.cached n.1 = true) (r : RefId)
    (hr : r ∈ (takeRefs s.refstack s.stack.dropLast.length).1) : (r, n) ∈ (s.pop env n).rg := by
  unfold St.pop
  refine drainRefs_cached_rg env _ n hc r ?_
  have h1 := frameSame_popEdge env s.dropFrame n
  rw [h1.stack, h1.refstack]
  exact hr

theorem pop_refstack_uncached (env : Env) (s : St) (n : Node) (hc : env.cached n.1 = false)
    (hne : s.stack.dropLast ≠ []) (r : RefId)
    (hr : r ∈ (takeRefs s.refstack s.stack.dropLast.length).1) :
    (s.stack.dropLast.length - 1, r) ∈ (s.pop env n).refstack := by
  unfold St.pop
  have h1 := frameSame_popEdge env s.dropFrame n
  have := drainRefs_uncached_refstack env (s.dropFrame.popEdge env n) n hc
    (by rw [h1.stack]; exact hne) r (by rw [h1.stack, h1.refstack]; exact hr)
  rw [h1.stack] at this
  exact this

theorem rollback_ge (s : St) (n : Node) (e : GNode × GNode) :
    e ∈ (s.rollback n).ge ↔ e ∈ s.ge ∧ e.1 ≠ GNode.elem n ∧ e.2 ≠ GNode.elem n :=
  mem_removeNode_ge _ (.elem n) e

theorem rollback_rg (s : St) (n : Node) : (s.rollback n).rg = s.rg := rfl

/-- the last step of `_eval_formula` – store and `pop`, or `rollback` – as the certificates see it -/
structure FinRel (s1 fin : St) (n : Node) : Prop where
  unheld : lookup s1.data n = none
  data : fin.data = s1.data ∨ ∃ v, fin.data = insert s1.data n v
  ge : ∀ e ∈ s1.ge, e.1 ≠ GNode.elem n → e.2 ≠ GNode.elem n → e ∈ fin.ge
  rg : ∀ e ∈ s1.rg, e ∈ fin.rg
  inputs : fin.inputs = s1.inputs
  geIn : ∀ a k, Held s1 k → (a, GNode.elem k) ∈ fin.ge → (a, GNode.elem k) ∈ s1.ge

theorem FinRel.lookup_ne {s1 fin : St} {n : Node} (h : FinRel s1 fin n) (m : Node) (hmn : m ≠ n) :
    lookup fin.data m = lookup s1.data m := by
  rcases h.data with hd | ⟨v, hd⟩
  · rw [hd]
  · rw [hd, lookup_insert, if_neg (Ne.symm hmn)]

theorem FinRel.presH {s1 fin : St} {n : Node} (h : FinRel s1 fin n) : PresH s1 fin := by
  have hne : ∀ m, Held s1 m → m ≠ n := by
    intro m hm hmn; subst hmn; unfold Held at hm; rw [h.unheld] at hm; cases hm
  refine ⟨?_, ?_, ?_, h.rg, h.geIn⟩
  · intro m v hl
    rw [h.lookup_ne m (hne m (by unfold Held; rw [hl]; rfl))]; exact hl
  · intro a b ha hb hlt
    rcases h.data with hd | ⟨v, hd⟩
    · rw [hd]; exact hlt
    · rw [hd, rank_insert_other _ _ _ _ h.unheld (hne a ha), rank_insert_other _ _ _ _ h.unheld (hne b hb)]
      exact hlt
  · intro a k hak ha hk
    refine h.ge _ hak ?_ ?_
    · intro h'; simp only [] at h'; subst h'; exact hne n ha rfl
    · intro h'; simp only [GNode.elem.injEq] at h'; exact hne k hk h'

private theorem finish {s s1 fin : St} {n : Node} (hm : Mid env lt s) (hnone : lookup s.data n = none)
    (hnot : n ∉ s.stack) (hpost : Post env lt (s.push env n) s1) (hfr : FinRel s1 fin n)
    (hgi : GI env lt fin) (hstack : fin.stack = s.stack) (hidx : fin.idx = s.idx) (hbody : BodyRel s fin)
    (hnew : ∀ v, lookup fin.data n = some v → ∃ tr, Cert env fin n v tr)
    (hstackIn : ∀ a t, t ∈ s.stack → (a, GNode.elem t) ∈ fin.ge →
      (a, GNode.elem t) ∈ s.ge ∨ s.edgeTarget = some t) : Post env lt s fin := by
  have hsp : SameC s (s.push env n) := ⟨rfl, rfl, rfl, rfl⟩
  have hH : PresH s fin := ((PresH.of_sameC hsp).trans hpost.presH).trans hfr.presH
  have hinp : fin.inputs = s.inputs := hfr.inputs.trans hpost.inputs
  refine ⟨⟨hgi, by rw [hstack, hidx]; exact hm.idxok, by rw [hstack, hidx]; exact hm.len,
    hbody.refsBelow hm.refsBelow, ?_⟩, hidx, hH, ⟨hH.ext, hstack, ?_, ?_⟩, hinp, hbody, hstackIn⟩
  · refine CInv.presH hfr.presH hfr.inputs hpost.mid.certs ?_
    intro k v hl hl1 _
    by_cases hkn : k = n
    · subst hkn; exact hnew v hl
    · rw [hfr.lookup_ne k hkn, hl1] at hl; cases hl
  · intro a t ht hat ha
    have h1 := hpost.presP.edgesS a t (by simp [St.push, ht]) hat ha
    refine hfr.ge _ h1 ?_ ?_
    · intro h'; simp only [] at h'; subst h'
      have : Held s n := ha
      unfold Held at this; rw [hnone] at this; cases this
    · intro h'; simp only [GNode.elem.injEq] at h'; subst h'; exact hnot ht
  · obtain ⟨new, hnew', _⟩ := hbody.refs
    intro e he; rw [hnew']; exact List.mem_append_left _ he

private theorem pending_taken {s s1 : St} {n : Node} (hm : Mid env lt s) (hpost : Post env lt (s.push env n) s1)
    (r : RefId) (h : (s.stack.length, r) ∈ s1.refstack) :
    r ∈ (takeRefs s1.refstack s.stack.length).1 := by
  obtain ⟨new, hnew, hlev⟩ := hpost.body.refs
  have hnew' : s1.refstack = s.refstack ++ new := hnew
  rw [hnew'] at h ⊢
  refine mem_takeRefs_fst s.refstack new s.stack.length r hm.refsBelow ?_ h
  intro e he
  have := hlev e he
  simp only [St.push, List.length_append, List.length_singleton] at this
  omega

/-- among the elements that were executing before the frame of `n`, only the nearest cached caller
may have got edges while it ran – and only when `n` is uncached -/
private theorem oldEdges {s s1 : St} {n : Node} (hm : Mid env lt s) (hnot : n ∉ s.stack)
    (hpost : Post env lt (s.push env n) s1) (a : GNode) (t : Node) (ht : t ∈ s.stack)
    (he : (a, GNode.elem t) ∈ s1.ge) :
    (a, GNode.elem t) ∈ s.ge ∨ (env.cached n.1 = false ∧ s.edgeTarget = some t) := by
  rcases hpost.stackIn a t (by simp [St.push, ht]) he with h | h
  · exact Or.inl h
  · cases hc : env.cached n.1 with
    | true =>
      rw [edgeTarget_push_cached env s n hc] at h
      cases h; exact absurd ht hnot
    | false =>
      rw [edgeTarget_push_uncached env s n hm.idxok hc] at h
      exact Or.inr ⟨rfl, h⟩

/-- `pop` of the finished frame – after the value was stored (`d = insert …`) or not – as the
certificates see it: one new edge, into the nearest cached caller of the frame -/
private theorem popped {s s1 : St} {n : Node} (d : List (Node × Val)) (hm : Mid env lt s) (hnot : n ∉ s.stack)
    (hpost : Post env lt (s.push env n) s1) (hd : d = s1.data ∨ ∃ v, d = insert s1.data n v) :
    (∀ e, e ∈ (({ s1 with data := d } : St).pop env n).ge ↔ e ∈ s1.ge ∨ ∃ t, s.edgeTarget = some t ∧
      e = ((if env.cached n.1 then GNode.elem n else GNode.obj n.1), GNode.elem t)) ∧
    FinRel s1 (({ s1 with data := d } : St).pop env n) n ∧
    (∀ a t, t ∈ s.stack → (a, GNode.elem t) ∈ (({ s1 with data := d } : St).pop env n).ge →
      (a, GNode.elem t) ∈ s.ge ∨ s.edgeTarget = some t) := by
  have hs1stack : s1.stack = s.stack ++ [n] := hpost.presP.stack
  have hdropS : s1.stack.dropLast = s.stack := by rw [hs1stack]; simp
  have hdropI : s1.idx.dropLast = s.idx := by rw [hpost.idx]; simp [St.push]
  have hgeq : ∀ e, e ∈ (({ s1 with data := d } : St).pop env n).ge ↔ e ∈ s1.ge ∨ ∃ t, s.edgeTarget = some t ∧
      e = ((if env.cached n.1 then GNode.elem n else GNode.obj n.1), GNode.elem t) := by
    intro e
    rw [pop_ge, edgeTarget_same (s' := St.dropFrame { s1 with data := d }) hdropS hdropI]
  have hsc := sameCache_pop env ({ s1 with data := d } : St) n
  refine ⟨hgeq, ⟨hpost.mid.gi.stackUnheld n (by rw [hs1stack]; simp), ?_, fun e he _ _ => (hgeq e).mpr (Or.inl he),
    pop_rg_mono env ({ s1 with data := d } : St) n, hsc.inputs, ?_⟩, ?_⟩
  · exact hd.imp (fun h => hsc.data.trans h) (fun ⟨v, h⟩ => ⟨v, hsc.data.trans h⟩)
  · -- the caller that gets the edge is executing, hence holds nothing
    intro a k hk he
    rcases (hgeq _).mp he with h | ⟨t, ht, h⟩
    · exact h
    · cases h
      unfold Held at hk
      rw [hpost.mid.gi.stackUnheld k (by rw [hs1stack]; simp [edgeTarget_mem s k ht])] at hk; cases hk
  · intro a t ht he
    rcases (hgeq _).mp he with h | ⟨t', ht', h⟩
    · exact (oldEdges hm hnot hpost a t ht h).imp id (fun h => h.2)
    · cases h; exact Or.inr ht'

theorem runN_cert (ho : StrictOrder lt) (hr : Ranked env lt) (hnc : NoCatchEnv env) :
    ∀ d, EvalC env lt (runN env d) := by
  intro d
  induction d with
  | zero =>
    intro n s hm _ _
    refine ⟨Post.of_same (s' := (runN env 0 n s).2) hm ⟨rfl, rfl, rfl, rfl, rfl, rfl⟩ ⟨rfl, rfl, rfl, rfl⟩
      (BodyRel.of_frameSame ⟨rfl, rfl, rfl⟩), ?_⟩
    intro w hw; simp [runN] at hw
  | succ d ih =>
    intro n s hm hbelow hnone
    have hnot : n ∉ s.stack := fun h => ho.irrefl n (hbelow n h)
    have hG := (runN_graph ho hr (d + 1) n s hm.gi hm.idxok hm.len hbelow hnone).1
    have hF := runN_frame env (d + 1) n s hm.refsBelow
    have hsp : SameC s (s.push env n) := ⟨rfl, rfl, rfl, rfl⟩
    have hmp : Mid env lt (s.push env n) :=
      ⟨hm.gi.push n hnone, IdxOK.push hm.idxok hm.len n, by simp [St.push, hm.len],
       refsBelow_push env s n hm.refsBelow,
       hm.certs.of_sameC hsp⟩
    have hb := runBody_cert ho (evalNode env (runN env d)) (evalNode_cert _ (runN_graph ho hr d) ih)
      s.stack n hbelow (env.formula n) (hnc n) (hr n) (s.push env n) hmp rfl
    have hcl := runN_succ env d n s
    generalize runBody env (evalNode env (runN env d)) (env.formula n) (s.push env n) = p at hb hcl
    obtain ⟨res, s1⟩ := p
    simp only [] at hb
    obtain ⟨hpost, htrace⟩ := hb
    have hs1stack : s1.stack = s.stack ++ [n] := hpost.presP.stack
    have hun1 : lookup s1.data n = none := hpost.mid.gi.stackUnheld n (by rw [hs1stack]; simp)
    have hdropS : s1.stack.dropLast = s.stack := by rw [hs1stack]; simp
    have hdropI : s1.idx.dropLast = s.idx := by rw [hpost.idx]; simp [St.push]
    have hold := oldEdges hm hnot hpost
    have hroll : ∀ s1x : St, SameC s1 s1x → FinRel s1 (s1x.rollback n) n ∧
        ∀ a t, t ∈ s.stack → (a, GNode.elem t) ∈ (s1x.rollback n).ge →
          (a, GNode.elem t) ∈ s.ge ∨ s.edgeTarget = some t := by
      intro s1x hx
      have hsc := sameCache_rollback s1x n
      refine ⟨⟨hun1, Or.inl (hsc.data.trans hx.data), ?_,
        fun e he => by rw [rollback_rg, hx.rg]; exact he, hsc.inputs.trans hx.inputs, ?_⟩, ?_⟩
      · intro e he hn1 hn2
        exact (rollback_ge s1x n e).mpr ⟨hx.ge ▸ he, hn1, hn2⟩
      · intro a k _ he
        exact hx.ge ▸ ((rollback_ge s1x n _).mp he).1
      · intro a t ht he
        exact (hold a t ht (hx.ge ▸ ((rollback_ge s1x n _).mp he).1)).imp id (fun h => h.2)
    have hnoNew : ∀ fin : St, fin.data = s1.data → ∀ v, lookup fin.data n = some v → ∃ tr, Cert env fin n v tr := by
      intro fin hd v hl; rw [hd, hun1] at hl; cases hl
    generalize runN env (d + 1) n s = q at hcl hG hF ⊢
    cases hcl with
    | fail e =>
      simp only [] at hG hF ⊢
      obtain ⟨g', hst', hidx', _⟩ := hG
      obtain ⟨hfr, hin⟩ := hroll s1 ⟨rfl, rfl, rfl, rfl⟩
      refine ⟨finish hm hnone hnot hpost hfr g' hst' hidx' hF (hnoNew _ (sameCache_rollback s1 n).data) hin, ?_⟩
      intro w hw; cases hw
    | noneRet _ hc _ =>
      simp only [] at hG hF ⊢
      obtain ⟨g', hst', hidx', _⟩ := hG
      obtain ⟨hfr, hin⟩ := hroll s1.newExc ⟨rfl, rfl, rfl, rfl⟩
      refine ⟨finish hm hnone hnot hpost hfr g' hst' hidx' hF
        (hnoNew _ (sameCache_rollback s1.newExc n).data) hin, ?_⟩
      intro w hw; cases hw
    | stored v _ hc hv0 =>
      simp only [] at hG hF ⊢
      obtain ⟨g', hst', hidx', _⟩ := hG
      obtain ⟨hgeq, hfr, hstackIn⟩ := popped (insert s1.data n v) hm hnot hpost (Or.inr ⟨v, rfl⟩)
      generalize hfin : ({ s1 with data := insert s1.data n v } : St).pop env n = fin
        at g' hst' hidx' hF hgeq hfr hstackIn ⊢
      simp only [hc, if_true] at hgeq
      have hdata : fin.data = insert s1.data n v := by
        rw [← hfin]; exact (sameCache_pop env _ n).data
      have hge : ∀ e ∈ s1.ge, e ∈ fin.ge := fun e he => (hgeq e).mpr (Or.inl he)
      have hlookn : lookup fin.data n = some v := by rw [hdata, lookup_insert]; simp
      have hT : (s.push env n).edgeTarget = some n := edgeTarget_push_cached env s n hc
      obtain ⟨tr, hrep, hpend, hnewin⟩ := htrace v rfl
      have hnogn : GNode.elem n ∉ s.gn := by
        intro h
        rcases hm.gi.nodesHeld n h with h' | h'
        · rw [hnone] at h'; cases h'
        · exact hnot h'
      have hcert : Cert env fin n v tr := by
        refine ⟨hrep, hv0, ?_, ?_⟩
        · intro ev hm'
          have hp := hpend ev hm'
          cases ev with
          | read c a r x =>
            refine ⟨hp.1, ?_⟩
            intro ha hx
            have hin := pending_taken hm hpost r (hp.2 ha hx _ rfl)
            rw [← hfin]
            refine pop_rg_cached env _ n hc r ?_
            show r ∈ (takeRefs s1.refstack s1.stack.dropLast.length).1
            rw [hdropS]; exact hin
          | call m w =>
            obtain ⟨hlm, hedge⟩ := hp
            have hmn : m ≠ n := by intro h; subst h; rw [hun1] at hlm; cases hlm
            refine ⟨by rw [hfr.lookup_ne m hmn]; exact hlm, ?_, hge _ (hedge n hT)⟩
            rw [hdata, rank_insert_other _ _ _ _ hun1 hmn, rank_insert_self _ _ _ hun1]
            have := rank_le_length s1.data m
            omega
          | ucall m => exact hge _ (hp n hT)
        · -- every edge into `n` was added while its body ran, by a recorded call
          intro a he
          rcases (hgeq _).mp he with h | ⟨t, ht, h⟩
          · rcases hnewin a n hT h with h0 | h0
            · exact absurd (hm.gi.edgeNodes _ _ h0).2 hnogn
            · exact h0
          · cases h; exact absurd (edgeTarget_mem s n ht) hnot
      refine ⟨finish hm hnone hnot hpost hfr g' hst' hidx' hF
        (fun v' hl => by rw [hlookn] at hl; cases hl; exact ⟨tr, hcert⟩) hstackIn, ?_⟩
      intro w hw
      cases hw
      refine Or.inl ⟨hc, ⟨hlookn, fun t ht => (hgeq _).mpr (Or.inr ⟨t, ht, rfl⟩)⟩, ?_⟩
      intro a t ht he
      rcases (hgeq _).mp he with h | ⟨t', _, h⟩
      · rcases hold a t (edgeTarget_mem s t ht) h with h0 | h0
        · exact Or.inl h0
        · rw [hc] at h0; cases h0.1
      · cases h; exact Or.inr (Or.inl ⟨n, v, rfl, by simp⟩)
    | uncached v _ hc' =>
      simp only [] at hG hF ⊢
      obtain ⟨g', hst', hidx', _⟩ := hG
      obtain ⟨hgeq, hfr, hstackIn⟩ := popped s1.data hm hnot hpost (Or.inl rfl)
      generalize hfin : s1.pop env n = fin at g' hst' hidx' hF ⊢
      have hfin' : ({ s1 with data := s1.data } : St).pop env n = fin := hfin
      rw [hfin'] at hgeq hfr hstackIn
      simp only [hc', Bool.false_eq_true, if_false] at hgeq
      have hdata : fin.data = s1.data := by rw [← hfin]; exact (sameCache_pop env _ n).data
      have hge : ∀ e ∈ s1.ge, e ∈ fin.ge := fun e he => (hgeq e).mpr (Or.inl he)
      refine ⟨finish hm hnone hnot hpost hfr g' hst' hidx' hF (hnoNew fin hdata) hstackIn, ?_⟩
      intro w hw
      cases hw
      have hT : (s.push env n).edgeTarget = s.edgeTarget := edgeTarget_push_uncached env s n hm.idxok hc'
      obtain ⟨tr, hrep, hpend, hnewin⟩ := htrace v rfl
      refine Or.inr ⟨hc', tr, hrep, ?_, fun t ht => (hgeq _).mpr (Or.inr ⟨t, ht, rfl⟩), ?_⟩
      · intro ev hm'
        have hp := hpend ev hm'
        rw [hT] at hp
        cases ev with
        | read c a r x =>
          refine ⟨hp.1, ?_⟩
          intro ha hx l hl
          have hin := pending_taken hm hpost r (hp.2 ha hx _ rfl)
          unfold retLvl at hl
          split at hl
          · cases hl
          · rename_i hne
            cases hl
            rw [← hfin]
            have := pop_refstack_uncached env s1 n hc' (by rw [hdropS]; exact hne) r (by rw [hdropS]; exact hin)
            rw [hdropS] at this
            exact this
        | call m w => exact ⟨by rw [hdata]; exact hp.1, fun t ht => hge _ (hp.2 t ht)⟩
        | ucall m => exact fun t ht => hge _ (hp t ht)
      · -- the edges the caller got: from the body of this frame (recorded in `tr`), and the object node
        intro a t ht he
        rcases (hgeq _).mp he with h | ⟨t', _, h⟩
        · rw [hT] at hnewin
          exact (hnewin a t ht h).imp id (JustE.mono (fun ev hm => List.mem_cons_of_mem _ hm))
        · cases h; exact Or.inr (Or.inr ⟨n, rfl, by simp⟩)

end MxModel.Exec
