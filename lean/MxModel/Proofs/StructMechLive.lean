import MxModel.Proofs.StructMechEffect
/-!
# The mechanism does not refuse everything (liveness of the plain cases)

Sufficient conditions under which an operation IS accepted, in any state, stated without
reference to the step function: a valid name that is used nowhere can always be given to a new cells of
an existing space, and to a new space without bases under an existing parent (or at top level).
Together with the effect lemmas (`apply_spec`) this rules out the trivial models of the safety theorems
(`Inv` holds of a mechanism that refuses everything, and of one that accepts and does nothing).
-/
namespace MxModel.SM
open MxModel.C3

def Unused (st : St) (n : String) : Prop :=
  (∀ a q, st.mem a q n = none) ∧ (∀ q, n ∉ st.childNames q) ∧ n ∉ st.globals

theorem kindOf_none_of_unused (st : St) (n : String) (h : Unused st n) (q : Path) : st.kindOf q n = none := by
  unfold St.kindOf
  obtain ⟨h1, h2, h3⟩ := h
  simp [h1 .cells q, h1 .refs q, h2 q, h3]

theorem canAdd_of_unused (st : St) (p : Path) (n : String) (k : Kind) (h : Unused st n) :
    st.canAdd p n k = true := by
  unfold St.canAdd
  split
  · simp [h.2.1 [], h.2.2]
  · simp only [kindOf_none_of_unused st n h p, Option.isSome_none, Bool.false_eq_true, if_false]
    apply List.all_eq_true.mpr
    intro q _
    rw [kindOf_none_of_unused st n h q]

theorem newCells_accepted_of_unused (kw : List String) (st : St) (p : Path) (n : String) (v : Nat)
    (hp : p ∈ st.ids) (hv : Names.isValidName kw n = true) (hu : Unused st n) :
    ∃ st', st.newCells kw p n v = some st' ∧ st'.defd .cells p n = some v := by
  have hacc : st.acceptsNewCells kw p n = true := by
    simp [St.acceptsNewCells, (has_iff_mem_ids st p).mpr hp, hv, canAdd_of_unused st p n .cells hu]
  refine ⟨_, by rw [newCells_eq, if_pos hacc], ?_⟩
  rw [(effect_newMember st .cells p n v hp).2 .cells p n]
  simp

theorem newSpace_accepted_of_unused (kw : List String) (st : St) (parent : Path) (n : String)
    (hp : parent = [] ∨ parent ∈ st.ids) (hv : Names.isValidName kw n = true) (hu : Unused st n) :
    ∃ st', st.newSpace kw parent n [] = some st' := by
  have hid : parent ++ [n] ∉ st.ids := fun hh => hu.2.1 parent ((mem_childNames st parent n).mpr hh)
  -- the new space has no bases, so it is its own linearisation, and no members, so nothing can clash
  have hm : (st.push (freshSpace parent n [])).mro (parent ++ [n]) = some [parent ++ [n]] := by
    have hb : (st.push (freshSpace parent n [])).basesOf (parent ++ [n]) = [] := by
      rw [basesOf_push st _ hid]; simp [freshSpace, dedupLast]
    unfold St.mro
    simp [C3.mro, hb, C3.merge, C3.totalLen]
  have hnc : (st.push (freshSpace parent n [])).noConflict [parent ++ [n]] [] = true := by
    have hf : (st.push (freshSpace parent n [])).find (parent ++ [n]) = some (freshSpace parent n []) := by
      rw [find_push st _ hid]; simp [freshSpace]
    unfold St.noConflict St.allNames
    simp only [List.flatMap_cons, List.flatMap_nil, List.append_nil, hf]
    rfl
  have hacc : st.acceptsNewSpace kw parent n [] = true := by
    unfold St.acceptsNewSpace
    rw [hm]
    simp [hp.imp id (has_iff_mem_ids st parent).mpr, hv, canAdd_of_unused st parent n .space hu, hnc]
  exact ⟨_, by rw [newSpace_eq, if_pos hacc]⟩

end MxModel.SM
