import MxModel.Proofs.ExecStep
/-!
# Stack discipline: every evaluation, successful or failed, restores the executor

`runN_frame`: `_eval_formula` returns with `CallStack` and `idxstack` exactly as it found them,
and with `refstack` extended at most by reads of the CALLER's frame (those an uncached callee
hands over, `drainRefs`) – whether the formula returned, raised, returned `None` where it is not
allowed, or the depth limit was hit; for every environment.  From an idle executor there is no
caller's frame, so a top-level call leaves all three empty (`evalTop_quiescent`).
-/
namespace MxModel.Exec

structure FrameSame (s s' : St) : Prop where
  stack : s'.stack = s.stack
  idx : s'.idx = s.idx
  refstack : s'.refstack = s.refstack

theorem GraphOnly.frameSame {s s' : St} (h : GraphOnly s s') : FrameSame s s' := by
  obtain ⟨_, _, rfl⟩ := h
  exact ⟨rfl, rfl, rfl⟩

theorem frameSame_hitEdge (s : St) (n : Node) : FrameSame s (s.hitEdge n) := (graphOnly_hitEdge s n).frameSame

theorem frameSame_popEdge (env : Env) (s : St) (n : Node) : FrameSame s (s.popEdge env n) :=
  (graphOnly_popEdge env s n).frameSame

theorem frameSame_keepExc (s : St) (p : Res × St) : FrameSame p.2 (keepExc s p).2 :=
  ⟨(keepExc_excOnly s p).stack, (keepExc_excOnly s p).idx, (keepExc_excOnly s p).refstack⟩

def RefsBelow (s : St) : Prop := ∀ e ∈ s.refstack, e.1 < s.stack.length

/-- what a formula body may do to the frame state: push reads of its own frame -/
structure BodyRel (s s' : St) : Prop where
  stack : s'.stack = s.stack
  idx : s'.idx = s.idx
  refs : ∃ new, s'.refstack = s.refstack ++ new ∧ ∀ e ∈ new, e.1 + 1 = s.stack.length

theorem BodyRel.refl (s : St) : BodyRel s s := ⟨rfl, rfl, [], by simp, by simp⟩

theorem BodyRel.trans {a b c : St} (h1 : BodyRel a b) (h2 : BodyRel b c) : BodyRel a c := by
  obtain ⟨n1, e1, l1⟩ := h1.refs
  obtain ⟨n2, e2, l2⟩ := h2.refs
  refine ⟨h2.stack.trans h1.stack, h2.idx.trans h1.idx, n1 ++ n2, ?_, ?_⟩
  · rw [e2, e1, List.append_assoc]
  · intro e he
    simp only [List.mem_append] at he
    rcases he with he | he
    · exact l1 e he
    · rw [← h1.stack]; exact l2 e he

theorem BodyRel.of_frameSame {a b : St} (h : FrameSame a b) : BodyRel a b :=
  ⟨h.stack, h.idx, [], by simp [h.refstack], by simp⟩

theorem BodyRel.refsBelow {a b : St} (h : BodyRel a b) (hr : RefsBelow a) : RefsBelow b := by
  obtain ⟨new, e1, l1⟩ := h.refs
  intro e he
  rw [e1] at he
  rw [h.stack]
  simp only [List.mem_append] at he
  rcases he with he | he
  · exact hr e he
  · have := l1 e he; omega

theorem refsBelow_push (env : Env) (s : St) (n : Node) (hr : RefsBelow s) : RefsBelow (s.push env n) := by
  intro e he
  have := hr e he
  simp only [St.push, List.length_append, List.length_singleton]
  omega

theorem bodyRel_noteRead (s : St) (a : Bool) (r : RefId) : BodyRel s (s.noteRead a r) := by
  unfold St.noteRead
  split
  · rename_i h
    simp only [Bool.and_eq_true, decide_eq_true_eq] at h
    refine ⟨rfl, rfl, [(s.stack.length - 1, r)], rfl, ?_⟩
    intro e he
    simp only [List.mem_singleton] at he
    subst he
    simp only []
    omega
  · exact BodyRel.refl s

theorem takeWhile_append_all {α} (p : α → Bool) (l1 l2 : List α) (h : ∀ x ∈ l1, p x = true) :
    (l1 ++ l2).takeWhile p = l1 ++ l2.takeWhile p := by
  induction l1 with
  | nil => rfl
  | cons a l ih =>
    simp only [List.cons_append, List.takeWhile_cons, h a (by simp), if_true]
    rw [ih (fun x hx => h x (by simp [hx]))]

theorem takeWhile_none {α} (p : α → Bool) (l : List α) (h : ∀ x ∈ l, p x = false) :
    l.takeWhile p = [] := by
  cases l with
  | nil => rfl
  | cons a l => simp [List.takeWhile_cons, h a (by simp)]

theorem takeRefs_append_eq (rs new : List (Nat × RefId)) (L : Nat)
    (h1 : ∀ e ∈ rs, e.1 < L) (h2 : ∀ e ∈ new, e.1 = L) :
    takeRefs (rs ++ new) L = (new.reverse.map (·.2), rs) := by
  unfold takeRefs
  simp only [List.reverse_append]
  rw [takeWhile_append_all _ _ _ (by
    intro x hx; simp only [List.mem_reverse] at hx; simp [h2 x hx])]
  rw [takeWhile_none _ rs.reverse (by
    intro x hx; simp only [List.mem_reverse] at hx
    have := h1 x hx
    simp only [beq_eq_false_iff_ne, ne_eq]; omega)]
  simp

theorem takeRefs_append (rs new : List (Nat × RefId)) (L : Nat)
    (h1 : ∀ e ∈ rs, e.1 < L) (h2 : ∀ e ∈ new, e.1 = L) :
    (takeRefs (rs ++ new) L).2 = rs := by
  rw [takeRefs_append_eq rs new L h1 h2]

theorem takeRefs_append_fst_levels (rs new : List (Nat × RefId)) (L : Nat)
    (h1 : ∀ e ∈ rs, e.1 < L) (h2 : ∀ e ∈ new, e.1 = L) :
    (takeRefs (rs ++ new) L).1.length = new.length := by
  rw [takeRefs_append_eq rs new L h1 h2]; simp

theorem BodyRel.drain {env : Env} {n : Node} {s s1 : St} (hb : BodyRel (s.push env n) s1) (hr : RefsBelow s) :
    (takeRefs s1.refstack s.stack.length).2 = s.refstack := by
  obtain ⟨new, hnew, hlev⟩ := hb.refs
  rw [hnew]
  refine takeRefs_append _ _ _ hr (fun e he => ?_)
  have := hlev e he
  simp only [St.push, List.length_append, List.length_singleton] at this
  omega

theorem bodyRel_rollback {env : Env} {n : Node} {s s1 : St} (hb : BodyRel (s.push env n) s1)
    (hr : RefsBelow s) : BodyRel s (s1.rollback n) := by
  have hst : s1.stack.dropLast = s.stack := by rw [hb.stack]; simp [St.push]
  refine BodyRel.of_frameSame ⟨hst, ?_, ?_⟩
  · show s1.idx.dropLast = s.idx
    rw [hb.idx]; simp [St.push]
  · show (takeRefs s1.refstack s1.stack.dropLast.length).2 = s.refstack
    rw [hst]; exact hb.drain hr

theorem drainRefs_refstack (env : Env) (s : St) (n : Node) :
    ∃ new, (s.drainRefs env n).refstack = (takeRefs s.refstack s.stack.length).2 ++ new ∧
      ∀ e ∈ new, e.1 + 1 = s.stack.length := by
  unfold St.drainRefs
  split
  · exact ⟨[], by simp, by simp⟩
  · split
    · refine ⟨_, rfl, fun e he => ?_⟩
      simp only [List.mem_map] at he
      obtain ⟨r, _, rfl⟩ := he
      simp only []
      omega
    · exact ⟨[], by simp, by simp⟩

theorem bodyRel_pop {env : Env} {n : Node} {s s1 : St} (hb : BodyRel (s.push env n) s1)
    (hr : RefsBelow s) : BodyRel s (s1.pop env n) := by
  have hpe := frameSame_popEdge env s1.dropFrame n
  have hst : (s1.dropFrame.popEdge env n).stack = s.stack := by
    rw [hpe.stack]; show s1.stack.dropLast = s.stack; rw [hb.stack]; simp [St.push]
  have hix : (s1.dropFrame.popEdge env n).idx = s.idx := by
    rw [hpe.idx]; show s1.idx.dropLast = s.idx; rw [hb.idx]; simp [St.push]
  have hds := drainSame env (s1.dropFrame.popEdge env n) n
  obtain ⟨new, h1, h2⟩ := drainRefs_refstack env (s1.dropFrame.popEdge env n) n
  rw [hst, hpe.refstack] at h1
  rw [hst] at h2
  exact ⟨hds.stack.trans hst, hds.idx.trans hix, new, by rw [← hb.drain hr]; exact h1, h2⟩

theorem frame_steps (env : Env) : EvalSteps env (fun _ _ => True) (fun s s' => RefsBelow s → BodyRel s s') where
  refl s _ := BodyRel.refl s
  trans h1 h2 hr := (h1 hr).trans (h2 ((h1 hr).refsBelow hr))
  newExc _ _ := .of_frameSame ⟨rfl, rfl, rfl⟩
  noteRead s a r _ := bodyRel_noteRead s a r
  hitEdge s n _ _ _ _ := .of_frameSame (frameSame_hitEdge s n)
  restore _ _ _ _ := .of_frameSame ⟨rfl, rfl, rfl⟩
  hit _ _ := .of_frameSame ⟨rfl, rfl, rfl⟩
  store _ _ _ _ := .of_frameSame ⟨rfl, rfl, rfl⟩
  enter _ _ _ _ := trivial
  rollback n s s1 _ hb hr := bodyRel_rollback (hb (refsBelow_push env s n hr)) hr
  pop n s s1 _ _ hb hr := bodyRel_pop (hb (refsBelow_push env s n hr)) hr
  finish _ _ _ _ := .of_frameSame ⟨rfl, rfl, rfl⟩

theorem runN_frame (env : Env) (d : Nat) (n : Node) (s : St) (hr : RefsBelow s) : BodyRel s (runN env d n s).2 :=
  runN_rel (frame_steps env) d n s trivial hr

theorem evalTop_frame (env : Env) (n : Node) (s : St) (hr : RefsBelow s) : BodyRel s (evalTop env n s).2 :=
  evalTop_rel (frame_steps env) n s (fun _ => trivial) hr

/-- with nothing executing there is no frame whose reads could have been pushed -/
theorem BodyRel.refstack_idle {s s' : St} (h : BodyRel s s') (hst : s.stack = []) : s'.refstack = s.refstack := by
  obtain ⟨new, hnew, hlev⟩ := h.refs
  cases new with
  | nil => rw [hnew, List.append_nil]
  | cons e _ => have := hlev e (List.mem_cons_self ..); rw [hst] at this; cases this

structure Quiescent (s : St) : Prop where
  stack : s.stack = []
  idx : s.idx = []
  refstack : s.refstack = []
  rolledback : s.rolledback = []

theorem evalTop_quiescent (env : Env) (n : Node) (s : St) (hq : Quiescent s) :
    Quiescent (evalTop env n s).2 := by
  have hf := evalTop_frame env n s (by intro e he; rw [hq.refstack] at he; cases he)
  refine ⟨hf.stack.trans hq.stack, hf.idx.trans hq.idx, (hf.refstack_idle hq.stack).trans hq.refstack, ?_⟩
  have hs := evalTop_step env n s
  generalize evalTop env n s = q at hs
  cases hs with
  | held v _ _ => exact hq.rolledback
  | ok v s1 _ _ => rfl
  | err e s1 _ _ => rfl

end MxModel.Exec
