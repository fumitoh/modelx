import MxModel.Proofs.CalcExec
/-! The model's backward search over the trace graph (`withAncs`, the counterpart of `nx.ancestors`) is
COMPLETE - `reach` with fuel `edges.length` returns a set closed under the edges (every productive round
closes at least one open edge) -, every element whose formula ran while tracing reaches a target, and
hence the planned elements, which all have a value when tracing ends (`planned_held`), are closed under
callees (`planned_closed`).  With that, `generate_actions` followed by `execute_actions` on the plan for the
successor function `succsOf` of the traced sub graph (`generate_then_execute_full`). -/
namespace MxModel.CalcSteps

/-- the successors of a node in a graph given by its edge list (`subgraph.successors`) -/
def succsOf (edges : List (Node × Node)) (p : Node) : List Node :=
  (edges.filter (fun e => e.1 = p)).map (·.2)

theorem mem_succsOf {edges : List (Node × Node)} {p n : Node} : n ∈ succsOf edges p ↔ (p, n) ∈ edges := by
  simp only [succsOf, List.mem_map, List.mem_filter, decide_eq_true_eq]
  constructor
  · rintro ⟨⟨a, b⟩, ⟨he, rfl⟩, rfl⟩; exact he
  · intro h; exact ⟨(p, n), ⟨h, rfl⟩, rfl⟩

def openEdges (edges : List (Node × Node)) (acc : List Node) : Nat :=
  (edges.filter (fun e => !decide (e.2 ∈ acc))).length

theorem openEdges_lt (edges : List (Node × Node)) {acc acc' : List Node} (h : ∀ x ∈ acc, x ∈ acc')
    {e : Node × Node} (he : e ∈ edges) (h1 : e.2 ∉ acc) (h2 : e.2 ∈ acc') :
    openEdges edges acc' < openEdges edges acc := by
  have hsub : edges.filter (fun e => !decide (e.2 ∈ acc')) =
      (edges.filter (fun e => !decide (e.2 ∈ acc))).filter (fun e => !decide (e.2 ∈ acc')) := by
    rw [List.filter_filter]
    apply List.filter_congr
    intro d _
    by_cases hd : d.2 ∈ acc'
    · simp [hd]
    · simpa [hd] using fun hc => hd (h _ hc)
  rw [openEdges, hsub]
  exact List.length_filter_lt_length_iff_exists.mpr
    ⟨e, List.mem_filter.mpr ⟨he, by simpa using h1⟩, by simpa using h2⟩

/-- `reach` returns a set that is closed under the edges, when the fuel covers the edges that are
still open and everything reached so far, except the frontier, is closed already -/
theorem reach_closed (edges : List (Node × Node)) : ∀ (fuel : Nat) (acc fr : List Node),
    openEdges edges acc ≤ fuel → (∀ x ∈ fr, x ∈ acc) →
    (∀ e ∈ edges, e.1 ∈ acc → e.1 ∉ fr → e.2 ∈ acc) →
    ∀ e ∈ edges, e.1 ∈ reach edges fuel acc fr → e.2 ∈ reach edges fuel acc fr := by
  intro fuel
  induction fuel with
  | zero =>
    intro acc fr hμ _ _ e he _
    have := List.filter_eq_nil_iff.mp (List.eq_nil_of_length_eq_zero (Nat.le_zero.mp hμ)) e he
    show e.2 ∈ acc
    simpa using this
  | succ fuel ih =>
    intro acc fr hμ hfr hcl e he h1
    rw [reach_succ] at h1 ⊢
    -- an edge that starts in `acc` ends in `acc` or in the next frontier
    have hstep : ∀ d ∈ edges, d.1 ∈ acc → d.2 ∈ acc ∨ d.2 ∈ reachNext edges acc fr := by
      intro d hd h1d
      by_cases hf : d.1 ∈ fr
      · by_cases ha : d.2 ∈ acc
        · exact Or.inl ha
        · exact Or.inr (mem_reachNext.mpr ⟨d, hd, hf, ha, rfl⟩)
      · exact Or.inl (hcl d hd h1d hf)
    by_cases hnext : reachNext edges acc fr = []
    · rw [if_pos hnext] at h1 ⊢
      exact (hstep e he h1).elim id fun h => by rw [hnext] at h; cases h
    · rw [if_neg hnext] at h1 ⊢
      refine ih _ _ ?_ (fun x hx => List.mem_append_right _ hx) (fun d hd h1d h2d => ?_) e he h1
      · -- a new head was reached: one open edge fewer
        obtain ⟨x, hx⟩ := List.exists_mem_of_ne_nil _ hnext
        obtain ⟨d, hd1, _, hd3, rfl⟩ := mem_reachNext.mp hx
        have := openEdges_lt edges (acc := acc) (fun y hy => List.mem_append_left _ hy) hd1 hd3
          (List.mem_append_right _ hx)
        omega
      · rcases List.mem_append.mp h1d with h1d | h1d
        · exact List.mem_append.mpr (hstep d hd h1d)
        · exact (h2d h1d).elim

theorem withDescs_closed (edges : List (Node × Node)) (n : Node) :
    ∀ e ∈ edges, e.1 ∈ withDescs edges n → e.2 ∈ withDescs edges n :=
  reach_closed edges edges.length [n] [n] (List.length_filter_le _ _) (fun _ hx => hx)
    (fun _ _ h1 h2 => (h2 h1).elim)

theorem withAncs_closed (edges : List (Node × Node)) (t : Node) {p n : Node}
    (he : (p, n) ∈ edges) (hn : n ∈ withAncs edges t) : p ∈ withAncs edges t :=
  withDescs_closed _ t (n, p) (List.mem_map.mpr ⟨(p, n), he, rfl⟩) hn

theorem anc_mem {edges : List (Node × Node)} {p t : Node} (a : Anc edges p t) : p ∈ withAncs edges t := by
  induction a with
  | refl t => exact self_mem_withDescs _ t
  | step he _ ih => exact withAncs_closed edges _ he ih

theorem mem_withAncs {edges : List (Node × Node)} {t p : Node} (h : p ∈ withAncs edges t) :
    p = t ∨ ∃ e ∈ edges, e.1 = p := by
  rcases mem_withDescs h with h | ⟨e, he, h⟩
  · exact Or.inl h
  · obtain ⟨e0, he0, rfl⟩ := List.mem_map.mp he
    exact Or.inr ⟨e0, he0, h⟩

/-- a planned element ran, or it is a target that has a value, or it is a callee of a calculated value – held
before (`hct`), or by completeness (`hcomp`) -/
theorem planned_held {preds : Node → List Node} {fuel : Nat} {targets : List Node} {c : Cache}
    (h : c.WF) (hct : ∀ e ∈ c.edges, e.1 ∈ c.held)
    (hcomp : ∀ n ∈ (traceTargets preds fuel targets c).held, n ∉ c.inputs → ∀ p ∈ preds n,
      p ∈ (traceTargets preds fuel targets c).held ∧ (p, n) ∈ (traceTargets preds fuel targets c).edges) :
    ∀ p ∈ planned preds fuel targets c, p ∈ (traceTargets preds fuel targets c).held ∧ p ∉ c.inputs := by
  have tr := (traceTargets_traced preds fuel targets c).1
  have hran : ∀ x ∈ calculated preds fuel targets c, x ∉ c.inputs :=
    fun x hx hi => tr.fresh x hx (h.inputsHeld x hi)
  intro p hp
  rcases List.mem_append.mp hp with hp | hp
  · exact ⟨(tr.held p).mpr (Or.inr hp), hran p hp⟩
  · obtain ⟨⟨t, _, ⟨_, hth⟩, hanc⟩, _, hpi⟩ := mem_preHeld.mp hp
    refine ⟨?_, hpi⟩
    rcases mem_withAncs hanc with rfl | ⟨e, he, rfl⟩
    · exact hth
    · rcases (tr.edges e).mp he with h0 | ⟨hn, hpn⟩ | hx
      · exact (tr.held _).mpr (Or.inl (hct e h0))
      · exact (hcomp e.2 ((tr.held _).mpr (Or.inr hn)) (hran e.2 hn) e.1 hpn).1
      · cases hx

/-- a planned element was calculated from a target – it ran while the target was traced, or `preHeld` found it –
and so was its callee -/
theorem planned_closed (preds : Node → List Node) (fuel : Nat) (targets : List Node) (c : Cache)
    (h : c.WF) (hct : ∀ e ∈ c.edges, e.1 ∈ c.held)
    (hcomp : ∀ n ∈ (traceTargets preds (fuel + 1) targets c).held, n ∉ c.inputs → ∀ p ∈ preds n,
      p ∈ (traceTargets preds (fuel + 1) targets c).held ∧
      (p, n) ∈ (traceTargets preds (fuel + 1) targets c).edges) :
    ∀ n ∈ planned preds (fuel + 1) targets c, ∀ p ∈ preds n, p ∉ c.inputs →
      p ∈ planned preds (fuel + 1) targets c := by
  intro n hn p hpn hpi
  obtain ⟨hnh, hni⟩ := planned_held h hct hcomp n hn
  have key : ∃ t ∈ targets, t ∉ c.inputs ∧
      n ∈ withAncs (traceTargets preds (fuel + 1) targets c).edges t := by
    rcases List.mem_append.mp hn with hn | hn
    · obtain ⟨t, ht, hti, a⟩ := (traceTargets_traced preds (fuel + 1) targets c).2 n hn
      exact ⟨t, ht, hti, anc_mem a⟩
    · obtain ⟨⟨t, ht, ⟨hti, _⟩, ha⟩, _⟩ := mem_preHeld.mp hn
      exact ⟨t, ht, hti, ha⟩
  obtain ⟨t, ht, hti, ha⟩ := key
  exact planned_of_anc ht hti (withAncs_closed _ t (hcomp n hnh hni p hpn).2 ha) hpi

/-- the statement of `C16.generate_plan_execute_correct` -/
theorem generate_then_execute_full (preds : Node → List Node) (fuel fuel' : Nat) (targets ordered : List Node)
    (size : Nat) (c : Cache) (hz : 1 ≤ size) (h : c.WF) (hct : ∀ e ∈ c.edges, e.1 ∈ c.held)
    (hcomp : ∀ n ∈ (traceTargets preds (fuel + 1) targets c).held, n ∉ c.inputs → ∀ p ∈ preds n,
      p ∈ (traceTargets preds (fuel + 1) targets c).held ∧
      (p, n) ∈ (traceTargets preds (fuel + 1) targets c).edges)
    (hset : ∀ x, x ∈ ordered ↔ x ∈ planned preds (fuel + 1) targets c) (hd : ordered.Nodup)
    (ht : isTopo (succsOf (traceTargets preds (fuel + 1) targets c).edges) ordered = true) :
    let plan := calcSteps ordered (succsOf (traceTargets preds (fuel + 1) targets c).edges)
      (targets.filter (fun t => !decide (t ∈ c.inputs))) size
    let L := generateLeaves preds (fuel + 1) targets c
    let r := execute preds (fuel' + 1) plan L
    (∀ x, x ∈ r.held ↔ x ∈ targets ∨ x ∈ L.held) ∧
    (∀ x ∈ L.held, x ∈ c.held ∧ x ∉ planned preds (fuel + 1) targets c) ∧
    (∀ x, x ∈ r.inputs ↔ x ∈ targets ∨ x ∈ c.inputs) ∧
    (∀ e, e ∈ r.edges ↔ e ∈ L.edges) ∧ r.log = L.log ++ ordered := by
  intro plan L r
  obtain ⟨wL, gin, gheld, _, _⟩ := generateLeaves_general preds (fuel + 1) targets c h
  have hpl := planned_held h hct hcomp
  -- what `generate_actions` leaves is a start for the plan: no value and no edge of a planned element is left
  have hLd : ∀ x ∈ L.held, x ∉ ordered := fun x hx ho => (gheld x hx).2 ((hset x).mp ho)
  have hLe : ∀ e ∈ L.edges, e.1 ∉ ordered := fun e he ho =>
    (clear_fold_gone (planned preds (fuel + 1) targets c) (traceTargets preds (fuel + 1) targets c)
      ((traceTargets_traced preds (fuel + 1) targets c).1.wf h) e.1 ((hset _).mp ho)
      (hpl e.1 ((hset _).mp ho)).1 e he).1 rfl
  obtain ⟨r1, r2, r3, r4⟩ := run_from_any (targets := targets.filter (fun t => !decide (t ∈ c.inputs))) hz ht hd
    wL hLd hLe (fun n hn p hpn => by
      -- a callee of a planned element is a user input, which is still held, or planned, the call recorded
      have hnp := (hset n).mp hn
      by_cases hpi : p ∈ c.inputs
      · exact Or.inr (wL.inputsHeld p ((gin p).mpr hpi))
      · exact Or.inl ⟨(hset p).mpr (planned_closed preds fuel targets c h hct hcomp n hnp p hpn hpi),
          mem_succsOf.mpr (hcomp n (hpl n hnp).1 (hpl n hnp).2 p hpn).2⟩) fuel' (r := r) rfl
  -- the planned targets are the targets that are not user inputs; a target that is one is held anyway
  have htgt : ∀ x (H : Prop), (x ∈ c.inputs → H) →
      (((x ∈ targets.filter (fun t => !decide (t ∈ c.inputs)) ∧ x ∈ ordered) ∨ H) ↔ (x ∈ targets ∨ H)) := by
    intro x H hH
    rw [List.mem_filter, Bool.not_eq_true', decide_eq_false_iff_not]
    constructor
    · rintro (⟨hx, _⟩ | hx)
      · exact Or.inl hx.1
      · exact Or.inr hx
    · rintro (hx | hx)
      · by_cases hxi : x ∈ c.inputs
        · exact Or.inr (hH hxi)
        · exact Or.inl ⟨⟨hx, hxi⟩, (hset x).mpr (planned_of_anc hx hxi (self_mem_withDescs _ x) hxi)⟩
      · exact Or.inr hx
  exact ⟨fun x => (r1 x).trans (htgt x _ fun hxi => wL.inputsHeld x ((gin x).mpr hxi)), gheld,
    fun x => (r2 x).trans ((or_congr_right (gin x)).trans (htgt x _ id)), r3, r4⟩

/-- the statement of `C16.generate_plan_execute_inputs_only` -/
theorem generate_then_execute (preds : Node → List Node) (fuel fuel' : Nat) (targets ordered : List Node)
    (size : Nat) (c : Cache) (hz : 1 ≤ size) (h : c.WF) (hc : ∀ x ∈ c.held, x ∈ c.inputs)
    (hdone : ∀ n ∈ calculated preds (fuel + 1) targets c, ∀ p ∈ preds n,
      p ∈ (traceTargets preds (fuel + 1) targets c).held)
    (hset : ∀ x, x ∈ ordered ↔ x ∈ planned preds (fuel + 1) targets c) (hd : ordered.Nodup)
    (ht : isTopo (succsOf (traceTargets preds (fuel + 1) targets c).edges) ordered = true) :
    let plan := calcSteps ordered (succsOf (traceTargets preds (fuel + 1) targets c).edges)
      (targets.filter (fun t => !decide (t ∈ c.inputs))) size
    let r := execute preds (fuel' + 1) plan (generateLeaves preds (fuel + 1) targets c)
    (∀ x, x ∈ r.held ↔ x ∈ targets ∨ x ∈ c.held) ∧ (∀ x, x ∈ r.inputs ↔ x ∈ r.held) ∧
    r.edges = [] ∧ r.log = (generateLeaves preds (fuel + 1) targets c).log ++ ordered := by
  intro plan r
  obtain ⟨g1, _, g3⟩ := generateLeaves_spec preds (fuel + 1) targets c h hc
  have tr := (traceTargets_traced preds (fuel + 1) targets c).1
  obtain ⟨a1, _, a3, a4, a5⟩ := generate_then_execute_full preds fuel fuel' targets ordered size c hz h
    (by rw [edges_nil_of_inputs_only h hc]; exact fun e he => nomatch he)
    (fun n hn hni p hpn => by
      -- a held element that is no input ran while tracing, so its calls are recorded
      have hnew := ((tr.held n).mp hn).resolve_left fun hh => hni (hc n hh)
      exact ⟨hdone n hnew p hpn, (tr.edges _).mpr (Or.inr (Or.inl ⟨hnew, hpn⟩))⟩) hset hd ht
  refine ⟨fun x => (a1 x).trans (or_congr_right (g1 x)), fun x => ?_, ?_, a5⟩
  · exact (a3 x).trans (((a1 x).trans (or_congr_right ((g1 x).trans ⟨hc x, h.inputsHeld x⟩))).symm)
  · rw [List.eq_nil_iff_forall_not_mem]
    intro e he
    rw [a4 e, g3] at he; cases he

end MxModel.CalcSteps
