import MxModel.Proofs.EditMachineEnv
import MxModel.Proofs.ExecResolveDerived
/-!
# The machine's definitions are those of `SM.structEnv`
-/
namespace MxModel.Edit
open MxModel.Exec MxModel.SM

theorem envOf_formula_member (P : Params) (t : Tabs) (st : SM.St) (ha : AllocOK t st) (q : Path) (n : String)
    (m : Member) (hm : st.mem .cells q n = some m) (key : Key) :
    (envOf P t st).formula (t.cid q n, key) = resolve (nsAt t st q) (P.srcOf m.payload key) := by
  have hd := cellOf_cid t q n (ha.cells q n (by rw [hm]; rfl))
  rw [envOf_formula, cellInfo_eq_some.mpr ⟨hd, rfl, hm⟩]

/-- only without model-level references: `nsPlain` looks them up BEFORE the child spaces (the code's chain
`cells, refs, spaces`), `SM.nsOf` after -/
theorem nsAt_eq_nsOf (t : Tabs) (st : SM.St) (hg : st.globals = []) (gid : String → RefId) (q : Path)
    (hpl : ∀ x, qualOf t q x = none) :
    nsAt t st q = SM.nsOf ⟨t.cid, t.rid, gid⟩ st q := by
  funext x
  unfold nsAt
  rw [hpl x]
  simp only
  unfold nsPlain SM.nsOf
  simp [hg]

/-- `SM.structEnv`: the definitions `C03.derived_cells_formula_is_definers_source_in_sub_space` speaks
about; `D`: any decoding that is right at the member -/
theorem envOf_agrees_with_structEnv (P : Params) (t : Tabs) (st : SM.St) (ha : AllocOK t st)
    (hg : st.globals = []) (se : SEnv) (D : SM.Dec) (gid : String → RefId) (q : Path) (n : String) (m : Member)
    (hm : st.mem .cells q n = some m) (key : Key)
    (hdec : D.cellOf (t.cid q n) = (q, n)) (hnum : D.pathOf (D.num q) = q) (hpl : ∀ x, qualOf t q x = none) :
    (envOf P t st).formula (t.cid q n, key) =
      (SM.structEnv se ⟨t.cid, t.rid, gid⟩ D P.srcOf P.valOf st).toEnv.formula (t.cid q n, key) := by
  rw [envOf_formula_member P t st ha q n m hm key, nsAt_eq_nsOf t st hg gid q hpl]
  exact (SM.structEnv_formula se ⟨t.cid, t.rid, gid⟩ D P.srcOf P.valOf st q n key m hdec hnum hm).symm

end MxModel.Edit
