import MxModel.Proofs.EditMachineStep
import MxModel.Proofs.StructMechEffect
/-!
# The clearing of the member edits covers what they change

For `new_cells`, `set_cells_property` and `space.name = value` (new and changed reference), from every
state satisfying the structural invariant `SM.Inv`: the clearing the code performs (`Edit.clearing`)
reaches every cells whose entry or namespace changes and every reference whose entry changes – in the
space of the edit AND in every sub space (`Covers`).  It is what
`C02.no_stale_in_sub_spaces_after_member_edit` takes as its premise `hL`.

The structural side is semantic: both states equal derivation from scratch (`Inv.mem_eq_derivation`),
the edit changes one definition (`Defines` / `Undefines`, `SM.apply_spec`) and nothing else
(`Shape`); so an entry `(q, n)` can only differ if `n` is the edited name and `q` is the space of the
edit or a sub space that does not define the name itself (`changes_name`, `changes_in_subs`, `defines_changes`).
-/
namespace MxModel.Edit
open MxModel.Exec MxModel.C02 MxModel.SM

theorem touchedBy_of_ns {cl : List Clear} {L : List CellId} {c : CellId} (h : Clear.ns L ∈ cl) (hc : c ∈ L) :
    touchedBy cl c = true := by
  unfold touchedBy
  rw [List.any_eq_true]
  exact ⟨_, h, by simpa using hc⟩

theorem clearedBy_of_obj {cl : List Clear} {c : CellId} (h : Clear.obj c ∈ cl) : clearedBy cl c = true := by
  unfold clearedBy
  rw [List.any_eq_true]
  exact ⟨_, h, by simp⟩

theorem clearedBy_of_del {cl : List Clear} {c : CellId} (h : Clear.del c ∈ cl) : clearedBy cl c = true := by
  unfold clearedBy
  rw [List.any_eq_true]
  exact ⟨_, h, by simp⟩

theorem touchedBy_of_cleared {cl : List Clear} {c : CellId} (h : clearedBy cl c = true) : touchedBy cl c = true := by
  unfold clearedBy at h
  unfold touchedBy
  rw [List.any_eq_true] at h ⊢
  obtain ⟨k, hk, hc⟩ := h
  refine ⟨k, hk, ?_⟩
  cases k <;> simp_all

theorem touchedBy_of_obj {cl : List Clear} {c : CellId} (h : Clear.obj c ∈ cl) : touchedBy cl c = true :=
  touchedBy_of_cleared (clearedBy_of_obj h)

theorem mem_isSome_iff {st : SM.St} (h : Inv st) (a : Attr) (q : Path) (n : String) :
    (st.mem a q n).isSome = true ↔
      (st.defd a q n).isSome = true ∨ (st.firstDef a (st.tail q) n).isSome = true := by
  rw [h.mem_eq_derivation]
  cases st.defd a q n with
  | some v => simp
  | none => cases st.firstDef a (st.tail q) n <;> simp

theorem derived_of_defd_none {st : SM.St} {a : Attr} {q : Path} {n : String} {m : Member}
    (hm : st.mem a q n = some m) (hd : st.defd a q n = none) : m.derived = true := by
  unfold St.defd at hd
  rw [hm] at hd
  cases hdm : m.derived with
  | true => rfl
  | false => simp [hdm] at hd

theorem mem_derivedNames {st : SM.St} {a : Attr} {q : Path} {n : String} {m : Member}
    (hm : st.mem a q n = some m) (hd : m.derived = true) : n ∈ derivedNames (conts st a q) := by
  rw [mem_conts] at hm
  have := mget_mem _ n m hm
  simp only [derivedNames, List.mem_filterMap]
  exact ⟨(n, m), this, by simp [hd]⟩

theorem sameKeys_isSome {xs ys : Members} (h : sameKeys xs ys = true) (n : String) :
    (mget ys n).isSome = (mget xs n).isSome := by
  unfold sameKeys at h
  simp only [Bool.and_eq_true, List.all_eq_true] at h
  rw [Bool.eq_iff_iff, mget_isSome_iff, mget_isSome_iff]
  constructor
  · intro hy
    obtain ⟨e, he, rfl⟩ := List.mem_map.mp hy
    exact (mget_isSome_iff xs e.1).mp (h.2 e he)
  · intro hx
    obtain ⟨e, he, rfl⟩ := List.mem_map.mp hx
    exact (mget_isSome_iff ys e.1).mp (h.1 e he)

theorem nsAt_congr (t : Tabs) {st st' : SM.St} (q : Path)
    (hm : ∀ a x, (st'.mem a q x).isSome = (st.mem a q x).isSome)
    (hch : ∀ x, x ∈ st'.childNames q ↔ x ∈ st.childNames q) (hg : st'.globals = st.globals) :
    nsAt t st' q = nsAt t st q := by
  funext x
  unfold nsAt nsPlain
  have : (st'.childNames q).contains x = (st.childNames q).contains x := by
    rw [Bool.eq_iff_iff]
    simp only [List.contains_eq_mem, decide_eq_true_eq]
    exact hch x
  rw [hm .cells x, hm .refs x, this, hg]

theorem nsAt_changed (t : Tabs) {st st' : SM.St} (q : Path)
    (hch : ∀ x, x ∈ st'.childNames q ↔ x ∈ st.childNames q) (hg : st'.globals = st.globals)
    (hne : nsAt t st' q ≠ nsAt t st q) : ∃ a x, (st'.mem a q x).isSome ≠ (st.mem a q x).isSome :=
  Classical.byContradiction (fun hc => hne
    (nsAt_congr t q (fun a x => Classical.byContradiction (fun h => hc ⟨a, x, h⟩)) hch hg))

theorem nsAt_changed_of_shape (t : Tabs) {st st' : SM.St} (hs : Shape st st') (q : Path)
    (hne : nsAt t st' q ≠ nsAt t st q) : ∃ a x, (st'.mem a q x).isSome ≠ (st.mem a q x).isSome :=
  nsAt_changed t q (fun x => by rw [hs.childNames q]) hs.globals hne

theorem mem_eq_of_tail {st st' : SM.St} (hi : Inv st) (hi' : Inv st') (q : Path) (htail : st'.tail q = st.tail q)
    (a : Attr) (n : String) (hdef : ∀ b, b ∈ q :: st.tail q → st'.defd a b n = st.defd a b n) :
    st'.mem a q n = st.mem a q n := by
  rw [hi'.mem_eq_derivation, hi.mem_eq_derivation, htail, hdef q (by simp),
    firstDef_congr st st' a _ n (fun b hb => hdef b (List.mem_cons_of_mem _ hb))]

def OnlyAt (st st' : SM.St) (a : Attr) (p : Path) (name : String) : Prop :=
  ∀ a' b n, ¬ (b = p ∧ a' = a ∧ n = name) → st'.defd a' b n = st.defd a' b n

section onlyAt
variable {st st' : SM.St} {a : Attr} {p : Path} {name : String}

theorem onlyAt_of_defines {v : Nat} (hd : Defines st st' a p name v) : OnlyAt st st' a p name :=
  fun a' b n h => by rw [hd a' b n, if_neg h]

theorem onlyAt_of_undefines (hd : Undefines st st' a p name) : OnlyAt st st' a p name :=
  fun a' b n h => by rw [hd a' b n, if_neg h]

theorem changes_name (hi : Inv st) (hi' : Inv st') (hs : Shape st st') (ho : OnlyAt st st' a p name)
    (a' : Attr) (q : Path) (n : String) (hne : st'.mem a' q n ≠ st.mem a' q n) : a' = a ∧ n = name := by
  apply Classical.byContradiction
  intro hc
  exact hne (mem_eq_of_tail hi hi' q (hs.tail q) a' n (fun b _ => ho a' b n (fun h => hc ⟨h.2.1, h.2.2⟩)))

theorem changes_in_subs (hi : Inv st) (hi' : Inv st') (hs : Shape st st') (ho : OnlyAt st st' a p name)
    (q : Path) (hqp : q ≠ p) (hne : st'.mem a q name ≠ st.mem a q name) :
    q ∈ st.subs p ∧ st.defd a q name = none ∧
      st'.firstDef a (st.tail q) name ≠ st.firstDef a (st.tail q) name := by
  rw [hi'.mem_eq_derivation, hi.mem_eq_derivation, hs.tail q, ho a q name (fun h => hqp h.1)] at hne
  cases hdd : st.defd a q name with
  | some w => rw [hdd] at hne; exact absurd rfl hne
  | none =>
    rw [hdd] at hne
    have hfne : st'.firstDef a (st.tail q) name ≠ st.firstDef a (st.tail q) name := fun e => hne (by rw [e])
    have hp : p ∈ st.tail q := by
      apply Classical.byContradiction
      intro hp
      exact hfne (firstDef_congr st st' a _ name (fun b hb => ho a b name (fun h => hp (h.1 ▸ hb))))
    have hq : q ∈ st.ids := by
      apply Classical.byContradiction
      intro hq
      rw [St.tail_of_not_mem st q hq] at hp; cases hp
    exact ⟨(mem_subs p q).mpr ⟨hq, hqp, hp⟩, rfl, hfne⟩

end onlyAt

section defines
variable {st st' : SM.St} {a : Attr} {p : Path} {name : String} {v : Nat}

theorem defines_changes (hi : Inv st) (hi' : Inv st') (hs : Shape st st') (hd : Defines st st' a p name v)
    (q : Path) (hne : st'.mem a q name ≠ st.mem a q name) :
    q = p ∨ (q ∈ st.subs p ∧ st.defd a q name = none ∧ st'.firstDef a (st'.tail q) name = some (p, v)) := by
  by_cases hqp : q = p
  · exact Or.inl hqp
  · right
    obtain ⟨hq, hdd, hfne⟩ := changes_in_subs hi hi' hs (onlyAt_of_defines hd) q hqp hne
    rw [hs.tail q]
    refine ⟨hq, hdd, ?_⟩
    have hp := ((mem_subs p q).mp hq).2.2
    have hother : ∀ b, b ≠ p → st'.defd a b name = st.defd a b name :=
      fun b hb => onlyAt_of_defines hd a b name (fun h => hb h.1)
    have hpdef : st'.defd a p name = some v := by rw [hd a p name]; simp
    cases hf' : st'.firstDef a (st.tail q) name with
    | none =>
      exfalso
      have := (firstDef_eq_none st' a _ name).mp hf' p hp
      rw [hpdef] at this; cases this
    | some d =>
      obtain ⟨b, w⟩ := d
      by_cases hb : b = p
      · subst hb
        have := (firstDef_some st' a _ name b w hf').2
        rw [hpdef] at this
        cases this; rfl
      · exfalso
        have := firstDef_other st st' a p name hother (by rw [hpdef]; rfl) _ b w hf' hb
        apply hfne
        rw [hf', this]

theorem defines_isSome_after (hi' : Inv st') (hd : Defines st st' a p name v) (q : Path)
    (h : q = p ∨ st'.firstDef a (st'.tail q) name = some (p, v)) : (st'.mem a q name).isSome = true := by
  rw [mem_isSome_iff hi']
  rcases h with rfl | h
  · left; rw [hd a q name]; simp
  · right; rw [h]; rfl

theorem isSome_of_base (hi : Inv st) (q : Path) (hp : p ∈ st.tail q)
    (hex : (st.mem a p name).isSome = true) : (st.mem a q name).isSome = true := by
  rw [mem_isSome_iff hi] at hex ⊢
  right
  rcases hex with hex | hex
  · obtain ⟨d, hd'⟩ := firstDef_isSome_of st a _ name p hp hex
    rw [hd']; rfl
  · cases hf : st.firstDef a (st.tail p) name with
    | none => rw [hf] at hex; cases hex
    | some d =>
      obtain ⟨b, w⟩ := d
      obtain ⟨hb, hbd⟩ := firstDef_some st a _ name b w hf
      obtain ⟨d', hd'⟩ := firstDef_isSome_of st a _ name b (hi.wf.tail_subset q p hp b hb) (by rw [hbd]; rfl)
      rw [hd']; rfl

theorem defines_isSome_same (hi : Inv st) (hi' : Inv st') (hs : Shape st st') (hd : Defines st st' a p name v)
    (hex : (st.mem a p name).isSome = true) (a' : Attr) (q : Path) (n : String) :
    (st'.mem a' q n).isSome = (st.mem a' q n).isSome := by
  by_cases hne : st'.mem a' q n = st.mem a' q n
  · rw [hne]
  · obtain ⟨rfl, rfl⟩ := changes_name hi hi' hs (onlyAt_of_defines hd) a' q n hne
    rcases defines_changes hi hi' hs hd q hne with rfl | ⟨hq, hdn, hf⟩
    · rw [defines_isSome_after hi' hd q (Or.inl rfl), hex]
    · rw [defines_isSome_after hi' hd q (Or.inr hf),
        isSome_of_base hi q ((mem_subs p q).mp hq).2.2 hex]

end defines

theorem other_kind_same {st st' : SM.St} {a : Attr} {p : Path} {name : String} (hi : Inv st) (hi' : Inv st')
    (hs : Shape st st') (ho : OnlyAt st st' a p name) {a' : Attr} (h : a' ≠ a) (q : Path) (x : String) :
    st'.mem a' q x = st.mem a' q x :=
  Classical.byContradiction (fun hne => h (changes_name hi hi' hs ho a' q x hne).1)

/-- the clears `L q` of a sub space whose derived member is re-inherited from `p`, in the walk over the sub spaces
that `new_cells`, `set_cells_property`, `new_ref` and `change_ref` share -/
theorem mem_subs_reinherited {st st' : SM.St} {a : Attr} {p q : Path} {nm : String} {v : Nat}
    (L N : Path → List Clear) {k : Clear}
    (hq : q ∈ st.subs p) (hs : (st.mem a q nm).isSome = true) (hdn : st.defd a q nm = none)
    (hf : st'.firstDef a (st'.tail q) nm = some (p, v)) (hk : k ∈ L q) :
    k ∈ (st.subs p).flatMap (fun q => match st.mem a q nm with
      | some m => if m.derived && firstIs st' a q nm p then L q else []
      | none => N q) := by
  obtain ⟨m, hm⟩ := Option.isSome_iff_exists.mp hs
  refine List.mem_flatMap.mpr ⟨q, hq, ?_⟩
  simp only [hm, derived_of_defd_none hm hdn, firstIs, hf, beq_self_eq_true, Bool.and_self, if_true]
  exact hk

/-- …and the clears `N q` of one that gets the member -/
theorem mem_subs_new {st st' : SM.St} {a : Attr} {p q : Path} {nm : String} (L N : Path → List Clear) {k : Clear}
    (hq : q ∈ st.subs p) (hm : st.mem a q nm = none) (hk : k ∈ N q) :
    k ∈ (st.subs p).flatMap (fun q => match st.mem a q nm with
      | some m => if m.derived && firstIs st' a q nm p then L q else []
      | none => N q) := by
  refine List.mem_flatMap.mpr ⟨q, hq, ?_⟩
  simp only [hm]
  exact hk

variable (kw : List String) (t : Tabs)

theorem keysOK_of_inv {st : SM.St} (h : Inv st) : KeysOK st := h.wf.keys

/-- `set_cells_property` -/
theorem covers_setFormula {st st' : SM.St} (hi : Inv st) (hi' : Inv st') (p : Path) (name : String) (v : Nat)
    (hop : st.setFormula p name v = some st') :
    Covers t st st' (clearing kw t st st' (.setFormula p name v)) := by
  obtain ⟨hs, hd⟩ := setFormula_spec st st' p name v hop
  have hex : (st.mem .cells p name).isSome = true := by
    rw [← setFormula_isSome st p name v, hop]; rfl
  have hsame := defines_isSome_same hi hi' hs hd hex
  have hns : ∀ q, nsAt t st' q = nsAt t st q :=
    fun q => nsAt_congr t q (fun a x => hsame a q x) (fun x => by rw [hs.childNames q]) hs.globals
  have hr := other_kind_same hi hi' hs (onlyAt_of_defines hd) (a' := .refs) (by simp)
  refine ⟨fun q x _ hne => absurd (hns q) hne, ?_, fun q x hne => absurd (hr q x) hne, fun q x hne => absurd (hr q x) hne⟩
  intro q x hm hne
  obtain ⟨_, rfl⟩ := changes_name hi hi' hs (onlyAt_of_defines hd) .cells q x hne
  apply clearedBy_of_obj
  rcases defines_changes hi hi' hs hd q hne with rfl | ⟨hq, hdn, hf⟩
  · exact List.mem_cons_self ..
  · exact List.mem_cons_of_mem _ (mem_subs_reinherited _ _ hq hm hdn hf (List.mem_singleton.mpr rfl))

theorem defines_new_ns {st st' : SM.St} (hi : Inv st) (hi' : Inv st') (hs : Shape st st') {a : Attr} {p : Path}
    {name : String} {v : Nat} (hd : Defines st st' a p name v) (q : Path)
    (hne : nsAt t st' q ≠ nsAt t st q) :
    q = p ∨ (q ∈ st.subs p ∧ st.mem a q name = none) := by
  obtain ⟨a', x, hdiff⟩ := nsAt_changed_of_shape t hs q hne
  have hne' : st'.mem a' q x ≠ st.mem a' q x := fun h => hdiff (by rw [h])
  obtain ⟨rfl, rfl⟩ := changes_name hi hi' hs (onlyAt_of_defines hd) a' q x hne'
  rcases defines_changes hi hi' hs hd q hne' with rfl | ⟨hq, _, hf⟩
  · exact Or.inl rfl
  · right
    refine ⟨hq, ?_⟩
    cases hm : st.mem a' q x with
    | none => rfl
    | some m =>
      exfalso
      apply hdiff
      rw [defines_isSome_after hi' hd q (Or.inr hf), hm]; rfl

theorem covers_newCells {st st' : SM.St} (hi : Inv st) (hi' : Inv st') (p : Path) (name fname : String) (v : Nat)
    (hop : st.newCellsNamed kw p name fname v = some st') :
    Covers t st st' (clearing kw t st st' (.newCells p name fname v)) := by
  obtain ⟨hs, hd⟩ := newCellsNamed_spec kw st st' p name fname v hop
  have hnm : actualName kw st p name fname = st.cellsName kw p name fname := rfl
  obtain ⟨_, _, hs', _⟩ := newCellsNamed_some hop
  obtain ⟨hp, _, hcan, _⟩ := newCells_some hs'
  have hnew : st.mem .cells p (st.cellsName kw p name fname) = none :=
    (kindOf_none st p _ (canAdd_space (hi.wf.tree p hp).1 hcan).1).1
  generalize st.cellsName kw p name fname = nm at hd hnm hnew
  have hr := other_kind_same hi hi' hs (onlyAt_of_defines hd) (a' := .refs) (by simp)
  refine ⟨?_, ?_, fun q x hne => absurd (hr q x) hne, fun q x hne => absurd (hr q x) hne⟩
  · intro q x hm hne
    refine touchedBy_of_ns (L := cellsOf t st q) ?_ (mem_cellsOf t st q x hm)
    rw [clearing, hnm]
    rcases defines_new_ns t hi hi' hs hd q hne with rfl | ⟨hq, hnone⟩
    · exact List.mem_cons_self ..
    · exact List.mem_cons_of_mem _ (mem_subs_new _ _ hq hnone (List.mem_singleton.mpr rfl))
  · intro q x hm hne
    obtain ⟨_, rfl⟩ := changes_name hi hi' hs (onlyAt_of_defines hd) .cells q x hne
    apply clearedBy_of_obj
    rw [clearing, hnm]
    rcases defines_changes hi hi' hs hd q hne with rfl | ⟨hq, hdn, hf⟩
    · rw [hnew] at hm; cases hm
    · exact List.mem_cons_of_mem _ (mem_subs_reinherited _ _ hq hm hdn hf (List.mem_singleton.mpr rfl))

/-- `space.name = value` (`new_ref` / `change_ref`) -/
theorem covers_setRef {st st' : SM.St} (hi : Inv st) (hi' : Inv st') (p : Path) (name : String) (v : Nat)
    (hop : st.setRef kw p name v = some st') :
    Covers t st st' (clearing kw t st st' (.setRef p name v)) := by
  obtain ⟨hs, hd⟩ := setRef_spec kw st st' p name v hop
  have hcells := other_kind_same hi hi' hs (onlyAt_of_defines hd) (a' := .cells) (by simp)
  by_cases hex : (st.mem .refs p name).isSome = true
  · have hsame := defines_isSome_same hi hi' hs hd hex
    have hns : ∀ q, nsAt t st' q = nsAt t st q :=
      fun q => nsAt_congr t q (fun a x => hsame a q x) (fun x => by rw [hs.childNames q]) hs.globals
    have hmemcl : ∀ q, st'.mem .refs q name ≠ st.mem .refs q name →
        ∀ k ∈ changeRefClears t st q name, k ∈ clearing kw t st st' (.setRef p name v) := by
      intro q hne k hk
      rw [show clearing kw t st st' (.setRef p name v) = changeRefClears t st p name ++ _ from if_pos hex]
      rcases defines_changes hi hi' hs hd q hne with rfl | ⟨hq, hdn, hf⟩
      · exact List.mem_append_left _ hk
      · exact List.mem_append_right _ (mem_subs_reinherited _ _ hq
          (by rw [← hsame]; exact defines_isSome_after hi' hd q (Or.inr hf)) hdn hf hk)
    refine ⟨fun q x _ hne => absurd (hns q) hne, fun q x _ hne => absurd (hcells q x) hne, ?_, ?_⟩
    · intro q x hne c hc
      obtain ⟨_, rfl⟩ := changes_name hi hi' hs (onlyAt_of_defines hd) .refs q x hne
      exact touchedBy_of_ns (hmemcl q hne _ (by simp [changeRefClears])) hc
    · intro q x hne _
      obtain ⟨_, rfl⟩ := changes_name hi hi' hs (onlyAt_of_defines hd) .refs q x hne
      exact hmemcl q hne _ (by simp [changeRefClears])
  · have hnew : st.mem .refs p name = none := Option.not_isSome_iff_eq_none.mp hex
    rw [show clearing kw t st st' (.setRef p name v) = Clear.ns (cellsOf t st p) :: _ from if_neg hex]
    refine ⟨?_, fun q x _ hne => absurd (hcells q x) hne, ?_, ?_⟩
    · intro q x hm hne
      refine touchedBy_of_ns (L := cellsOf t st q) ?_ (mem_cellsOf t st q x hm)
      rcases defines_new_ns t hi hi' hs hd q hne with rfl | ⟨hq, hnone⟩
      · exact List.mem_cons_self ..
      · exact List.mem_cons_of_mem _ (mem_subs_new _ _ hq hnone (List.mem_singleton.mpr rfl))
    · intro q x hne c hc
      obtain ⟨_, rfl⟩ := changes_name hi hi' hs (onlyAt_of_defines hd) .refs q x hne
      refine touchedBy_of_ns (L := cellsOf t st q) ?_ hc
      rcases defines_changes hi hi' hs hd q hne with rfl | ⟨hq, hdn, hf⟩
      · exact List.mem_cons_self ..
      · cases hmm : st.mem .refs q x with
        | none => exact List.mem_cons_of_mem _ (mem_subs_new _ _ hq hmm (List.mem_singleton.mpr rfl))
        | some m => exact List.mem_cons_of_mem _ (mem_subs_reinherited _ _ hq (by rw [hmm]; rfl) hdn hf (by simp))
    · intro q x hne hsome
      obtain ⟨_, rfl⟩ := changes_name hi hi' hs (onlyAt_of_defines hd) .refs q x hne
      rcases defines_changes hi hi' hs hd q hne with rfl | ⟨hq, hdn, hf⟩
      · rw [hnew] at hsome; cases hsome
      · exact List.mem_cons_of_mem _ (mem_subs_reinherited _ _ hq hsome hdn hf (by simp))

/-! ### deletions: `update_subs` re-derives the space and every sub space -/

theorem mem_updateClears_cells {st st' : SM.St} {ds : List Path} {q : Path} {k : Clear} (hq : q ∈ ds)
    (hk : k ∈ inheritCells t st st' q) : k ∈ updateClears t st st' ds :=
  List.mem_append_left _ (List.mem_flatMap.mpr ⟨q, hq, hk⟩)

theorem mem_updateClears_refs {st st' : SM.St} {ds : List Path} {q : Path} {k : Clear} (hq : q ∈ ds)
    (hk : k ∈ inheritRefs t st st' q) : k ∈ updateClears t st st' ds :=
  List.mem_append_right _ (List.mem_flatMap.mpr ⟨q, hq, hk⟩)

theorem mem_updateClears_obj {st st' : SM.St} {ds : List Path} {q : Path} {n : String} {m : Member}
    (hq : q ∈ ds) (hm : st.mem .cells q n = some m) (hd : m.derived = true) :
    Clear.obj (t.cid q n) ∈ updateClears t st st' ds :=
  mem_updateClears_cells t hq (List.mem_append_left _ (List.mem_map.mpr ⟨n, mem_derivedNames hm hd, rfl⟩))

theorem mem_updateClears_attr {st st' : SM.St} {ds : List Path} {q : Path} {n : String} {m : Member}
    (hq : q ∈ ds) (hm : st.mem .refs q n = some m) (hd : m.derived = true) :
    Clear.attr (t.rid q n) ∈ updateClears t st st' ds :=
  mem_updateClears_refs t hq (List.mem_append_left _ (List.mem_map.mpr ⟨n, mem_derivedNames hm hd, rfl⟩))

theorem mem_updateClears_ns_cells {st st' : SM.St} {ds : List Path} {q : Path} {n : String}
    (hq : q ∈ ds) (hdiff : (st'.mem .cells q n).isSome ≠ (st.mem .cells q n).isSome) :
    Clear.ns (cellsOf t st q) ∈ updateClears t st st' ds := by
  refine mem_updateClears_cells t hq (List.mem_append_right _ ?_)
  rw [if_neg (fun hk => hdiff (by rw [mem_conts, mem_conts]; exact sameKeys_isSome hk n))]
  exact List.mem_singleton.mpr rfl

theorem mem_updateClears_ns_refs {st st' : SM.St} {ds : List Path} {q : Path} {n : String}
    (hq : q ∈ ds)
    (h : (∃ m, st.mem .refs q n = some m ∧ m.derived = true) ∨
      (st'.mem .refs q n).isSome ≠ (st.mem .refs q n).isSome) :
    Clear.ns (cellsOf t st q) ∈ updateClears t st st' ds := by
  refine mem_updateClears_refs t hq (List.mem_append_right _ ?_)
  rw [if_neg, List.mem_singleton]
  rw [Bool.and_eq_true, List.isEmpty_iff]
  rintro ⟨he, hk⟩
  rcases h with ⟨m, hm, hd⟩ | hdiff
  · exact absurd (he ▸ mem_derivedNames hm hd) List.not_mem_nil
  · exact hdiff (by rw [mem_conts, mem_conts]; exact sameKeys_isSome hk n)

end MxModel.Edit
