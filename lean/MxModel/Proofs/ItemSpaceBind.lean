import MxModel.Kernels.ItemSpace
/-! Lemmas about `bindArgs` (C07, also used by C01 for cells arguments). -/
namespace MxModel.ItemSpace

theorem kwFind_nil (n : String) : kwFind [] n = none := rfl

theorem kwFind_none_iff (kw : KwArgs) (n : String) : kwFind kw n = none ↔ n ∉ kwKeys kw := by
  induction kw with
  | nil => exact ⟨fun _ => List.not_mem_nil, fun _ => rfl⟩
  | cons e rest ih =>
    obtain ⟨k, v⟩ := e
    rw [kwFind, kwKeys, List.map_cons, List.mem_cons, not_or]
    split
    · rename_i h; exact ⟨fun c => (by cases c), fun c => absurd h.symm c.1⟩
    · rename_i h; exact ih.trans ⟨fun c => ⟨fun e => h e.symm, c⟩, fun c => c.2⟩

theorem kwFind_isSome_iff (kw : KwArgs) (n : String) : (kwFind kw n).isSome ↔ n ∈ kwKeys kw := by
  rw [Option.isSome_iff_ne_none, Ne, kwFind_none_iff, Classical.not_not]

theorem kwFind_eq_some_iff {kw : KwArgs} (hnd : (kwKeys kw).Nodup) (n : String) (v : Val) :
    kwFind kw n = some v ↔ (n, v) ∈ kw := by
  induction kw with
  | nil => exact ⟨fun h => (by cases h), fun h => absurd h List.not_mem_nil⟩
  | cons e rest ih =>
    obtain ⟨k, w⟩ := e
    rw [kwKeys, List.map_cons, List.nodup_cons] at hnd
    rw [kwFind, List.mem_cons]
    split
    · rename_i h
      subst h
      refine ⟨fun c => Or.inl (Option.some.inj c ▸ rfl), fun c => c.elim (fun e => (Prod.mk.inj e).2 ▸ rfl) fun c => ?_⟩
      exact absurd (List.mem_map.mpr ⟨(k, v), c, rfl⟩) hnd.1
    · rename_i h
      exact (ih hnd.2).trans ⟨Or.inr, fun c => c.elim (fun e => absurd (Prod.mk.inj e).1.symm h) id⟩

theorem kwFind_perm {kw kw' : KwArgs} (hp : kw.Perm kw') (hnd : (kwKeys kw).Nodup) (n : String) :
    kwFind kw n = kwFind kw' n :=
  Option.ext fun v => by
    rw [kwFind_eq_some_iff hnd, kwFind_eq_some_iff ((hp.map _).nodup_iff.mp hnd), hp.mem_iff]

theorem bindVals_cons_cons (p : Param) (ps : Sig) (a : Val) (as : List Val) (kw : KwArgs) :
    bindVals (p :: ps) (a :: as) kw = if p.name ∈ kwKeys kw then none else (bindVals ps as kw).map (a :: ·) := by
  simp only [bindVals, kwFind_isSome_iff]

theorem bindVals_cons_nil (p : Param) (ps : Sig) (kw : KwArgs) :
    bindVals (p :: ps) [] kw =
      if p.name ∈ kwKeys kw ∨ p.dflt.isSome then
        (bindVals ps [] kw).map ((kwFind kw p.name).getD (p.dflt.getD 0) :: ·)
      else none := by
  rw [bindVals]
  cases hv : kwFind kw p.name with
  | some v => rw [if_pos (Or.inl ((kwFind_isSome_iff kw p.name).mp (by rw [hv]; rfl)))]; rfl
  | none =>
    cases hd : p.dflt with
    | some d => rw [if_pos (Or.inr (Option.isSome_some (a := d)))]; rfl
    | none => rw [if_neg fun c => c.elim ((kwFind_none_iff kw p.name).mp hv) Bool.false_ne_true]

theorem specKey_length : ∀ (sig : Sig) (args : List Val) (kw : KwArgs), (specKey sig args kw).length = sig.length
  | [], _, _ => rfl
  | _ :: ps, _ :: as, kw => congrArg (· + 1) (specKey_length ps as kw)
  | _ :: ps, [], kw => congrArg (· + 1) (specKey_length ps [] kw)

theorem bindVals_spec {sig : Sig} : ∀ {args : List Val} {kw : KwArgs} {key : Key},
    bindVals sig args kw = some key → key = specKey sig args kw := by
  induction sig with
  | nil =>
    intro args kw key h
    cases args with
    | nil => exact (Option.some.inj h).symm
    | cons a as => cases h
  | cons p ps ih =>
    intro args kw key h
    cases args with
    | cons a as =>
      rw [bindVals_cons_cons] at h
      split at h
      · cases h
      · obtain ⟨k', hb, rfl⟩ := Option.map_eq_some_iff.mp h
        rw [specKey, ← ih hb]
    | nil =>
      rw [bindVals_cons_nil] at h
      split at h
      · obtain ⟨k', hb, rfl⟩ := Option.map_eq_some_iff.mp h
        rw [specKey, ← ih hb]
      · cases h

theorem bindVals_length {sig : Sig} {args : List Val} {kw : KwArgs} {key : Key}
    (h : bindVals sig args kw = some key) : key.length = sig.length := by
  rw [bindVals_spec h, specKey_length]

theorem bindVals_positional : ∀ {sig : Sig} {key : Key}, key.length = sig.length → bindVals sig key [] = some key
  | [], [], _ => rfl
  | p :: ps, v :: key, h => by
    rw [bindVals_cons_cons, if_neg (show p.name ∉ kwKeys [] from List.not_mem_nil),
      bindVals_positional (Nat.succ.inj h)]
    rfl

theorem bindVals_canonical {sig : Sig} {args : List Val} {kw : KwArgs} {key : Key}
    (h : bindVals sig args kw = some key) : bindVals sig key [] = some key :=
  bindVals_positional (bindVals_length h)

theorem bindVals_isSome_iff {sig : Sig} : ∀ {args : List Val} {kw : KwArgs},
    (bindVals sig args kw).isSome ↔
      args.length ≤ sig.length ∧
      (∀ p ∈ sig.take args.length, p.name ∉ kwKeys kw) ∧
      (∀ p ∈ sig.drop args.length, p.dflt = none → p.name ∈ kwKeys kw) := by
  induction sig with
  | nil =>
    intro args kw
    cases args with
    | nil => simp [bindVals]
    | cons a as => simp [bindVals]
  | cons p ps ih =>
    intro args kw
    cases args with
    | cons a as =>
      rw [bindVals_cons_cons]
      simp only [List.length_cons, Nat.add_le_add_iff_right, List.take_succ_cons, List.drop_succ_cons,
        List.forall_mem_cons]
      split
      · rename_i hm; simp [hm]
      · rename_i hm; simp [hm, ih]
    | nil =>
      rw [bindVals_cons_nil]
      simp only [List.length_nil, Nat.zero_le, List.take_zero, List.not_mem_nil, false_implies,
        implies_true, List.drop_zero, true_and, List.forall_mem_cons]
      have ih0 := @ih [] kw
      simp only [List.length_nil, Nat.zero_le, List.take_zero, List.not_mem_nil, false_implies,
        implies_true, List.drop_zero, true_and] at ih0
      split
      · rename_i hm
        rw [Option.isSome_map, ih0]
        refine ⟨fun h => ⟨fun hd => hm.resolve_right (by simp [hd]), h⟩, fun h => h.2⟩
      · rename_i hm
        simp only [not_or, Option.not_isSome_iff_eq_none] at hm
        simp [hm.1, hm.2]

theorem bindVals_eq_some_iff {sig : Sig} {args : List Val} {kw : KwArgs} {key : Key} :
    bindVals sig args kw = some key ↔
      (args.length ≤ sig.length ∧ (∀ p ∈ sig.take args.length, p.name ∉ kwKeys kw) ∧
        (∀ p ∈ sig.drop args.length, p.dflt = none → p.name ∈ kwKeys kw)) ∧ key = specKey sig args kw := by
  refine ⟨fun h => ⟨bindVals_isSome_iff.mp (by rw [h]; rfl), bindVals_spec h⟩, fun ⟨hc, hk⟩ => ?_⟩
  obtain ⟨k', hb⟩ := Option.isSome_iff_exists.mp (bindVals_isSome_iff.mpr hc)
  rw [hb, hk, bindVals_spec hb]

theorem bindVals_perm {sig : Sig} : ∀ {args : List Val} {kw kw' : KwArgs}, kw.Perm kw' → (kwKeys kw).Nodup →
    bindVals sig args kw = bindVals sig args kw' := by
  induction sig with
  | nil => intro args kw kw' _ _; cases args <;> rfl
  | cons p ps ih =>
    intro args kw kw' hp hnd
    cases args with
    | cons a as => simp only [bindVals, kwFind_perm hp hnd, ih hp hnd]
    | nil => simp only [bindVals, kwFind_perm hp hnd, ih hp hnd]

theorem any_unknown_false_iff (sig : Sig) (kw : KwArgs) :
    kw.any (fun e => !(names sig).contains e.1) = false ↔ ∀ k ∈ kwKeys kw, k ∈ names sig := by
  rw [List.any_eq_false, kwKeys, List.forall_mem_map]
  exact forall₂_congr fun e _ => by rw [Bool.not_eq_true, Bool.not_eq_false', List.contains_iff_mem]

theorem bindArgs_eq_some_iff {sig : Sig} {args : List Val} {kw : KwArgs} {key : Key} :
    bindArgs sig args kw = some key ↔
      (kwKeys kw).Nodup ∧ (∀ k ∈ kwKeys kw, k ∈ names sig) ∧ bindVals sig args kw = some key := by
  rw [bindArgs, ← any_unknown_false_iff]
  by_cases hnd : (kwKeys kw).Nodup
  · rw [if_neg (not_not_intro hnd)]
    cases hu : kw.any (fun e => !(names sig).contains e.1)
    · exact ⟨fun h => ⟨hnd, rfl, h⟩, fun h => h.2.2⟩
    · exact ⟨fun h => (by cases h), fun h => absurd h.2.1 Bool.noConfusion⟩
  · rw [if_pos hnd]
    exact ⟨fun h => (by cases h), fun h => absurd h.1 hnd⟩

theorem bindArgs_bindVals {sig : Sig} {args : List Val} {kw : KwArgs} {key : Key}
    (h : bindArgs sig args kw = some key) : bindVals sig args kw = some key :=
  (bindArgs_eq_some_iff.mp h).2.2

theorem names_take_drop (sig : Sig) (n : Nat) : names sig = names (sig.take n) ++ names (sig.drop n) := by
  simp only [names, ← List.map_append, List.take_append_drop]

theorem keywords_iff {sig : Sig} (hwf : (names sig).Nodup) (kw : KwArgs) (n : Nat) :
    ((∀ k ∈ kwKeys kw, k ∈ names sig) ∧ ∀ p ∈ sig.take n, p.name ∉ kwKeys kw) ↔
      ∀ k ∈ kwKeys kw, k ∈ names (sig.drop n) := by
  rw [names_take_drop sig n] at hwf ⊢
  have hdisj := (List.nodup_append.mp hwf).2.2
  constructor
  · rintro ⟨h1, h2⟩ k hk
    rcases List.mem_append.mp (h1 k hk) with ht | hd
    · obtain ⟨p, hp, rfl⟩ := List.mem_map.mp ht
      exact absurd hk (h2 p hp)
    · exact hd
  · intro h
    exact ⟨fun k hk => List.mem_append_right _ (h k hk),
      fun p hp hk => hdisj p.name (List.mem_map.mpr ⟨p, hp, rfl⟩) p.name (h _ hk) rfl⟩

/-- **`bindArgs` is exactly Python's acceptance and the parameter-wise values.** -/
theorem bindArgs_iff_accepts (sig : Sig) (hwf : (names sig).Nodup) (args : List Val) (kw : KwArgs) (key : Key) :
    bindArgs sig args kw = some key ↔ Accepts sig args kw ∧ key = specKey sig args kw := by
  rw [bindArgs_eq_some_iff, bindVals_eq_some_iff, Accepts, ← keywords_iff hwf kw args.length]
  constructor
  · rintro ⟨h1, h2, ⟨h3, h4, h5⟩, h6⟩; exact ⟨⟨h1, h3, ⟨h2, h4⟩, h5⟩, h6⟩
  · rintro ⟨⟨h1, h3, ⟨h2, h4⟩, h5⟩, h6⟩; exact ⟨h1, h2, ⟨h3, h4, h5⟩, h6⟩

theorem bindArgs_perm (sig : Sig) (args : List Val) {kw kw' : KwArgs} (hp : kw.Perm kw') :
    bindArgs sig args kw = bindArgs sig args kw' := by
  unfold bindArgs
  have hk : (kwKeys kw).Perm (kwKeys kw') := List.Perm.map _ hp
  by_cases hnd : (kwKeys kw).Nodup
  · have hnd' : (kwKeys kw').Nodup := (List.Perm.nodup_iff hk).mp hnd
    simp only [hnd, hnd', not_true_eq_false, if_false]
    rw [List.Perm.any_eq hp, bindVals_perm hp hnd]
  · have hnd' : ¬ (kwKeys kw').Nodup := fun c => hnd ((List.Perm.nodup_iff hk).mpr c)
    simp [hnd, hnd']

end MxModel.ItemSpace
