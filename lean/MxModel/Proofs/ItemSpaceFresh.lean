import MxModel.Proofs.ItemSpaceGet
/-!
# Freshness over histories (C07)

Every operation of the world evolves the table (`Evolves.live`: whatever is live afterwards was live before
or is an implementation created since); an operation that touches a static space leaves no dynamic space built
from it (`step_touched_gone`).  The two together give the history invariant `Fresh`: every live dynamic space was
built after the last operation that touched its base.
-/
namespace MxModel.ItemSpace

theorem deleteAt_next (t : Table) (a : Addr) : (deleteAt t a).nextImpl = t.nextImpl := rfl

theorem step_touched_gone (w : World) (op : Op) :
    ∀ e ∈ (step w op).1.tbl.live, e.base ∉ touched w op := by
  intro e he hb
  cases op with
  | newSpace path sig sel =>
    simp only [touched] at hb
    simp only [step] at he
    split at hb
    · cases hb
    · rename_i hnone
      simp only [hnone] at he
      cases hp : findDef w.defs path.dropLast with
      | none => rw [hp] at hb; cases hb
      | some par =>
        rw [hp] at hb he
        exact applyEdit_no_copy w.tbl .newChild par.id e he (List.mem_singleton.mp hb)
  | setParam path sig sel =>
    simp only [touched] at hb
    simp only [step] at he
    cases hd : findDef w.defs path with
    | none => rw [hd] at hb; cases hb
    | some d =>
      rw [hd] at hb he
      exact applyEdit_no_copy w.tbl .setParamFormula d.id e he (List.mem_singleton.mp hb)
  | delSpace path =>
    simp only [touched] at hb
    simp only [step] at he
    cases hd : findDef w.defs path with
    | none => rw [hd] at hb; cases hb
    | some d =>
      rw [hd] at hb he
      rcases List.mem_append.mp hb with hb | hb
      · cases hp : findDef w.defs d.path.dropLast with
        | none => rw [hp] at hb; cases hb
        | some par =>
          rw [hp] at hb
          exact delSpace_no_copy_parent w.defs w.tbl d par hp e he (List.mem_singleton.mp hb)
      · obtain ⟨x, hx, hxe⟩ := List.mem_map.mp hb
        have hx' := List.mem_filter.mp hx
        exact delSpace_no_copy w.defs w.tbl d e he x hx'.1 hx'.2 hxe.symm
  | edit k path =>
    simp only [touched] at hb
    simp only [step] at he
    cases hd : findDef w.defs path with
    | none => rw [hd] at hb; cases hb
    | some d =>
      rw [hd] at hb he
      by_cases hk : k = .modelRef
      · subst hk; cases he
      · dsimp only at hb
        rw [if_neg hk] at hb
        exact applyEdit_no_copy w.tbl k d.id e he (List.mem_singleton.mp hb)
  | item | clearAt | delItem | clearItems | clearAll => exact List.not_mem_nil hb

theorem built_after_touch {w : World} {op : Op} {b : SId} (hb : b ∈ touched w op) {t' : Table}
    (hev : Evolves (step w op).1.tbl t') : ∀ e ∈ t'.live, e.base = b → w.tbl.nextImpl ≤ e.impl := by
  intro e he heb
  rcases hev.live e he with h | h
  · exact absurd (heb ▸ hb) (step_touched_gone w op e h)
  · exact Nat.le_trans (evolves_steps.step w op).next h

structure Fresh (h : Hist) : Prop where
  inv : Inv h.w.tbl
  fresh : ∀ e ∈ h.w.tbl.live, h.editedAt e.base < h.builtAt e.impl
  edited : ∀ s, h.editedAt s ≤ h.clock
  built : ∀ i, h.builtAt i ≤ h.clock

theorem fresh_empty : Fresh {} :=
  ⟨inv_empty, fun e he => (by cases he), fun _ => Nat.le_refl _, fun _ => Nat.le_refl _⟩

theorem fresh_step (h : Hist) (op : Op) (hf : Fresh h) : Fresh (h.step op) := by
  have hev := evolves_steps.step h.w op
  have hinv' : Inv (step h.w op).1.tbl := hev.inv hf.inv
  refine ⟨hinv', ?_, ?_, ?_⟩
  · intro e he
    have he' : e ∈ (step h.w op).1.tbl.live := he
    have hnt : e.base ∉ touched h.w op := step_touched_gone h.w op e he'
    show (if e.base ∈ touched h.w op then h.clock + 1 else h.editedAt e.base) <
      (if h.w.tbl.nextImpl ≤ e.impl ∧ e.impl < (step h.w op).1.tbl.nextImpl then h.clock + 1 else h.builtAt e.impl)
    rw [if_neg hnt]
    rcases hev.live e he' with hold | hnew
    · -- an old implementation keeps its stamp
      rw [if_neg fun hc => Nat.lt_irrefl _ (Nat.lt_of_lt_of_le (hf.inv.implLt e hold) hc.1)]
      exact hf.fresh e hold
    · rw [if_pos ⟨hnew, hinv'.implLt e he'⟩]
      exact Nat.lt_succ_of_le (hf.edited e.base)
  · intro s
    show (if s ∈ touched h.w op then h.clock + 1 else h.editedAt s) ≤ h.clock + 1
    split
    · exact Nat.le_refl _
    · exact Nat.le_succ_of_le (hf.edited s)
  · intro i
    show (if h.w.tbl.nextImpl ≤ i ∧ i < (step h.w op).1.tbl.nextImpl then h.clock + 1 else h.builtAt i) ≤ h.clock + 1
    split
    · exact Nat.le_refl _
    · exact Nat.le_succ_of_le (hf.built i)

theorem fresh_runH : ∀ (ops : List Op) (h : Hist), Fresh h → Fresh (runH h ops)
  | [], _, hf => hf
  | op :: rest, h, hf => fresh_runH rest (h.step op) (fresh_step h op hf)

/-- the instrumented run is the run: the stamps are read by nothing -/
theorem runH_world : ∀ (ops : List Op) (h : Hist), (runH h ops).w = run h.w ops
  | [], _ => rfl
  | op :: rest, h => runH_world rest (h.step op)

theorem runH_clock : ∀ (ops : List Op) (h : Hist), (runH h ops).clock = h.clock + ops.length
  | [], _ => rfl
  | op :: rest, h => by
    show (runH (h.step op) rest).clock = _
    rw [runH_clock rest, List.length_cons]
    show h.clock + 1 + rest.length = _
    omega

theorem run_edits_sub : ∀ (ys : List (EditKind × Path)) (w1 : World),
    ∀ e ∈ (run w1 (ys.map (fun r => Op.edit r.1 r.2))).tbl.live, e ∈ w1.tbl.live
  | [], _, _, he => he
  | y :: ys, w1, e, he => by
    have h2 : e ∈ (step w1 (.edit y.1 y.2)).1.tbl.live := run_edits_sub ys _ e he
    simp only [step] at h2
    split at h2
    · exact h2
    · exact deletes_sub.applyEdit _ _ _ e h2

/-- `es`: the expansion of a `UOp.editInh`, the edit and those it brings to the sub spaces it reaches -/
theorem run_edits_no_copy : ∀ (es : List (EditKind × Path)) (w : World),
    ∀ e ∈ (run w (es.map (fun r => Op.edit r.1 r.2))).tbl.live,
      ∀ r ∈ es, ∀ d, findDef w.defs r.2 = some d → e.base ≠ d.id
  | [], _, _, _, r, hr, _, _ => by cases hr
  | x :: xs, w, e, he, r, hr, d, hd => by
    have he' : e ∈ (run (step w (.edit x.1 x.2)).1 (xs.map (fun r => Op.edit r.1 r.2))).tbl.live := he
    rcases List.mem_cons.mp hr with rfl | hr
    · intro hb
      apply step_touched_gone w _ e (run_edits_sub xs _ e he')
      simp only [touched, hd]
      split <;> simp [hb]
    · have hdefs : (step w (.edit x.1 x.2)).1.defs = w.defs := by
        simp only [step]; split <;> rfl
      exact run_edits_no_copy xs (step w (.edit x.1 x.2)).1 e he' r hr d (by rw [hdefs]; exact hd)

end MxModel.ItemSpace
