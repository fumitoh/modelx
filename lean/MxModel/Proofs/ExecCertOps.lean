import MxModel.Proofs.ExecCertEdit
/-!
# What the clearing modelx performs for each edit removes (T3, T4)

K1 is discharged from these facts in `ExecCertRedef` (edits of the definitions) and `ExecCertTop`
(value edits).

* reference edits (`St.delRef`, `St.newRef`, `St.changeRef`, `St.setRef`): by-name readers are
  elements of observer cells (dropped unless input) or were computed through an uncached
  observer cells (descendants of its object node); attribute-path readers are successors of
  the reference in the reference graph; everything computed from those goes with them;
* formula / flag edits (`St.setFormula` = `clear_obj`);
* value edits (`St.clearValueAt`, `St.setValue`).
-/
namespace MxModel.Exec

/-- the seeds of `on_namespace_change` of cells `c'` -/
def NsSeed (env : Env) (s : St) (c' : CellId) (a : GNode) : Prop :=
  (env.cached c' = true ∧ ∃ n : Node, a = .elem n ∧ n.1 = c' ∧ (lookup s.data n).isSome ∧ n ∉ s.inputs) ∨
  (env.cached c' = false ∧ a ∈ s.gn ∧ a.cell = c')

theorem NsSeed.of_clr {env : Env} {s s' : St} {R : List GNode} {D : RefId × Node → Prop} (hc : Clr s R D s')
    {a : GNode} (ha : a ∉ R) (c : CellId) : NsSeed env s' c a ↔ NsSeed env s c a := by
  refine or_congr (and_congr_right fun _ => exists_congr fun n => and_congr_right fun e => ?_)
    (and_congr_right fun _ => and_congr_left fun _ => ?_)
  · subst e
    rw [((hc.kept ha).data n rfl).1, ((hc.kept ha).data n rfl).2]
  · rw [hc.mem_gn]; exact and_iff_left ha

theorem clears_onNamespaceChange (env : Env) (s : St) (D : RefId × Node → Prop) (he : EdgeOK s) (c : CellId) :
    Clears s (NsSeed env s c) D (s.onNamespaceChange env c) := by
  unfold St.onNamespaceChange
  split
  · rename_i hc
    refine (clears_clearAllValues s D he c false).congr fun a _ => ?_
    simp only [NsSeed, hc, true_and, Bool.true_eq_false, false_and, or_false, Bool.false_eq_true, false_or]
  · rename_i hc
    refine (clears_clearObj s D he c).congr fun a ha => ?_
    simp only [NsSeed, hc, Bool.false_eq_true, false_and, false_or, true_and, ha]

theorem clears_notifyAll (env : Env) (s : St) (D : RefId × Node → Prop) (he : EdgeOK s) (L : List CellId) :
    Clears s (fun a => ∃ c ∈ L, NsSeed env s c a) D (s.notifyAll env L) :=
  clears_fold D (fun s c => s.onNamespaceChange env c) (NsSeed env)
    (fun s c he => clears_onNamespaceChange env s D he c) (fun _ _ _ c _ hc ha => NsSeed.of_clr hc ha c) L s he

theorem clears_notifyObservers (env : Env) (s : St) (D : RefId × Node → Prop) (he : EdgeOK s) (r : RefId) :
    Clears s (fun a => ∃ c ∈ env.observers r, NsSeed env s c a) D (s.notifyObservers env r) :=
  clears_notifyAll env s D he (env.observers r)

/-- what the clearing of an edit of reference `r` is known to have removed -/
structure RefFacts (env : Env) (s : St) (r : RefId) (R : List GNode) : Prop where
  byName : ∀ x, (∃ c ∈ env.observers r, NsSeed env s c x) → x ∈ s.gn → x ∈ R
  byAttr : (env.refs r).isSome = true → ∀ n, (r, n) ∈ s.rg → GNode.elem n ∈ s.gn → GNode.elem n ∈ R

theorem dropOf_mono {s s1 : St} {r : RefId} (h : ∀ e ∈ s1.rg, e ∈ s.rg) :
    ∀ e, dropOf s1 r e → dropOf s r e := by
  intro e he
  rcases he with he | he
  · exact Or.inl he
  · exact Or.inr (h _ he)

theorem clr_delRef (env : Env) (s : St) (he : EdgeOK s) (r : RefId) :
    ∃ R, Clr s R (dropOf s r) (s.delRef env r) ∧ RefFacts env s r R := by
  unfold St.delRef
  obtain ⟨R1, h1, f1⟩ := (clears_notifyObservers env s (dropOf s r) he r).clr
  obtain ⟨R2, h2, f2⟩ := (clears_clearAttrReferrers (s.notifyObservers env r) (h1.edgeOK he) r).clr
  refine ⟨R1 ++ R2, h1.trans (h2.weaken (dropOf_mono h1.rgSub)), ?_, ?_⟩
  · intro x hx hgn
    exact List.mem_append_left _ (f1 x hx hgn)
  · intro _ n hrn hgn
    by_cases hr : GNode.elem n ∈ R1
    · exact List.mem_append_left _ hr
    · refine List.mem_append_right _ (f2 _ ⟨n, ?_, rfl⟩ ((h1.mem_gn _).mpr ⟨hgn, hr⟩))
      -- the notification drops reference-graph edges into removed elements only
      obtain ⟨R1', h1', _⟩ := (clears_notifyObservers env s (fun _ => False) he r).clr
      by_cases hr' : GNode.elem n ∈ R1'
      · -- removed from the graph, hence (same state) not a node any more: contradiction with `hr`
        have : GNode.elem n ∉ (s.notifyObservers env r).gn := fun h => ((h1'.mem_gn _).mp h).2 hr'
        exact absurd ((h1.mem_gn _).mpr ⟨hgn, hr⟩) this
      · exact h1'.rgKeep (r, n) hrn hr' (fun h => h)

theorem RefFacts.mono {env : Env} {s : St} {r : RefId} {R R' : List GNode} (h : RefFacts env s r R)
    (hsub : ∀ x ∈ R, x ∈ R') : RefFacts env s r R' :=
  ⟨fun x hx hgn => hsub x (h.byName x hx hgn), fun hs n hrn hgn => hsub _ (h.byAttr hs n hrn hgn)⟩

theorem clr_changeRef (env : Env) (s : St) (he : EdgeOK s) (r : RefId) :
    ∃ R, Clr s R (dropOf s r) (s.changeRef env r) ∧ RefFacts env s r R := by
  unfold St.changeRef
  obtain ⟨R1, h1, f1⟩ := clr_delRef env s he r
  obtain ⟨R2, h2, _⟩ := (clears_notifyObservers env (s.delRef env r) (dropOf s r) (h1.edgeOK he) r).clr
  have h12 := h1.trans h2
  obtain ⟨R3, h3, _⟩ := (clears_clearAttrReferrers ((s.delRef env r).newRef env r) (h12.edgeOK he) r).clr
  refine ⟨(R1 ++ R2) ++ R3, h12.trans (h3.weaken (dropOf_mono h12.rgSub)), f1.mono ?_⟩
  intro x hx
  simp [hx]

theorem clr_setRef (env : Env) (s : St) (he : EdgeOK s) (r : RefId) :
    ∃ R, Clr s R (fun e => (env.refs r).isSome = true ∧ dropOf s r e) (s.setRef env r) ∧
      RefFacts env s r R := by
  unfold St.setRef
  split
  · rename_i hs
    obtain ⟨R, h1, f1⟩ := clr_changeRef env s he r
    exact ⟨R, h1.weaken fun _ h => ⟨hs, h⟩, f1⟩
  · rename_i hs
    obtain ⟨R, h1, f1⟩ := (clears_notifyObservers env s (fun _ => False) he r).clr
    exact ⟨R, h1.weaken fun _ h => h.elim, f1, fun h => absurd h hs⟩

structure RefEdit (env env' : Env) (r : RefId) : Prop where
  formula : env'.formula = env.formula
  cached : env'.cached = env.cached
  allowNone : env'.allowNone = env.allowNone
  refs : ∀ r', r' ≠ r → env'.refs r' = env.refs r'
  alive : env'.alive = env.alive

theorem refEdit_gi {env env' : Env} {lt : Node → Node → Prop} {s s' : St} {r : RefId}
    {R : List GNode} {D : RefId × Node → Prop} (hgi : GI env lt s) (hst : s.stack = [])
    (hed : RefEdit env env' r) (hc : Clr s R D s') : GI env' lt s' :=
  hgi.of_clr hst hc (fun m _ => by rw [hed.cached])

/-- a change of the definition (formula, cache flag, `allow_none`) of cells `c` only – the
environments `setFormula_ci` relates when `clear_obj(c)` IS performed (modelx performs it for
formula and flag edits, not for an `allow_none` edit) -/
structure CellEdit (env env' : Env) (c : CellId) : Prop where
  formula : ∀ n : Node, n.1 ≠ c → env'.formula n = env.formula n
  cached : ∀ c', c' ≠ c → env'.cached c' = env.cached c'
  allowNone : ∀ c', c' ≠ c → env'.allowNone c' = env.allowNone c'
  refs : env'.refs = env.refs
  alive : env'.alive = env.alive

theorem stable_refl (env : Env) (ev : FEv) : Stable env env ev := by
  cases ev <;> simp [Stable]

theorem clr_cinv_same {env : Env} {s s' : St} {R : List GNode}
    (hc : Clr s R (fun _ => False) s') (hinv : CInv env s) : CInv env s' :=
  cinv_clr hc hinv (fun _ _ _ _ _ _ _ => ⟨rfl, rfl, fun ev _ => stable_refl env ev, fun _ _ _ _ h => h⟩)

structure Assigned (s1 : St) (n : Node) (v : Val) (s' : St) : Prop where
  data : s'.data = insert s1.data n v
  inputs : ∀ m, m ∈ s'.inputs ↔ m ∈ s1.inputs ∨ m = n
  gn : ∀ x, x ∈ s'.gn ↔ x ∈ s1.gn ∨ x = .elem n
  ge : s'.ge = s1.ge
  rg : s'.rg = s1.rg
  stack : s'.stack = s1.stack
  idx : s'.idx = s1.idx
  refstack : s'.refstack = s1.refstack
  log : s'.log = s1.log

/-- the test of `_store_value` / `set_value_from_key` for `None` where it is not allowed -/
theorem noneRefused_iff (env : Env) (n : Node) (v : Val) :
    (decide (v = Val.none) && !env.allowNone n.1) = true ↔ (v = .none ∧ env.allowNone n.1 = false) := by
  simp only [Bool.and_eq_true, decide_eq_true_eq, Bool.not_eq_true']

theorem setValue_cases (env : Env) (s : St) (n : Node) (v : Val) :
    ((v = .none ∧ env.allowNone n.1 = false) ∧ s.setValue env n v = (s, some .noneNotAllowed)) ∨
    (¬ (v = .none ∧ env.allowNone n.1 = false) ∧ (s.setValue env n v).2 = none ∧
      Assigned (s.clearValueAt n true) n v (s.setValue env n v).1) := by
  unfold St.setValue
  by_cases hv : v = .none ∧ env.allowNone n.1 = false
  · exact Or.inl ⟨hv, by rw [if_pos ((noneRefused_iff env n v).mpr hv)]⟩
  · refine Or.inr ⟨hv, ?_⟩
    rw [if_neg (fun hb => hv ((noneRefused_iff env n v).mp hb))]
    refine ⟨rfl, ?_⟩
    generalize s.clearValueAt n true = s1
    have hgn : ∀ x, x ∈ (({ s1 with data := insert s1.data n v } : St).addNode (.elem n)).gn ↔
        x ∈ s1.gn ∨ x = .elem n := by
      intro x; unfold St.addNode; split
      · rename_i h
        have hn : GNode.elem n ∈ s1.gn := by simpa using h
        exact ⟨Or.inl, fun h' => h'.elim id (fun h'' => h'' ▸ hn)⟩
      · simp only [List.mem_append, List.mem_singleton]
    have hrest : ∀ s2 : St, (s2.addNode (.elem n)).data = s2.data ∧ (s2.addNode (.elem n)).inputs = s2.inputs ∧
        (s2.addNode (.elem n)).ge = s2.ge ∧ (s2.addNode (.elem n)).rg = s2.rg ∧
        (s2.addNode (.elem n)).stack = s2.stack ∧ (s2.addNode (.elem n)).idx = s2.idx ∧
        (s2.addNode (.elem n)).refstack = s2.refstack ∧ (s2.addNode (.elem n)).log = s2.log := by
      intro s2; unfold St.addNode; split <;> exact ⟨rfl, rfl, rfl, rfl, rfl, rfl, rfl, rfl⟩
    obtain ⟨h1, h2, h3, h4, h5, h6, h7, h8⟩ := hrest { s1 with data := insert s1.data n v }
    refine ⟨h1, ?_, hgn, h3, h4, h5, h6, h7, h8⟩
    intro m
    simp only [h2]
    split
    · rename_i h
      have hn : n ∈ s1.inputs := by simpa using h
      exact ⟨Or.inl, fun h' => h'.elim id (fun h'' => h'' ▸ hn)⟩
    · simp only [List.mem_append, List.mem_singleton]

theorem setValue_refused {env : Env} (s : St) (n : Node) (v : Val) (hv : v = .none ∧ env.allowNone n.1 = false) :
    s.setValue env n v = (s, some .noneNotAllowed) := by
  rcases setValue_cases env s n v with ⟨_, h⟩ | ⟨h, _⟩
  · exact h
  · exact absurd hv h

theorem setValue_accepted {env : Env} (s : St) (n : Node) (v : Val) (hv : ¬ (v = .none ∧ env.allowNone n.1 = false)) :
    (s.setValue env n v).2 = none := by
  rcases setValue_cases env s n v with ⟨h, _⟩ | ⟨_, h, _⟩
  · exact absurd h hv
  · exact h

theorem setValue_assigned {env : Env} (s : St) (n : Node) (v : Val) (hv : ¬ (v = .none ∧ env.allowNone n.1 = false)) :
    Assigned (s.clearValueAt n true) n v (s.setValue env n v).1 := by
  rcases setValue_cases env s n v with ⟨h, _⟩ | ⟨_, _, h⟩
  · exact absurd h hv
  · exact h

section
variable {env : Env} {lt : Node → Node → Prop}

theorem GI.setValue (g : GI env lt s) (hst : s.stack = []) (n : Node) (v : Val)
    (hc : env.cached n.1 = true) :
    GI env lt (s.setValue env n v).1 ∧ (s.setValue env n v).1.stack = [] := by
  obtain ⟨R, hclr, _⟩ := (clears_clearValueAt s (fun _ => False) g.edgeOK n true).clr
  rcases setValue_cases env s n v with ⟨_, heq⟩ | ⟨_, _, ha⟩
  · rw [heq]; exact ⟨g, hst⟩
  · have hst1 := ha.stack.trans (hclr.stack.trans hst)
    exact ⟨(g.of_clr hst hclr (fun _ _ => rfl)).addInput (hclr.stack.trans hst) n v hc
      (clearValueAt_unheld g n) ha.data hst1 ha.gn ha.ge ha.inputs, hst1⟩

end

/-- a new input enters the cache as the youngest entry; no certificate mentions it -/
theorem Assigned.cinv {env : Env} {s1 s' : St} {n : Node} {v : Val} (ha : Assigned s1 n v s')
    (hinv : CInv env s1) (hun : lookup s1.data n = none) : CInv env s' := by
  intro m w hl hin
  have hmn : m ≠ n := fun h => hin ((ha.inputs m).mpr (Or.inr h))
  rw [ha.data, lookup_insert, if_neg (Ne.symm hmn)] at hl
  obtain ⟨tr, hcert⟩ := hinv m w hl (fun h => hin ((ha.inputs m).mpr (Or.inl h)))
  refine ⟨tr, hcert.replay, hcert.noneOK, ?_, fun a h => hcert.just a (ha.ge ▸ h)⟩
  intro ev hm
  have hok := hcert.events ev hm
  cases ev with
  | read c a r x => exact ⟨hok.1, fun h hx => by rw [ha.rg]; exact hok.2 h hx⟩
  | call k u =>
    obtain ⟨hlk, hrk, hedge⟩ := hok
    have hkn : k ≠ n := by intro h; subst h; rw [hun] at hlk; cases hlk
    refine ⟨by rw [ha.data, lookup_insert, if_neg (Ne.symm hkn)]; exact hlk, ?_, by rw [ha.ge]; exact hedge⟩
    rw [ha.data, rank_insert_other _ _ _ _ hun hkn, rank_insert_other _ _ _ _ hun hmn]
    exact hrk
  | ucall k => show _ ∈ s'.ge; rw [ha.ge]; exact hok

theorem inpOf_assigned {s1 s' : St} {n : Node} {v : Val} (ha : Assigned s1 n v s') :
    inpOf s' = fun m => if m = n then some v else inpOf s1 m := by
  funext m
  show (if m ∈ s'.inputs then lookup s'.data m else none) = if m = n then some v else inpOf s1 m
  rw [ha.data, lookup_insert]
  by_cases hm : m = n
  · rw [if_pos hm, if_pos ((ha.inputs m).mpr (Or.inr hm)), if_pos hm.symm]
  · have hnm : ¬ n = m := fun h' => hm h'.symm
    rw [if_neg hm, if_neg hnm]
    unfold inpOf
    by_cases hin : m ∈ s1.inputs
    · rw [if_pos hin, if_pos ((ha.inputs m).mpr (Or.inl hin))]
    · rw [if_neg hin, if_neg (fun h' => ((ha.inputs m).mp h').elim hin hm)]

end MxModel.Exec
