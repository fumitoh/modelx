import MxModel.Proofs.EditMachineOps2
import MxModel.Proofs.StructMechRename
/-!
# Coverage for `del space` and `rename_cells`

The deleted spaces (`p` and everything below it) lose all their members: their cells are cleared by
`BaseSpaceImpl.on_delete` (`Clear.del`), their references by `clear_attr_referrers`; the namespace of
the parent of `p` loses a child name and notifies; the sub spaces of the deleted spaces that stay
are re-derived (`updateClears`); every other space keeps its linearisation (no deleted space is on
it) and its members.
-/
namespace MxModel.Edit
open MxModel.Exec MxModel.C02 MxModel.SM

/-- a space with no deleted space on its linearisation keeps it -/
theorem tail_of_deleted {st st' : SM.St} (hi : Inv st) {p : Path} (D : Deleted st st' p) (q : Path)
    (hcl : ∀ x ∈ q :: st.tail q, x ∈ st.ids ∧ isPrefix p x = false) : st'.tail q = st.tail q := by
  have hmro : st'.mro q = some (q :: st.tail q) := by
    apply mro_transfer_st st st' q _ (hi.wf.mro_all q)
    · intro x hxm
      rw [D.basesOf x, (hcl x hxm).2]
      simp only [Bool.false_eq_true, if_false]
      rw [List.filter_eq_self]
      intro b hb
      have hbl : b ∈ q :: st.tail q := C3.mro_bases_subset _ _ q _ (hi.wf.mro_all q) x hxm b hb
      have := hcl b hbl
      simp only [St.removedBy, List.contains_eq_mem, List.mem_filter, Bool.not_eq_true', decide_eq_false_iff_not]
      intro hh
      rw [this.2] at hh; cases hh.2
    · have hnd := hi.wf.tail_nodup q
      have hsubl : (q :: st.tail q) ⊆ st'.ids := by
        intro x hxm
        exact (D.ids x).mpr (hcl x hxm)
      have := List.Nodup.length_le_of_subset hnd hsubl
      simp only [St.ids, List.length_map] at this
      omega
  unfold St.tail
  rw [hmro, hi.wf.mro_all q]

variable (kw : List String) (t : Tabs)

theorem covers_delSpace {st st' : SM.St} (hi : Inv st) (hi' : Inv st') (p : Path)
    (hop : st.delSpaceOp p = some st') :
    Covers t st st' (clearing kw t st st' (.delSpace p)) := by
  have D := delSpaceOp_spec st st' (keysOK_of_inv hi) p hop
  have hremoved : ∀ q, q ∈ st.ids.filter (isPrefix p) ↔ q ∈ st.ids ∧ isPrefix p q = true := by
    intro q; simp
  have hupd : ∀ q, q ∈ delSpaceUpdated st p ↔
      (∃ r, (r ∈ st.ids ∧ isPrefix p r = true) ∧ q ∈ st.subs r) ∧ ¬ (q ∈ st.ids ∧ isPrefix p q = true) := by
    intro q
    simp only [delSpaceUpdated, List.mem_filter, List.mem_eraseDups, List.mem_flatMap, Bool.not_eq_true',
      List.contains_eq_mem, decide_eq_false_iff_not]
  have hX : ∀ q, q ∈ st.ids ∧ isPrefix p q = true →
      (∀ x, (st.mem .cells q x).isSome = true → clearedBy (clearing kw t st st' (.delSpace p)) (t.cid q x) = true) ∧
      (∀ x, (st.mem .refs q x).isSome = true → Clear.attr (t.rid q x) ∈ clearing kw t st st' (.delSpace p)) := by
    intro q hq
    have hin : ∀ k, k ∈ (cellsOf t st q).map Clear.del ++ (refsOf t st q).map Clear.attr →
        k ∈ clearing kw t st st' (.delSpace p) := fun k hk =>
      List.mem_append_left _ (List.mem_flatMap.mpr ⟨q, (hremoved q).mpr hq, List.mem_cons_of_mem _ hk⟩)
    exact ⟨fun x hx => clearedBy_of_del (hin _ (List.mem_append_left _ (List.mem_map.mpr ⟨_, mem_cellsOf t st q x hx, rfl⟩))),
      fun x hx => hin _ (List.mem_append_right _ (List.mem_map.mpr ⟨_, mem_refsOf t hx, rfl⟩))⟩
  have hXn : ∀ q, q ∈ st.ids ∧ isPrefix p q = true → ∀ c ∈ cellsOf t st q,
      touchedBy (clearing kw t st st' (.delSpace p)) c = true := by
    intro q hq c hc
    obtain ⟨y, hy, rfl⟩ := (mem_cellsOf_iff t).mp hc
    exact touchedBy_of_cleared ((hX q hq).1 y hy)
  refine covers_update t hi' (delSpaceUpdated st p) _ (fun _ q _ => q ∈ st.ids ∧ isPrefix p q = true)
    (fun k hk => List.mem_append_right _ hk) (fun q x h => (hX q h).1 x) (fun q x h => (hX q h).2 x)
    (fun _ q _ h _ => hXn q h) ?_ ?_ ?_ D.globals
  · intro a q n hq hqd hx
    have hqp : isPrefix p q = false := Bool.eq_false_iff.mpr (fun h => hx ⟨hq, h⟩)
    -- no deleted space on its linearisation: `q` would be re-derived
    have hcl : ∀ x ∈ q :: st.tail q, x ∈ st.ids ∧ isPrefix p x = false := by
      intro x hxm
      rcases List.mem_cons.mp hxm with rfl | hxm
      · exact ⟨hq, hqp⟩
      · have hxi := hi.wf.tail_mem_ids q x hxm
        refine ⟨hxi, Bool.eq_false_iff.mpr (fun h => hqd ((hupd q).mpr
          ⟨⟨x, ⟨hxi, h⟩, (mem_subs x q).mpr ⟨hq, ?_, hxm⟩⟩, fun hh => ?_⟩))⟩
        · intro e; rw [e, h] at hqp; cases hqp
        · rw [hh.2] at hqp; cases hqp
    refine mem_eq_of_tail hi hi' q (tail_of_deleted hi D q hcl) a n ?_
    intro b hb
    rw [D.defs a b n, (hcl b hb).2]
    simp
  · intro a q n hq _ _
    obtain ⟨⟨r, _, hqr⟩, hnr⟩ := (hupd q).mp hq
    have hqp : isPrefix p q = false := Bool.eq_false_iff.mpr (fun h => hnr ⟨((mem_subs r q).mp hqr).1, h⟩)
    rw [D.defs a q n, hqp]
    simp
  · -- a child name vanishes with a removed child space, whose parent's namespace notifies
    intro q hch c hc
    obtain ⟨x, hxx⟩ := Classical.not_forall.mp hch
    rw [mem_childNames, mem_childNames, D.ids] at hxx
    have hA : (q ++ [x]) ∈ st.ids := Classical.byContradiction (fun hA => hxx ⟨fun h => h.1, fun h => absurd h hA⟩)
    have hB : isPrefix p (q ++ [x]) = true := by
      cases hh : isPrefix p (q ++ [x]) with
      | true => rfl
      | false => exact absurd ⟨fun h => h.1, fun h => ⟨h, hh⟩⟩ hxx
    refine touchedBy_of_ns (L := cellsOf t st q) (List.mem_append_left _
      (List.mem_flatMap.mpr ⟨q ++ [x], (hremoved _).mpr ⟨hA, hB⟩, ?_⟩)) hc
    rw [List.dropLast_concat]
    exact List.mem_cons_self ..

/-! ## `rename_cells`

In every target (the space of the cells, and the sub spaces whose `old` is their own or derived from
it) the cells `old` is cleared as an object and the container notifies (`on_rename` / `on_del_cells`);
then the sub spaces are re-derived.  From `renameCells_full`: only entries named `old` or `new`, in the
space or its sub spaces, can differ. -/

theorem covers_renameCells {st st' : SM.St} (hi : Inv st) (hi' : Inv st') (p : Path) (old new : String)
    (hop : st.renameCells kw p old new = some st') :
    Covers t st st' (clearing kw t st st' (.renameCells p old new)) := by
  obtain ⟨hs, hdef⟩ := renameCells_full kw st st' hi p old new hop
  have hdo := (renameCells_spec kw st st' (keysOK_of_inv hi) p old new hop).2
  obtain ⟨hpold, hca, _⟩ := renameCells_accepted kw st st' p old new hop
  have hpnew : st.mem .cells p new = none :=
    (kindOf_none st p new (canAdd_space (hi.wf.tree p (mem_ids_of_isSome st .cells p old hpold)).1 hca).1).1
  have hT : ∀ q, q ∈ st.renameTargets p old → ∀ k ∈ [Clear.obj (t.cid q old), Clear.ns (cellsOf t st q)],
      k ∈ clearing kw t st st' (.renameCells p old new) :=
    fun q hq k hk => List.mem_append_left _ (List.mem_flatMap.mpr ⟨q, hq, hk⟩)
  have hTsub : ∀ q, q ∈ st.renameTargets p old → q ∈ p :: st.subs p := fun q hq => (List.mem_filter.mp hq).1
  have hpT : p ∈ st.renameTargets p old := by
    obtain ⟨m, hm⟩ := Option.isSome_iff_exists.mp hpold
    exact List.mem_filter.mpr ⟨List.mem_cons_self .., by simp [hm]⟩
  -- handled directly: in a target, the entry `old` and the names the target lacks (`new` appears)
  refine covers_update t hi' (st.subs p) _
    (fun a q x => a = .cells ∧ q ∈ st.renameTargets p old ∧ (x = old ∨ st.mem .cells q x = none))
    (fun k hk => List.mem_append_right _ hk) ?_ (fun q x h => nomatch h.1) ?_ ?_ ?_
    (fun q hch => absurd (fun x => by rw [hs.childNames q]) hch) hs.globals
  · rintro q x ⟨_, hq, rfl | hn⟩ hm
    · exact clearedBy_of_obj (hT q hq _ (List.mem_cons_self ..))
    · rw [hn] at hm; cases hm
  · rintro a q x ⟨_, hq, _⟩ _ c hc
    exact touchedBy_of_ns (hT q hq _ (List.mem_cons_of_mem _ (List.mem_cons_self ..))) hc
  · -- a space that is not re-derived: `p` keeps every other entry it has, the spaces outside keep everything
    intro a q n _ hq hE
    by_cases hqp : q = p
    · subst hqp
      refine mem_eq_of_tail hi hi' q (hs.tail q) a n (fun b _ => hdo a b n ?_)
      cases a with
      | refs => exact Or.inl rfl
      | cells =>
        have hn : n ≠ old ∧ st.mem .cells q n ≠ none := not_or.mp (fun h => hE ⟨rfl, hpT, h⟩)
        exact Or.inr ⟨hn.1, fun e => hn.2 (e ▸ hpnew)⟩
    · refine mem_eq_of_tail hi hi' q (hs.tail q) a n (fun b hb => ?_)
      rw [hdef a b n, if_neg (fun h => lin_avoids hi (fun h' => (List.mem_cons.mp h').elim hqp hq) hb (hTsub b h.2))]
  · intro a q n _ hE hm
    rw [hdef a q n]
    split
    · rename_i h
      have hn : n ≠ old ∧ st.mem .cells q n ≠ none := not_or.mp (fun h' => hE ⟨h.1, h.2, h'⟩)
      unfold renamedDef
      rw [if_neg hn.1]
      split
      · rename_i e; subst e; rw [if_pos (h.1 ▸ hm)]; exact h.1 ▸ rfl
      · exact h.1 ▸ rfl
    · rfl

end MxModel.Edit
