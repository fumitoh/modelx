import MxModel.Kernels.SerialWF
import MxModel.Proofs.PathCodec
/-! What the proofs about the parser (`SerialParse` ..) and about the executor (`SerialExec`) share: the regenerated
tables (`Generated/Tables.lean`) pinned to the values the proofs are written for - each `decide +kernel` below is
decided again against the tables as they are now, and everything later rewrites with these equations only -, names,
what the writer's values decode to, relative names. -/
namespace MxModel.Serial
open MxModel.PathCodec MxModel.Generated

theorem parserOrder_eq : parserOrder =
    [.docstring, .importFrom, .rename, .lambdaAssign, .attrAssign, .refAssign, .spaceFuncDef, .cellsFuncDef] := by
  decide +kernel

theorem decoderOrder_eq : decoderOrder = [.interface, .iospec, .module, .pickle, .literal] := by decide +kernel

theorem phaseChecks_eq : phaseChecks = true := by decide +kernel

theorem readerPhases_length : readerPhases.length = 5 := by decide +kernel

theorem phase_setDoc (d) : (Op.setDoc d).phase = some 0 := by
  show phaseIdx "doc" = some 0; decide +kernel
theorem phase_setFormula (f) : (Op.setFormula f).phase = some 0 := by
  show phaseIdx "set_formula" = some 0; decide +kernel
theorem phase_setAllowNone (v) : (Op.setAllowNone v).phase = some 0 := by
  show phaseIdx "set_property" = some 0; decide +kernel
theorem phase_newCells (n f) : (Op.newCells n f).phase = some 0 := by
  show phaseIdx "new_cells" = some 0; decide +kernel
theorem phase_cellsDoc (c d) : (Op.cellsDoc c d).phase = some 0 := by
  show phaseIdx "set_doc" = some 0; decide +kernel
theorem phase_cellsAllowNone (c v) : (Op.cellsAllowNone c v).phase = some 0 := by
  show phaseIdx "set_property" = some 0; decide +kernel
theorem phase_cellsCached (c b) : (Op.cellsCached c b).phase = some 0 := by
  show phaseIdx "set_property" = some 0; decide +kernel
theorem phase_addBases (b) : (Op.addBases b).phase = some 1 := by
  show phaseIdx "add_bases" = some 1; decide +kernel
theorem phase_loadPickle (c e) : (Op.loadPickle c e).phase = some 2 := by
  show phaseIdx "load_pickledata" = some 2; decide +kernel
theorem phase_setAttr (x v) : (Op.setAttr x v).phase = some 3 := by
  show phaseIdx "__setattr__" = some 3; decide +kernel
theorem phase_setRef (x v m) : (Op.setRef x v m).phase = some 3 := by
  show phaseIdx "set_ref" = some 3; decide +kernel
theorem phase_dynInput (r k v) : (Op.dynInput r k v).phase = some 4 := by
  show phaseIdx "_set_dynamic_inputs" = some 4; decide +kernel

theorem validName_head {t : Name} (h : validName t = true) : t.head? ≠ some '_' := by
  unfold validName at h
  simp only [Bool.and_eq_true, bne_iff_ne, ne_eq] at h
  exact h.1.2

theorem validName_ne_nil {t : Name} (h : validName t = true) : t ≠ [] := by
  unfold validName at h
  simp only [Bool.and_eq_true, bne_iff_ne, ne_eq] at h
  exact h.1.1

theorem validName_nodot {t : Name} (h : validName t = true) : '.' ∉ t := by
  unfold validName at h
  simp only [Bool.and_eq_true, bne_iff_ne, ne_eq, Bool.not_eq_eq_eq_not, Bool.not_true] at h
  intro hc
  have := h.2
  simp [hc] at this

theorem ne_of_head {t k : Name} (h : t.head? ≠ some '_') (hk : k.head? = some '_') : t ≠ k := by
  intro e; subst e; exact h hk

/-- the names the file format reserves start with an underscore, so no cells, reference or space has one -/
theorem ne_reserved {t : Name} (h : t.head? ≠ some '_') :
    t ≠ kName ∧ t ≠ kFormula ∧ t ≠ kAllowNone ∧ t ≠ kIsCached ∧ t ≠ fDynInputs := by
  have hk : kName.head? = some '_' ∧ kFormula.head? = some '_' ∧ kAllowNone.head? = some '_' ∧
      kIsCached.head? = some '_' ∧ fDynInputs.head? = some '_' := by decide +kernel
  exact ⟨ne_of_head h hk.1, ne_of_head h hk.2.1, ne_of_head h hk.2.2.1, ne_of_head h hk.2.2.2.1,
    ne_of_head h hk.2.2.2.2⟩

/-- what the reader decodes from the right-hand side the writer emits for a value -/
def decodedOf (model : Name) (owner : Path) : RefVal → Decoded
  | .literal t => .literal t
  | .pickled id => .pickle id
  | .interface tgt => .interface (absToRelTuple (idt model tgt) (idt model owner))
  | .module n => .module n
  | .iospec v s => .iospec v s

/-- the instruction the reader files for one reference assignment -/
def refOpOf (isModel : Bool) (model : Name) (owner : Path) (r : Name × RefVal × Name) : Op :=
  if !isModel && isInterface r.2.1 then .setRef r.1 (decodedOf model owner r.2.1) r.2.2
  else .setAttr r.1 (decodedOf model owner r.2.1)

def dynOpOf (model : Name) (path : Path) (d : DynInput) : Op :=
  .dynInput (absToRelTuple (idt model path ++ d.addr) (idt model path)) d.key d.val

theorem splitDot_dotted (model : Name) (p : Path) (hm : validName model = true)
    (hp : p.all validName = true) : splitDot (dotted model p) = model :: p := by
  unfold dotted
  apply splitDot_joinDot _ (by simp)
  intro w hw
  rcases List.mem_cons.mp hw with rfl | hw
  · exact validName_nodot hm
  · exact validName_nodot (List.all_eq_true.mp hp w hw)

theorem validDotted_dotted (model : Name) (p : Path) (hm : validName model = true)
    (hp : p.all validName = true) : ValidDotted (dotted model p) := by
  intro w hw
  rw [splitDot_dotted model p hm hp] at hw
  rcases List.mem_cons.mp hw with rfl | hw
  · exact validName_ne_nil hm
  · exact validName_ne_nil (List.all_eq_true.mp hp w hw)

theorem resolveBase_dotted (model : Name) (p : Path) (hm : validName model = true)
    (hp : p.all validName = true) : resolveBase model (dotted model p) = some p := by
  simp [resolveBase, splitDot_dotted model p hm hp]

theorem mapE_map_ok {α β γ : Type} (f : β → Except Err γ) (g : α → β) (h : α → γ) (l : List α)
    (hl : ∀ x ∈ l, f (g x) = .ok (h x)) : mapE f (l.map g) = .ok (l.map h) := by
  induction l with
  | nil => rfl
  | cons x rest ih =>
    simp [mapE, hl x (by simp), ih (fun y hy => hl y (by simp [hy]))]

theorem resolveRel_roundtrip (model : Name) (owner tgt : Path) :
    resolveRel model owner (absToRelTuple (idt model tgt) (idt model owner)) = some tgt := by
  unfold resolveRel
  rw [relToAbsTuple_absToRelTuple]
  simp [idt, isStr, elemName, List.map_map, Function.comp_def]

theorem mode_parse_text (m : Mode) : Mode.parse m.text = some m := by
  cases m <;> decide +kernel

theorem stripPrefix_append {α : Type} [DecidableEq α] (pre l : List α) : stripPrefix pre (pre ++ l) = some l := by
  induction pre with
  | nil => rfl
  | cons a as ih => simp [stripPrefix, ih]

theorem dynAddr_roundtrip (model : Name) (path : Path) (addr : List Elem) :
    dynAddr model path (absToRelTuple (idt model path ++ addr) (idt model path)) = some addr := by
  unfold dynAddr
  rw [relToAbsTuple_absToRelTuple]
  exact stripPrefix_append _ _

end MxModel.Serial
