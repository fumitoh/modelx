import MxModel.Proofs.IOSpecMain
/-! Models that are closed hold no spec (`ClosedFree`): `new_pandas` through their handles is refused. -/
namespace MxModel.IOSpec

@[simp] theorem closed_implNewRef (st o n v) : (implNewRef st o n v).closed = st.closed := rfl
@[simp] theorem closed_implDelRef (st o n) : (implDelRef st o n).closed = st.closed := rfl
@[simp] theorem closed_implChangeRef (st o n v) : (implChangeRef st o n v).closed = st.closed := rfl
@[simp] theorem closed_delSpec (st σ) : (delSpec st σ).closed = st.closed := rfl
@[simp] theorem closed_v2rAppend (st m v r) : (v2rAppend st m v r).closed = st.closed := rfl
@[simp] theorem closed_setSpecVal (st σ v) : (setSpecVal st σ v).closed = st.closed := rfl
@[simp] theorem closed_delSpace (st s) : (delSpace st s).closed = st.closed := rfl

def ClosedFree (st : St) : Prop := ∀ σ ∈ st.specs, st.closed.contains σ.group = false

theorem closeModel_closed {st : St} (h : RInv st) (m : Nat) :
    (closeModel st m).1.closed = m :: st.closed ∧
    ∀ τ ∈ (closeModel st m).1.specs, τ ∈ st.specs ∧ τ.group ≠ m := by
  have hrel := (closeModel_releases h m).2.1
  rcases closeModel_cases st m with ⟨_, _, e⟩ | ⟨L, _, e⟩
  · have := (closeModel_releases h m).1; rw [e] at this; cases this
  rw [e] at hrel ⊢
  obtain ⟨_, _, _, _, e', f⟩ := foldl_delSpec_fields L.reverse st
  exact ⟨congrArg (m :: ·) e', fun τ hτ => ⟨((f τ).mp hτ).1, hrel τ hτ⟩⟩

theorem closedFree_step (kw : List String) {st : St} (h : RInv st) (hc : ClosedFree st) {op : Op} :
    ClosedFree (step kw st op) := by
  rcases (step_act kw st op).evolves with ⟨ht, hcl⟩ | ⟨m, rfl, hm, hst⟩
  · intro τ hτ
    rw [hcl]
    -- the key of `τ` was there, or is claimed for a model that has a spec (so is not closed, by `hc`) or is not closed
    rcases strans_origin ht τ hτ with ⟨σ, hσ, hg, _⟩ | ⟨σ, hσ, hg⟩ | hn
    · rw [← hg]; exact hc σ hσ
    · rw [← hg]; exact hc σ hσ
    · exact hn
  · rw [hst]
    obtain ⟨e, f⟩ := closeModel_closed h m
    intro τ hτ
    rw [e]
    obtain ⟨h1, h2⟩ := f τ hτ
    have := hc τ h1
    simp only [List.contains_cons, Bool.or_eq_false_iff, beq_eq_false_iff_ne, ne_eq]
    exact ⟨h2, this⟩

theorem closedFree_run (kw : List String) (ops : List Op) (st : St) (h : RInv st) (hc : ClosedFree st)
    (ha : AllClean kw st ops) : ClosedFree (run kw st ops) :=
  (run_induction kw (P := fun st => RInv st ∧ ClosedFree st)
    (fun _ _ h hcl => ⟨rinv_step kw h.1 hcl, closedFree_step kw h.1 h.2⟩) ops st ⟨h, hc⟩ ha).2

end MxModel.IOSpec
