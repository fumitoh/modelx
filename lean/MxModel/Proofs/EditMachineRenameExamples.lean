import MxModel.Proofs.EditMachineRename
import MxModel.Proofs.EditMachineExamples
import MxModel.Proofs.EditMachineGlobalsExamples
/-!
# Histories with renames: the examples

`rOps` (all cached, sources `y * 2`): `A` with child `A.Ch`, `T(A)`; everything evaluated, an input in `A.f`;
`A.rename("Z")` discards everything `A` and `A.Ch` hold – the input too – and keeps what the sub space `T` holds.
`uOps`: `A.u` uncached, `A.f = u()`; the clearing of the code before d7248bc leaves the node of `u`.
-/
namespace MxModel.Edit
open MxModel.Exec MxModel.C02 MxModel.SM

/-- a slot in a renamed space (`gP`: every cells is `lambda: S.x`, slot `(S, x)` declared): `m.x = 1`; `T.c()` is 1;
`S.rename("Z")` keeps it (the formula reaches the space through a reference to the OBJECT; the slot is still
spelled `S.x`); `Z.x = 5` (an own reference of the renamed space) clears the reader through the SAME slot
identity; `T.c()` is 5 -/
def sOps : List OpR := [
  .g (.setGlobal "x" 1),
  .g (.op (.struct (.newSpace [] "S" [] []))),
  .g (.op (.struct (.newSpace [] "T" [] []))),
  .g (.op (.struct (.newCells ["T"] "c" "c" 0))),
  .g (.op (.eval ["T"] "c" [])),
  .renameSpace ["S"] "Z",
  .g (.op (.eval ["T"] "c" [])),
  .g (.op (.struct (.setRef ["Z"] "x" 5))),
  .g (.op (.eval ["T"] "c" []))]

theorem sOps_admissible : AdmissibleR gP idLt (W.init gSlots) sOps :=
  admissibleR_of_attr_sources gP idLt (fun _ _ => (readAttr_ok _).1) (fun _ _ => (readAttr_ok _).2.1)
    (fun _ _ => (readAttr_ok _).2.2) sOps _

def rOps : List OpR := [
  .g (.op (.struct (.newSpace [] "A" [] []))),
  .g (.op (.struct (.newSpace ["A"] "Ch" [] []))),
  .g (.op (.struct (.newCells ["A"] "f" "f" 0))),
  .g (.op (.struct (.setRef ["A"] "y" 1))),
  .g (.op (.struct (.newCells ["A", "Ch"] "g" "g" 0))),
  .g (.op (.struct (.setRef ["A", "Ch"] "y" 2))),
  .g (.op (.struct (.newSpace [] "T" [["A"]] []))),
  .g (.op (.eval ["A"] "f" [])),
  .g (.op (.eval ["A", "Ch"] "g" [])),
  .g (.op (.eval ["T"] "f" [])),
  .g (.op (.setValue ["A"] "f" [.int 1] (.int 7))),
  .renameSpace ["A"] "Z",
  .g (.op (.eval ["Z"] "f" [])),
  .g (.op (.eval ["Z", "Ch"] "g" []))]

theorem rOps_admissible : AdmissibleR eP idLt (W.init []) rOps :=
  admissibleR_of_sources eP idLt idLt_strict eP_noCatch eP_scoped eP_noCalls rOps _ (cig_init eP idLt [])
    (wf_init eP idLt []) rfl

def ret5 : SProg := .ret (.int 5)

/-- `return u()` -/
def callU : SProg :=
  SProg.callN "u" [] (fun r => match r with | .ok v => .ret v | .err e => .reraise e) (fun _ => .raise (.user 3))
    (.raise (.user 4))

/-- payload 1: `def u(): return 5`, UNCACHED; every other payload: `def f(): return u()`, cached -/
def uP : Params where
  srcOf := fun v _ => if v = 1 then ret5 else callU
  valOf := fun v => .int v
  flagOf := fun v => v != 1
  anOf := fun _ => false
  maxdepth := 50
  kw := []

/-- `A.u` uncached, `A.f = lambda: u()`; `A.f()` -/
def uOps : List OpR := [
  .g (.op (.struct (.newSpace [] "A" [] []))),
  .g (.op (.struct (.newCells ["A"] "u" "u" 1))),
  .g (.op (.struct (.newCells ["A"] "f" "f" 0))),
  .g (.op (.eval ["A"] "f" []))]

end MxModel.Edit
