import MxModel.Struct.Mech
/-!
# Histories of the mechanism, piece by piece

A history run from a state reached by an earlier history (`St.run_append`; with renames `St.runR_append`,
in `StructMechRenameSpace`), and decidable equality of states, so that the state a concrete history ends
in can be stated once and checked by evaluation.
-/
namespace MxModel.SM

deriving instance DecidableEq for Space
deriving instance DecidableEq for St

theorem St.run_nil (kw : List String) (st : St) : St.run kw st [] = st := rfl

theorem St.run_cons (kw : List String) (st : St) (op : Op) (ops : List Op) :
    St.run kw st (op :: ops) = St.run kw (st.step kw op).1 ops := rfl

theorem St.run_append (kw : List String) (st : St) (xs ys : List Op) :
    St.run kw st (xs ++ ys) = St.run kw (St.run kw st xs) ys :=
  List.foldl_append ..

end MxModel.SM
