import MxModel.Struct.MechNamespace
import MxModel.Proofs.StructMechNames
/-!
# The namespace chain of the mechanism model (C12)

`St.namespaceIn` in the order of the source's tables is `St.codeChain`: `[cells, own_refs, sys_refs,
global_refs, spaces]` (`namespaceIn_code`).  `chain_resolution` is the closed form of the first-match lookup
through it (every state), and in the states the mechanism reaches (`InvN`) the maps other than
`global_refs` are pairwise disjoint and hold valid names only (the special names aside).
-/
namespace MxModel.Struct

theorem NMap.find_isSome_iff {β : Type} (m : NMap β) (x : String) : (m.find x).isSome ↔ x ∈ m.map (·.1) := by
  induction m with
  | nil => simp [NMap.find]
  | cons kv tl ih =>
    rw [NMap.find]
    by_cases h : kv.1 = x
    · simp [h]
    · have h' : ¬ x = kv.1 := fun e => h e.symm
      simp [h, h', ih]

theorem chainFind_isSome_iff {β : Type} (chain : List (String × NMap β)) (x : String) :
    (chainFind chain x).isSome ↔ ∃ e ∈ chain, (e.2.find x).isSome := by
  induction chain with
  | nil => simp [chainFind]
  | cons e rest ih =>
    rw [chainFind]
    simp only [List.mem_cons, exists_eq_or_imp]
    cases hm : e.2.find x with
    | some v => exact ⟨fun _ => Or.inl rfl, fun _ => rfl⟩
    | none => exact ih.trans ⟨Or.inr, fun h => h.resolve_left Bool.false_ne_true⟩

end MxModel.Struct

namespace MxModel.SM
open MxModel.Struct

theorem find_map_members (ms : Members) (f : Member → Denot) (n : String) :
    NMap.find (ms.map (fun e => (e.1, f e.2))) n = (mget ms n).map f := by
  induction ms with
  | nil => rfl
  | cons e ms ih =>
    simp only [List.map_cons, NMap.find, mget_cons]
    by_cases h : e.1 = n
    · simp [h]
    · simp [h, ih]

theorem find_map_const (l : List String) (d : Denot) (n : String) :
    NMap.find (l.map (fun x => (x, d))) n = if n ∈ l then some d else none := by
  induction l with
  | nil => rfl
  | cons x l ih =>
    simp only [List.map_cons, NMap.find, List.mem_cons]
    by_cases h : x = n
    · simp [h]
    · have h' : ¬ n = x := fun e => h e.symm
      simp [h, h', ih]

theorem members_eq_cont (st : St) (a : Attr) (q : Path) : st.members a q = st.cont a q := rfl

theorem mem_eq_members (st : St) (a : Attr) (q : Path) (n : String) : st.mem a q n = mget (st.members a q) n :=
  St.mem_eq st a q n

def St.codeChain (st : St) (q : Path) : List (String × NMap Denot) :=
  [("cells", (st.members .cells q).map (fun e => (e.1, Denot.cells e.2))),
   ("own_refs", (st.members .refs q).map (fun e => (e.1, Denot.ownRef e.2))),
   ("sys_refs", sysNames.map (fun n => (n, Denot.sys))),
   ("global_refs", st.globals.map (fun n => (n, Denot.global))),
   ("spaces", (st.childNames q).map (fun n => (n, Denot.child)))]

theorem namespaceIn_code (st : St) (q : Path) :
    st.namespaceIn ["cells", "refs", "spaces"] ["own_refs", "sys_refs", "global_refs"] q = st.codeChain q := by
  simp [St.namespaceIn, St.nsMaps, St.refMaps, St.codeChain]

theorem chain_resolution (st : St) (q : Path) (n : String) :
    chainFind (st.codeChain q) n =
      match st.mem .cells q n with
      | some m => some ("cells", .cells m)
      | none =>
        match st.mem .refs q n with
        | some m => some ("own_refs", .ownRef m)
        | none =>
          if n ∈ sysNames then some ("sys_refs", .sys)
          else if n ∈ st.globals then some ("global_refs", .global)
          else if n ∈ st.childNames q then some ("spaces", .child)
          else none := by
  simp only [St.codeChain, chainFind, find_map_members, find_map_const, mem_eq_members]
  cases mget (st.members .cells q) n with
  | some m => rfl
  | none =>
    cases mget (st.members .refs q) n with
    | some m => rfl
    | none =>
      by_cases h1 : n ∈ sysNames
      · simp [h1]
      · by_cases h2 : n ∈ st.globals
        · simp [h1, h2]
        · by_cases h3 : n ∈ st.childNames q <;> simp [h1, h2, h3]

theorem chain_visible_iff (st : St) (q : Path) (n : String) :
    (chainFind (st.codeChain q) n).isSome = true ↔
      ((st.mem .cells q n).isSome = true ∨ (st.mem .refs q n).isSome = true ∨ n ∈ sysNames ∨
        n ∈ st.globals ∨ n ∈ st.childNames q) := by
  rw [chainFind_isSome_iff]
  simp only [St.codeChain, List.mem_cons, List.mem_nil_iff, or_false, exists_eq_or_imp, exists_eq_left,
    find_map_members, find_map_const, ← mem_eq_members, Option.isSome_map, Option.isSome_ite]

/-- `kindOf` leaves out the three special names.  They are no valid names, and every operation of `SM.Op`
that consults `kindOf` for a name also tests that name, so what `kindOf` says of a special name decides
nothing. -/
theorem kindOf_eq_chain (st : St) (q : Path) (n : String) (hs : n ∉ sysNames) :
    st.kindOf q n = (chainFind (st.codeChain q) n).map (fun r => r.2.kind) := by
  rw [chain_resolution]
  unfold St.kindOf
  cases st.mem .cells q n with
  | some m => rfl
  | none =>
    cases st.mem .refs q n with
    | some m => rfl
    | none =>
      by_cases h2 : n ∈ st.globals
      · simp [hs, h2, Denot.kind]
      · by_cases h3 : n ∈ st.childNames q <;> simp [hs, h2, h3, Denot.kind]

theorem sysNames_invalid (kw : List String) (n : String) (h : n ∈ sysNames) : Names.isValidName kw n = false := by
  simp only [sysNames, List.mem_cons, List.mem_nil_iff, or_false] at h
  rcases h with rfl | rfl | rfl <;> simp [Names.isValidName]

theorem NamesOK.child {kw : List String} {st : St} (hn : NamesOK kw st) (q : Path) (n : String)
    (h : n ∈ st.childNames q) : Names.isValidName kw n = true :=
  hn.ids (q ++ [n]) ((mem_childNames st q n).mp h) n (by simp)

/-- The third case cannot be dropped: `model.name = value` tests no name (`ModelImpl.set_attr`), and a
model-level reference is visible in the namespace of every space (`global_visible`). -/
theorem visible_valid {kw : List String} {st : St} (h : InvN kw st) (q : Path) (n : String)
    (hv : (chainFind (st.codeChain q) n).isSome = true) :
    Names.isValidName kw n = true ∨ n ∈ sysNames ∨ n ∈ st.globals := by
  rcases (chain_visible_iff st q n).mp hv with hc | hr | hs | hg | hch
  · exact Or.inl (h.names.mems h.toInv .cells q n hc)
  · exact Or.inl (h.names.mems h.toInv .refs q n hr)
  · exact Or.inr (Or.inl hs)
  · exact Or.inr (Or.inr hg)
  · exact Or.inl (h.names.child q n hch)

theorem global_visible (st : St) (q : Path) (n : String) (hg : n ∈ st.globals) :
    (chainFind (st.codeChain q) n).isSome = true :=
  (chain_visible_iff st q n).mpr (Or.inr (Or.inr (Or.inr (Or.inl hg))))

/-- Not in the list: a model-level reference MAY bear a special name - `model._self = 1` is accepted by the
code; the special name wins in every space (`chain_other_matches`). -/
theorem space_level_disjoint {kw : List String} {st : St} (h : InvN kw st) (q : Path) (n : String) :
    ¬ ((st.mem .cells q n).isSome = true ∧ (st.mem .refs q n).isSome = true) ∧
    ¬ ((st.mem .cells q n).isSome = true ∧ n ∈ sysNames) ∧
    ¬ ((st.mem .refs q n).isSome = true ∧ n ∈ sysNames) ∧
    ¬ ((st.mem .cells q n).isSome = true ∧ n ∈ st.childNames q) ∧
    ¬ ((st.mem .refs q n).isSome = true ∧ n ∈ st.childNames q) ∧
    ¬ (n ∈ sysNames ∧ n ∈ st.childNames q) := by
  have hd := h.disj
  refine ⟨?_, ?_, ?_, ?_, ?_, ?_⟩
  · rintro ⟨h1, h2⟩; rw [hd.cr q n h1] at h2; cases h2
  · rintro ⟨h1, h2⟩
    have := h.names.mems h.toInv .cells q n h1
    rw [sysNames_invalid kw n h2] at this; cases this
  · rintro ⟨h1, h2⟩
    have := h.names.mems h.toInv .refs q n h1
    rw [sysNames_invalid kw n h2] at this; cases this
  · rintro ⟨h1, h2⟩; rw [(hd.child q n h2).1] at h1; cases h1
  · rintro ⟨h1, h2⟩; rw [(hd.child q n h2).2] at h1; cases h1
  · rintro ⟨h1, h2⟩
    have := h.names.child q n h2
    rw [sysNames_invalid kw n h1] at this; cases this

theorem codeChain_has (st : St) (q : Path) (n : String) (e : String × NMap Denot) (he : e ∈ st.codeChain q) :
    (e.2.find n).isSome = true ↔
      ((e.1 = "cells" ∧ (st.mem .cells q n).isSome = true) ∨ (e.1 = "own_refs" ∧ (st.mem .refs q n).isSome = true) ∨
       (e.1 = "sys_refs" ∧ n ∈ sysNames) ∨ (e.1 = "global_refs" ∧ n ∈ st.globals) ∨
       (e.1 = "spaces" ∧ n ∈ st.childNames q)) := by
  simp only [St.codeChain, List.mem_cons, List.mem_nil_iff, or_false] at he
  rcases he with rfl | rfl | rfl | rfl | rfl
  · simp only [find_map_members, ← mem_eq_members]
    cases st.mem .cells q n <;> simp
  · simp only [find_map_members, ← mem_eq_members]
    cases st.mem .refs q n <;> simp
  · simp only [find_map_const]
    by_cases h : n ∈ sysNames <;> simp [h]
  · simp only [find_map_const]
    by_cases h : n ∈ st.globals <;> simp [h]
  · simp only [find_map_const]
    by_cases h : n ∈ st.childNames q <;> simp [h]

theorem chain_other_matches {kw : List String} {st : St} (h : InvN kw st) (q : Path) (n : String)
    (mapName : String) (d : Denot) (hf : chainFind (st.codeChain q) n = some (mapName, d)) :
    ∀ e ∈ st.codeChain q, e.1 ≠ mapName → (e.2.find n).isSome = true →
      (e.1 = "global_refs" ∧ (mapName = "cells" ∨ mapName = "own_refs" ∨ mapName = "sys_refs")) ∨
      (e.1 = "spaces" ∧ mapName = "global_refs") := by
  obtain ⟨d1, d2, d3, d4, d5, d6⟩ := space_level_disjoint h q n
  intro e he hne hsome
  rw [codeChain_has st q n e he] at hsome
  rw [chain_resolution] at hf
  -- where the lookup stops; the maps before hold nothing, the space-level maps after are disjoint from it
  cases hc : st.mem .cells q n with
  | some m =>
    rw [hc] at hf d1 d2 d4 hsome
    obtain ⟨rfl, _⟩ := Prod.mk.inj (Option.some.inj hf)
    simp only [Option.isSome_some, true_and] at d1 d2 d4
    simp only [d1, d2, d4, hne, Bool.false_eq_true, and_false, false_and, false_or, or_false] at hsome
    exact Or.inl ⟨hsome.1, Or.inl rfl⟩
  | none =>
    rw [hc] at hf hsome
    cases hr : st.mem .refs q n with
    | some m =>
      rw [hr] at hf d3 d5 hsome
      obtain ⟨rfl, _⟩ := Prod.mk.inj (Option.some.inj hf)
      simp only [Option.isSome_some, true_and] at d3 d5
      simp only [d3, d5, hne, Option.isSome_none, Bool.false_eq_true, and_false, false_and, false_or,
        or_false] at hsome
      exact Or.inl ⟨hsome.1, Or.inr (Or.inl rfl)⟩
    | none =>
      rw [hr] at hf hsome
      simp only [Option.isSome_none, Bool.false_eq_true, and_false, false_or] at hsome
      by_cases hs : n ∈ sysNames
      · rw [if_pos hs] at hf
        obtain ⟨rfl, _⟩ := Prod.mk.inj (Option.some.inj hf)
        have hk : n ∉ st.childNames q := fun hk => d6 ⟨hs, hk⟩
        simp only [hk, hne, and_false, false_and, false_or, or_false] at hsome
        exact Or.inl ⟨hsome.1, Or.inr (Or.inr rfl)⟩
      · rw [if_neg hs] at hf
        simp only [hs, and_false, false_or] at hsome
        by_cases hg : n ∈ st.globals
        · rw [if_pos hg] at hf
          obtain ⟨rfl, _⟩ := Prod.mk.inj (Option.some.inj hf)
          simp only [hne, false_and, false_or] at hsome
          exact Or.inr ⟨hsome.1, rfl⟩
        · rw [if_neg hg] at hf
          simp only [hg, and_false, false_or] at hsome
          by_cases hk : n ∈ st.childNames q
          · rw [if_pos hk] at hf
            obtain ⟨rfl, _⟩ := Prod.mk.inj (Option.some.inj hf)
            exact absurd hsome.1 hne
          · rw [if_neg hk] at hf; cases hf

theorem Inv.names_unique {st : St} (h : Inv st) :
    st.ids.Nodup ∧ ∀ s ∈ st.spaces, (s.cells.map (·.1)).Nodup ∧ (s.refs.map (·.1)).Nodup := by
  refine ⟨h.wf.nodup, fun s hs => ?_⟩
  have h1 := h.wf.keys .cells s.id
  have h2 := h.wf.keys .refs s.id
  unfold St.cont at h1 h2
  rw [find_of_mem st h.wf.nodup s hs] at h1 h2
  exact ⟨h1, h2⟩

theorem Inv.containers_disjoint {st : St} (h : Inv st) (q : Path) (n : String) :
    ¬ ((st.mem .cells q n).isSome = true ∧ (st.mem .refs q n).isSome = true) ∧
    (n ∈ st.childNames q → st.mem .cells q n = none ∧ st.mem .refs q n = none) ∧
    (n ∈ st.globals → n ∉ st.childNames []) := by
  refine ⟨?_, h.disj.child q n, h.disj.glob n⟩
  rintro ⟨h1, h2⟩
  rw [h.disj.cr q n h1] at h2
  cases h2

/-- `kindOf` where the containers of a space are disjoint: the order of the search matters only where a
model-level reference is involved -/
theorem kindOf_iff_of_disj {st : St} (hd : Disj st) (q : Path) (n : String) :
    (st.kindOf q n = some .cells ↔ (st.mem .cells q n).isSome = true) ∧
    (st.kindOf q n = some .ref ↔
      st.mem .cells q n = none ∧ ((st.mem .refs q n).isSome = true ∨ n ∈ st.globals)) ∧
    (st.kindOf q n = some .space ↔ n ∈ st.childNames q ∧ n ∉ st.globals) ∧
    (st.kindOf q n = none ↔
      st.mem .cells q n = none ∧ st.mem .refs q n = none ∧ n ∉ st.childNames q ∧ n ∉ st.globals) := by
  have hchild := hd.child q n
  unfold St.kindOf
  cases hc : st.mem .cells q n with
  | some m =>
    have : n ∉ st.childNames q := fun h => by rw [(hchild h).1] at hc; cases hc
    simp [this]
  | none =>
    cases hr : st.mem .refs q n with
    | some m =>
      have : n ∉ st.childNames q := fun h => by rw [(hchild h).2] at hr; cases hr
      simp [this]
    | none =>
      by_cases hg : n ∈ st.globals
      · simp [hg]
      · by_cases hch : n ∈ st.childNames q <;> simp [hg, hch]

end MxModel.SM
