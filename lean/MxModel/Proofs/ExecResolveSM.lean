import MxModel.Proofs.ExecResolve
import MxModel.Proofs.StructMechFrame
/-!
# Inheritance: the structural mechanism model as a source of namespaces

`nsOf ids st q`: the namespace of space `q` in the structural state `st` (`Struct/Mech.lean`) – its
cells (own and derived); a child space (no value of the value layer: unbound, and looked up BEFORE
the references here); its references (own and derived); the model-level references.  Members get
identities per space (`Ids`): a derived cells of a sub space is a cells of its own.

For `new_cells`, `set_cells_property` and `del_cells` / `del_ref` the namespace of every space
outside `St.touched st p` (the space of the edit and the walked sub spaces) is unchanged
(`nsOf_frame`, from `Frame` of `Proofs/StructMechFrame.lean`).  Hence (`mech_edit_ci`): if the
clearing notifies every cells living in a touched space – in `p` AND in every sub space – no stale
value survives, in sub spaces either.
-/
namespace MxModel.SM
open MxModel.Exec

structure Ids where
  cid : Path → String → CellId
  rid : Path → String → RefId
  gid : String → RefId

def nsOf (ids : Ids) (st : St) (q : Path) : Ns := fun x =>
  if (st.mem .cells q x).isSome then some (.cell (ids.cid q x))
  else if (st.childNames q).contains x then none
  else if (st.mem .refs q x).isSome then some (.ref (ids.rid q x))
  else if st.globals.contains x then some (.ref (ids.gid x))
  else none

theorem nsOf_frame (ids : Ids) {st st' : St} {p : Path} (h : Frame st st' p) (q : Path)
    (hq : q ∉ st.touched p) : nsOf ids st' q = nsOf ids st q := by
  funext x
  unfold nsOf
  rw [St.mem_eq, St.mem_eq, h.cont .cells q hq, h.cont .refs q hq, h.shape.childNames, h.shape.globals,
    ← St.mem_eq, ← St.mem_eq]

theorem nsOf_changed_in_touched (ids : Ids) {st st' : St} {p : Path} (h : Frame st st' p) (q : Path)
    (hne : nsOf ids st' q ≠ nsOf ids st q) : q ∈ st.touched p := by
  apply Classical.byContradiction
  intro hq
  exact hne (nsOf_frame ids h q hq)

variable {lt : Node → Node → Prop}

/-- the source-level definitions whose namespaces are those of the structural state `st`
(`pathOf`: the numbering of the spaces) -/
def withStruct (se : SEnv) (ids : Ids) (pathOf : Nat → Path) (st : St) : SEnv :=
  se.withNss (fun sp => nsOf ids st (pathOf sp))

/-- C02 / C13 for inheritance.  `hf` is `newCells_frame`, `setFormula_frame` or `delMember_frame`;
`L`: the cells the clearing notifies – `hL` asks for those of `p` AND of every sub space, derived
cells included. -/
theorem mech_edit_ci (se : SEnv) (ids : Ids) (pathOf : Nat → Path) (st st' : St) (p : Path)
    (hf : Frame st st' p) (L : List CellId) {s : Exec.St}
    (h : CI (withStruct se ids pathOf st).toEnv lt s)
    (hL : ∀ c, pathOf (se.home c) ∈ st.touched p → c ∈ L ∨ ∀ x ∈ s.gn, x.cell ≠ c)
    (hinp : ∀ n ∈ s.inputs, pathOf (se.home n.1) ∈ st.touched p →
      (withStruct se ids pathOf st').toEnv.alive n.1 = true) :
    CI (withStruct se ids pathOf st').toEnv lt (s.notifyAll (withStruct se ids pathOf st).toEnv L) := by
  exact nsEdit_ci (withStruct se ids pathOf st) (fun sp => nsOf ids st' (pathOf sp))
    (fun sp => pathOf sp ∈ st.touched p) L h (fun sp hsp => nsOf_frame ids hf (pathOf sp) hsp) hL hinp

/-- `CL`: the cells that go (the deleted cells and its derived copies in the sub spaces), each
`clear_obj`ed before the notification. -/
theorem mech_edit_cleared_ci (se : SEnv) (ids : Ids) (pathOf : Nat → Path) (st st' : St) (p : Path)
    (hf : Frame st st' p) (CL L : List CellId) {s : Exec.St}
    (h : CI (withStruct se ids pathOf st).toEnv lt s)
    (hL : ∀ c, pathOf (se.home c) ∈ st.touched p → c ∈ L ∨ c ∈ CL)
    (hinp : ∀ n ∈ s.inputs, pathOf (se.home n.1) ∈ st.touched p → n.1 ∉ CL →
      (withStruct se ids pathOf st').toEnv.alive n.1 = true) :
    CI (withStruct se ids pathOf st').toEnv lt
      ((CL.foldl Exec.St.clearObj s).notifyAll (withStruct se ids pathOf st).toEnv L) := by
  obtain ⟨h1, h2, h3⟩ := clearObjs_ci h CL
  refine mech_edit_ci se ids pathOf st st' p hf L h1 ?_ ?_
  · intro c hc
    rcases hL c hc with hl | hl
    · exact Or.inl hl
    · exact Or.inr (h3 c hl)
  · intro n hn hN
    have hheld := h1.gi.inputsHeld n hn
    have hgn := (h1.gi.heldNodes n hheld).1
    have hnot : n.1 ∉ CL := fun hc => h3 n.1 hc _ hgn rfl
    refine hinp n ?_ hN hnot
    -- inputs only shrink under `clear_obj`
    refine List.foldlRecOn (motive := fun s0 : Exec.St => n ∈ s0.inputs → n ∈ s.inputs) CL _ id ?_ hn
    intro s0 h0 c0 _ hm
    simp only [Exec.St.clearObj, Exec.St.dropValues, Exec.St.rgRemoveReferred, Exec.St.removeNodes,
      List.mem_filter] at hm
    exact h0 hm.1

theorem mech_newCells_ci (kw : List String) (se : SEnv) (ids : Ids) (pathOf : Nat → Path) (st st' : St)
    (p : Path) (name : String) (v : Nat) (hop : st.newCells kw p name v = some st') (L : List CellId)
    {s : Exec.St} (h : CI (withStruct se ids pathOf st).toEnv lt s)
    (hL : ∀ c, pathOf (se.home c) ∈ st.touched p → c ∈ L ∨ ∀ x ∈ s.gn, x.cell ≠ c)
    (hinp : ∀ n ∈ s.inputs, pathOf (se.home n.1) ∈ st.touched p →
      (withStruct se ids pathOf st').toEnv.alive n.1 = true) :
    CI (withStruct se ids pathOf st').toEnv lt (s.notifyAll (withStruct se ids pathOf st).toEnv L) :=
  mech_edit_ci se ids pathOf st st' p (newCells_frame kw st st' p name v hop) L h hL hinp

theorem mech_delCells_ci (se : SEnv) (ids : Ids) (pathOf : Nat → Path) (st st' : St)
    (p : Path) (name : String) (hop : st.delMember .cells p name = some st') (L : List CellId)
    {s : Exec.St} (h : CI (withStruct se ids pathOf st).toEnv lt s)
    (hL : ∀ c, pathOf (se.home c) ∈ st.touched p → c ∈ L ∨ ∀ x ∈ s.gn, x.cell ≠ c)
    (hinp : ∀ n ∈ s.inputs, pathOf (se.home n.1) ∈ st.touched p →
      (withStruct se ids pathOf st').toEnv.alive n.1 = true) :
    CI (withStruct se ids pathOf st').toEnv lt (s.notifyAll (withStruct se ids pathOf st).toEnv L) :=
  mech_edit_ci se ids pathOf st st' p (delMember_frame st st' .cells p name hop) L h hL hinp

end MxModel.SM
