import MxModel.Proofs.ExecEdits
/-!
# Trace certificates over the mechanism state

For every held, computed element the invariant `CInv` asserts the existence of a *trace*: the
ordered record of what its formula saw when it ran – references read (with the value seen, or
`none` for "no such reference"), cached callees with the value they returned, and uncached
callees with the value they returned *and their own trace* (an uncached cells holds nothing, so
its execution is part of its caller's).  The invariant is purely relational over the plain
mechanism state `St` (nothing is stored, nothing consults it):

* **replay** – the formula, fed the recorded answers in order, asks exactly the recorded
  questions and returns the held value (`Replay`);
* **events are current** – every recorded read has that value now; every recorded cached callee
  is held with that value and is *older* in the cache (`rank`, the position counted from the
  oldest entry – the intrinsic height that makes the soundness induction well-founded);
* **the graphs abstract the traces** – the trace graph has an edge from every recorded cached
  callee, at any nesting depth below uncached frames, to the element (the `idx` rule), and an
  edge from the object node of every uncached callee – and NO OTHER edge into the element
  (`Cert.just`); the reference graph has `(r, n)` for every recorded attribute-path read of an
  existing reference, including those made inside uncached callees.
-/
namespace MxModel.Exec

inductive Tr where
  | nil
  | read (a : Bool) (r : RefId) (x : Option Val) (t : Tr)
  | call (m : Node) (w : Val) (t : Tr)
  /-- uncached callee `m` returned `w`; `sub` is the trace of its own formula -/
  | ucall (m : Node) (w : Val) (sub : Tr) (t : Tr)

/-- flattened events; a read remembers the cells whose formula made it -/
inductive FEv
  | read (c : CellId) (a : Bool) (r : RefId) (x : Option Val)
  | call (m : Node) (w : Val)
  | ucall (m : Node)
deriving DecidableEq

def flat (c : CellId) : Tr → List FEv
  | .nil => []
  | .read a r x t => .read c a r x :: flat c t
  | .call m w t => .call m w :: flat c t
  | .ucall m _ sub t => .ucall m :: (flat m.1 sub ++ flat c t)

def Replay (env : Env) : Tr → Prog → Val → Prop
  | .nil, p, v => p = .ret v
  | .read a r x t, p, v =>
    match p with
    | .read a' r' k => a' = a ∧ r' = r ∧ Replay env t (k x) v
    | _ => False
  | .call m w t, p, v =>
    match p with
    | .call m' k => m' = m ∧ env.cached m.1 = true ∧ Replay env t (k (.ok w)) v
    | _ => False
  | .ucall m w sub t, p, v =>
    match p with
    | .call m' k => m' = m ∧ env.cached m.1 = false ∧
        Replay env sub (env.formula m) w ∧ Replay env t (k (.ok w)) v
    | _ => False

theorem replay_read {env : Env} {a : Bool} {r : RefId} {x : Option Val} {t : Tr} {p : Prog} {v : Val} :
    Replay env (.read a r x t) p v ↔ ∃ k, p = .read a r k ∧ Replay env t (k x) v := by
  cases p with
  | read a' r' k =>
    show (a' = a ∧ r' = r ∧ Replay env t (k x) v) ↔ _
    exact ⟨fun ⟨ha, hr, h⟩ => ⟨k, by rw [ha, hr], h⟩, fun ⟨k', hk, h⟩ => by cases hk; exact ⟨rfl, rfl, h⟩⟩
  | _ => exact ⟨False.elim, fun ⟨_, hk, _⟩ => nomatch hk⟩

theorem replay_call {env : Env} {m : Node} {w : Val} {t : Tr} {p : Prog} {v : Val} :
    Replay env (.call m w t) p v ↔
      ∃ k, p = .call m k ∧ env.cached m.1 = true ∧ Replay env t (k (.ok w)) v := by
  cases p with
  | call m' k =>
    show (m' = m ∧ env.cached m.1 = true ∧ Replay env t (k (.ok w)) v) ↔ _
    exact ⟨fun ⟨hm, h⟩ => ⟨k, by rw [hm], h⟩, fun ⟨k', hk, h⟩ => by cases hk; exact ⟨rfl, h⟩⟩
  | _ => exact ⟨False.elim, fun ⟨_, hk, _⟩ => nomatch hk⟩

theorem replay_ucall {env : Env} {m : Node} {w : Val} {sub t : Tr} {p : Prog} {v : Val} :
    Replay env (.ucall m w sub t) p v ↔
      ∃ k, p = .call m k ∧ env.cached m.1 = false ∧ Replay env sub (env.formula m) w ∧
        Replay env t (k (.ok w)) v := by
  cases p with
  | call m' k =>
    show (m' = m ∧ env.cached m.1 = false ∧ Replay env sub (env.formula m) w ∧ Replay env t (k (.ok w)) v) ↔ _
    exact ⟨fun ⟨hm, h⟩ => ⟨k, by rw [hm], h⟩, fun ⟨k', hk, h⟩ => by cases hk; exact ⟨rfl, h⟩⟩
  | _ => exact ⟨False.elim, fun ⟨_, hk, _⟩ => nomatch hk⟩

/-! ### the intrinsic height: position in the cache counted from the oldest entry -/

def rank : List (Node × Val) → Node → Nat
  | [], _ => 0
  | (m, _) :: rest, n => if m = n then rest.length + 1 else rank rest n

theorem rank_le_length (d : List (Node × Val)) (n : Node) : rank d n ≤ d.length := by
  induction d with
  | nil => simp [rank]
  | cons e rest ih =>
    obtain ⟨k, v⟩ := e
    simp only [rank, List.length_cons]
    split <;> omega

theorem rank_pos_of_lookup {d : List (Node × Val)} {n : Node} {v : Val} (h : lookup d n = some v) :
    0 < rank d n := by
  induction d with
  | nil => simp at h
  | cons e rest ih =>
    obtain ⟨k, w⟩ := e
    simp only [lookup_cons] at h
    simp only [rank]
    split
    · omega
    · rename_i hk; simp only [hk, if_false] at h; exact ih h

theorem rank_filter_lt (p : Node → Bool) (d : List (Node × Val)) (m n : Node)
    (hn : p n = true) (hmn : m ≠ n) (h : rank d m < rank d n) :
    rank (d.filter (fun e => p e.1)) m < rank (d.filter (fun e => p e.1)) n := by
  induction d with
  | nil => simp [rank] at h
  | cons e rest ih =>
    obtain ⟨k, w⟩ := e
    by_cases hkn : k = n
    · subst hkn
      have hkm : ¬ k = m := fun h => hmn h.symm
      simp only [List.filter, hn, rank, hkm, if_false, if_true]
      have hle := rank_le_length (rest.filter (fun e => p e.1)) m
      omega
    · by_cases hkm : k = m
      · subst hkm
        simp only [rank, hkn, if_false, if_true] at h
        have := rank_le_length rest n
        omega
      · simp only [rank, hkn, hkm, if_false] at h
        by_cases hpk : p k = true
        · simp only [List.filter, hpk, rank, hkn, hkm, if_false]; exact ih h
        · have hpk' : p k = false := by simpa using hpk
          simp only [List.filter, hpk']; exact ih h

theorem filter_ne_of_unheld (d : List (Node × Val)) (n : Node) (h : lookup d n = none) :
    d.filter (fun e => e.1 != n) = d := by
  induction d with
  | nil => rfl
  | cons e rest ih =>
    obtain ⟨k, w⟩ := e
    simp only [lookup_cons] at h
    by_cases hk : k = n
    · simp [hk] at h
    · simp only [hk, if_false] at h
      have hb : ((k, w).1 != n) = true := by simp [hk]
      simp only [List.filter, hb, ih h]

theorem rank_insert_other (d : List (Node × Val)) (n m : Node) (v : Val) (hun : lookup d n = none)
    (hmn : m ≠ n) : rank (insert d n v) m = rank d m := by
  unfold insert
  rw [filter_ne_of_unheld d n hun]
  simp [rank, Ne.symm hmn]

theorem rank_insert_self (d : List (Node × Val)) (n : Node) (v : Val) (hun : lookup d n = none) :
    rank (insert d n v) n = d.length + 1 := by
  unfold insert
  rw [filter_ne_of_unheld d n hun]
  simp [rank]

def EvOK (env : Env) (s : St) (n : Node) : FEv → Prop
  | .read _ a r x => env.refs r = x ∧ (a = true → x.isSome = true → (r, n) ∈ s.rg)
  | .call m w => lookup s.data m = some w ∧ rank s.data m < rank s.data n ∧
      (GNode.elem m, GNode.elem n) ∈ s.ge
  | .ucall m => (GNode.obj m.1, GNode.elem n) ∈ s.ge

def JustE (evs : List FEv) (a : GNode) : Prop :=
  (∃ m w, a = .elem m ∧ FEv.call m w ∈ evs) ∨ (∃ m, a = .obj m.1 ∧ FEv.ucall m ∈ evs)

theorem JustE.mono {evs evs' : List FEv} {a : GNode} (h : ∀ ev ∈ evs, ev ∈ evs') (j : JustE evs a) :
    JustE evs' a := by
  rcases j with ⟨m, w, ha, hm⟩ | ⟨m, ha, hm⟩
  · exact Or.inl ⟨m, w, ha, h _ hm⟩
  · exact Or.inr ⟨m, ha, h _ hm⟩

structure Cert (env : Env) (s : St) (n : Node) (v : Val) (tr : Tr) : Prop where
  replay : Replay env tr (env.formula n) v
  noneOK : v = .none → env.allowNone n.1 = true
  events : ∀ ev ∈ flat n.1 tr, EvOK env s n ev
  just : ∀ a, (a, GNode.elem n) ∈ s.ge → JustE (flat n.1 tr) a

def CInv (env : Env) (s : St) : Prop :=
  ∀ n v, lookup s.data n = some v → n ∉ s.inputs → ∃ tr, Cert env s n v tr

/-- the user's inputs as the state records them -/
def inpOf (s : St) : Node → Option Val := fun n => if n ∈ s.inputs then lookup s.data n else none

theorem inpOf_of_ext {s s' : St} (hx : Ext s s') (hi : s'.inputs = s.inputs)
    (hheld : ∀ m ∈ s.inputs, (lookup s.data m).isSome = true) : inpOf s' = inpOf s := by
  funext m
  unfold inpOf
  rw [hi]
  split
  · rename_i hm
    have := hheld m hm
    cases hl : lookup s.data m with
    | none => rw [hl] at this; cases this
    | some v => exact hx m v hl
  · rfl

/-- never returns a value, whatever it is told -/
def Fails : Prog → Prop
  | .ret _ => False
  | .raise _ => True
  | .reraise _ => True
  | .read _ _ k => ∀ x, Fails (k x)
  | .call _ k => ∀ r, Fails (k r)

/-- **NoCatch**: no formula turns a failure into a value – neither the failure of a callee
(known finding C02-caught-failure-untracked) nor the `AttributeError` of an attribute path to
a reference that does not exist (same finding: a handled failure leaves no record). -/
def NoCatch : Prog → Prop
  | .ret _ => True
  | .raise _ => True
  | .reraise _ => True
  | .read a _ k => (a = true → Fails (k none)) ∧ ∀ x, NoCatch (k x)
  | .call _ k => (∀ e, Fails (k (.err e))) ∧ ∀ r, NoCatch (k r)

def NoCatchEnv (env : Env) : Prop := ∀ n, NoCatch (env.formula n)

def NameReadsIn (R : RefId → Prop) : Prog → Prop
  | .ret _ => True
  | .raise _ => True
  | .reraise _ => True
  | .read a r k => (a = false → R r) ∧ ∀ x, NameReadsIn R (k x)
  | .call _ k => ∀ r, NameReadsIn R (k r)

/-- **static scoping**: a formula reads by global name only references of its own space's
namespace, i.e. references whose change notifies its cells -/
def Scoped (env : Env) : Prop := ∀ n, NameReadsIn (fun r => n.1 ∈ env.observers r) (env.formula n)

theorem fails_not_ok (env : Env) (f : Node → St → Res × St) :
    ∀ (p : Prog), Fails p → ∀ (s : St) (v : Val), (runBody env f p s).1 ≠ .ok v := by
  intro p
  induction p with
  | ret v => intro h; exact absurd h (by simp [Fails])
  | raise e => intro _ s v h; simp [runBody] at h
  | reraise e => intro _ s v h; simp [runBody] at h
  | read a r k ih => intro h s v; simp only [runBody]; exact ih _ (h _) _ v
  | call m k ih => intro h s v; simp only [runBody]; exact ih _ (h _) _ v

end MxModel.Exec
