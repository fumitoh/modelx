import MxModel.Proofs.EditMachineRun
/-!
# How the regime `WF` is guaranteed for definitions read off a structure

`NoCatchEnv` and `Scoped` of `envOf P t st` follow, for EVERY structural state, from properties of
the sources alone (quantified over all namespaces they could be resolved in):

* `NsNoCatch p`: resolved in any namespace, `p` turns no failure into a value;
* `NsScoped p`: resolved in any namespace, `p` reads by global name only references the namespace
  binds a name to – true of every source whose by-name reads are `SProg.readN` / `SProg.callN`
  (`LOAD_GLOBAL` of a name, then use of what was found); it gives `Scoped` where no attribute slot is declared;
* `NsAttrOnly p`: no by-name read of a reference at all – `Scoped` whatever slots are declared.

`Ranked` (terminating programs: every call goes to a smaller node in a fixed strict order) depends on
which cells the names are bound to, i.e. on the structure; it stays a hypothesis of the history
theorems (`Admissible`), discharged here for sources that call nothing (`NsNoCalls`): for such sources
EVERY history is admissible (`admissible_of_sources`), so the regime is a property of the sources.
-/
namespace MxModel.Edit
open MxModel.Exec MxModel.C02 MxModel.SM

def NsNoCatch (p : SProg) : Prop := ∀ ns : Ns, NoCatch (resolve ns p)

def NsScoped (p : SProg) : Prop :=
  ∀ ns : Ns, NameReadsIn (fun r => ∃ x, ns x = some (.ref r)) (resolve ns p)

def NsNoCalls (p : SProg) : Prop :=
  ∀ (ns : Ns) (lt : Node → Node → Prop) (n : Node), CallsBelow lt n (resolve ns p)

theorem noCatch_envOf (P : Params) (t : Tabs) (st : SM.St) (h : ∀ v key, NsNoCatch (P.srcOf v key)) :
    NoCatchEnv (envOf P t st) := by
  intro n
  rw [envOf_formula]
  cases hi : cellInfo t st n.1 with
  | none => trivial
  | some i =>
    obtain ⟨q, x, m⟩ := i
    exact h _ _ _

theorem scoped_envOf (P : Params) (t : Tabs) (st : SM.St) (ha : AllocOK t st) (hs : t.slots = [])
    (h : ∀ v key, NsScoped (P.srcOf v key)) : Scoped (envOf P t st) := by
  intro n
  show NameReadsIn _ ((envOf P t st).formula n)
  rw [envOf_formula]
  cases hi : cellInfo t st n.1 with
  | none => trivial
  | some i =>
    obtain ⟨q, x, m⟩ := i
    obtain ⟨_, hcid, hm⟩ := cellInfo_eq_some.mp hi
    have hqi : q ∈ st.ids := mem_ids_of_isSome st .cells q x (by rw [hm]; rfl)
    refine nameReadsIn_mono ?_ _ (h m.payload n.2 (nsAt t st q))
    rintro r ⟨y, hy⟩
    -- no attribute slot is declared: `y` is a plain name, bound to the slot `(q, y)`, which has an identity
    unfold nsAt at hy
    rw [qualOf_none_of_no_slots t hs] at hy
    obtain ⟨rfl, hsl⟩ := nsPlain_ref hy
    have hmem : (q, y) ∈ t.rtab := hsl.elim (fun hg => ha.gslots q y hqi (by simpa using hg)) (ha.refs q y)
    show n.1 ∈ (envOf P t st).observers (t.rid q y)
    rw [envOf_observers, refOf_rid t q y hmem]
    rw [← hcid]
    exact mem_cellsOf t st q x (by rw [hm]; rfl)

theorem ranked_envOf_noCalls (P : Params) (t : Tabs) (st : SM.St) (lt : Node → Node → Prop)
    (h : ∀ v key, NsNoCalls (P.srcOf v key)) : Ranked (envOf P t st) lt := by
  intro n
  rw [envOf_formula]
  cases hi : cellInfo t st n.1 with
  | none => trivial
  | some i =>
    obtain ⟨q, x, m⟩ := i
    exact h _ _ _ _ _

theorem wf_envOf (P : Params) (t : Tabs) (st : SM.St) (lt : Node → Node → Prop) (ha : AllocOK t st)
    (hs : t.slots = [])
    (hnc : ∀ v key, NsNoCatch (P.srcOf v key)) (hsc : ∀ v key, NsScoped (P.srcOf v key))
    (hr : Ranked (envOf P t st) lt) : WF (envOf P t st) lt :=
  ⟨hr, noCatch_envOf P t st hnc, scoped_envOf P t st ha hs hsc⟩

theorem admissible_of_sources (P : Params) (lt : Node → Node → Prop)
    (hnc : ∀ v key, NsNoCatch (P.srcOf v key)) (hsc : ∀ v key, NsScoped (P.srcOf v key))
    (hcalls : ∀ v key, NsNoCalls (P.srcOf v key)) :
    ∀ (ops : List Op) (w : W), AllocOK w.tabs w.sm → w.tabs.slots = [] → Admissible P lt w ops := by
  intro ops
  induction ops with
  | nil => intro w _ _; trivial
  | cons op rest ih =>
    intro w ha hs
    obtain ⟨ha', hs''⟩ := tabs_step P w op ha
    have hs' : (step P w op).tabs.slots = [] := hs''.trans hs
    exact ⟨wf_envOf P _ _ lt ha' hs' hnc hsc (ranked_envOf_noCalls P _ _ lt hcalls), ih _ ha' hs'⟩

theorem nsNoCatch_readN (x : String) (k : Option Val → SProg) (onCell onNone : SProg)
    (hk : ∀ o, NsNoCatch (k o)) (hc : NsNoCatch onCell) (hn : NsNoCatch onNone) :
    NsNoCatch (SProg.readN x k onCell onNone) := by
  intro ns
  simp only [SProg.readN, resolve]
  cases ns x with
  | none => exact hn ns
  | some b =>
    cases b with
    | cell c => exact hc ns
    | ref r => exact ⟨(fun h => nomatch h), fun o => hk o ns⟩

theorem nsScoped_readN (x : String) (k : Option Val → SProg) (onCell onNone : SProg)
    (hk : ∀ o, NsScoped (k o)) (hc : NsScoped onCell) (hn : NsScoped onNone) :
    NsScoped (SProg.readN x k onCell onNone) := by
  intro ns
  simp only [SProg.readN, resolve]
  cases hx : ns x with
  | none => exact hn ns
  | some b =>
    cases b with
    | cell c => exact hc ns
    | ref r => exact ⟨fun _ => ⟨x, hx⟩, fun o => hk o ns⟩

theorem nsNoCalls_readN (x : String) (k : Option Val → SProg) (onCell onNone : SProg)
    (hk : ∀ o, NsNoCalls (k o)) (hc : NsNoCalls onCell) (hn : NsNoCalls onNone) :
    NsNoCalls (SProg.readN x k onCell onNone) := by
  intro ns lt n
  simp only [SProg.readN, resolve]
  cases ns x with
  | none => exact hn ns lt n
  | some b =>
    cases b with
    | cell c => exact hc ns lt n
    | ref r => exact fun o => hk o ns lt n

theorem nsNoCatch_ret (v : Val) : NsNoCatch (.ret v) := fun _ => trivial
theorem nsNoCatch_raise (e : Err) : NsNoCatch (.raise e) := fun _ => trivial
theorem nsScoped_ret (v : Val) : NsScoped (.ret v) := fun _ => trivial
theorem nsScoped_raise (e : Err) : NsScoped (.raise e) := fun _ => trivial
theorem nsNoCalls_ret (v : Val) : NsNoCalls (.ret v) := fun _ _ _ => trivial
theorem nsNoCalls_raise (e : Err) : NsNoCalls (.raise e) := fun _ _ _ => trivial

/-- `x(key)` with the callee's failure propagating -/
theorem nsNoCatch_callN (x : String) (key : Key) (k : Res → SProg) (onRef : Option Val → SProg) (onNone : SProg)
    (hk : ∀ r, NsNoCatch (k r)) (hfail : ∀ e ns, Fails (resolve ns (k (.err e))))
    (hr : ∀ o, NsNoCatch (onRef o)) (hn : NsNoCatch onNone) :
    NsNoCatch (SProg.callN x key k onRef onNone) := by
  intro ns
  simp only [SProg.callN, resolve]
  cases ns x with
  | none => exact hn ns
  | some b =>
    cases b with
    | cell c => exact ⟨fun e => hfail e ns, fun r => hk r ns⟩
    | ref r => exact ⟨(fun h => nomatch h), fun o => hr o ns⟩

theorem nsScoped_callN (x : String) (key : Key) (k : Res → SProg) (onRef : Option Val → SProg) (onNone : SProg)
    (hk : ∀ r, NsScoped (k r)) (hr : ∀ o, NsScoped (onRef o)) (hn : NsScoped onNone) :
    NsScoped (SProg.callN x key k onRef onNone) := by
  intro ns
  simp only [SProg.callN, resolve]
  cases hx : ns x with
  | none => exact hn ns
  | some b =>
    cases b with
    | cell c => exact fun r => hk r ns
    | ref r => exact ⟨fun _ => ⟨x, hx⟩, fun o => hr o ns⟩

/-- no by-name read of a reference at all -/
def NsAttrOnly (p : SProg) : Prop := ∀ ns : Ns, NameReadsIn (fun _ => False) (resolve ns p)

theorem scoped_envOf_attrOnly (P : Params) (t : Tabs) (st : SM.St) (h : ∀ v key, NsAttrOnly (P.srcOf v key)) :
    Scoped (envOf P t st) := by
  intro n
  show NameReadsIn _ ((envOf P t st).formula n)
  rw [envOf_formula]
  cases hi : cellInfo t st n.1 with
  | none => trivial
  | some i =>
    obtain ⟨q, x, m⟩ := i
    exact nameReadsIn_mono (fun _ hf => hf.elim) _ (h m.payload n.2 (nsAt t st q))

theorem wf_envOf_attrOnly (P : Params) (t : Tabs) (st : SM.St) (lt : Node → Node → Prop)
    (hnc : ∀ v key, NsNoCatch (P.srcOf v key)) (hao : ∀ v key, NsAttrOnly (P.srcOf v key))
    (hcalls : ∀ v key, NsNoCalls (P.srcOf v key)) : WF (envOf P t st) lt :=
  ⟨ranked_envOf_noCalls P t st lt hcalls, noCatch_envOf P t st hnc, scoped_envOf_attrOnly P t st hao⟩

end MxModel.Edit
