import MxModel.Kernels.CalcSteps
import MxModel.Proofs.Foldl
/-!
# The plan of `get_calcsteps` (`Kernels/CalcSteps.lean`) in closed form

The two inner loops are filters; iteration `k` of the `while` loop is `stepAt k`, and it exists for exactly
the `k` with `k * size < len` (`steps_eq`: the fuel plays no role for `size ≥ 1`); the blocks are consecutive
slices; `pasted` and the `clear` lists together hold every non-target of the blocks done so far exactly once
(`cleared_pasted_count`), and under a topological order `pasted` ends empty.
-/
namespace MxModel.CalcSteps

/-- the decision of the first inner loop: paste here? -/
def pasteHere (succs : Node → List Node) (targets block : List Node) (n : Node) : Bool :=
  decide (n ∈ targets) || hasSuccOutside succs block n

theorem hasSuccOutside_false {succs : Node → List Node} {inside : List Node} {n : Node} :
    hasSuccOutside succs inside n = false ↔ ∀ s ∈ succs n, s ∈ inside := by
  simp [hasSuccOutside]

theorem hasSuccOutside_true {succs : Node → List Node} {inside : List Node} {n : Node} :
    hasSuccOutside succs inside n = true ↔ ∃ s ∈ succs n, s ∉ inside := by
  simp [hasSuccOutside]

theorem hasSuccOutside_mono {succs : Node → List Node} {a b : List Node} {n : Node}
    (hab : ∀ x ∈ a, x ∈ b) (h : hasSuccOutside succs b n = true) :
    hasSuccOutside succs a n = true := by
  obtain ⟨s, hs, hn⟩ := hasSuccOutside_true.mp h
  exact hasSuccOutside_true.mpr ⟨s, hs, fun hc => hn (hab s hc)⟩

theorem classify_eq (succs : Node → List Node) (targets block : List Node) (l : List Node) (c : Cur) :
    classify succs targets block l c =
      { paste := c.paste ++ l.filter (pasteHere succs targets block),
        clear := c.clear ++ l.filter (fun n => !pasteHere succs targets block n),
        targets := c.targets ++ l.filter (fun n => decide (n ∈ targets)) } := by
  induction l generalizing c with
  | nil => simp [classify]
  | cons n ns ih =>
    unfold classify
    by_cases ht : n ∈ targets
    · simp [ht, ih, pasteHere]
    · by_cases hs : hasSuccOutside succs block n = true
      · simp [ht, hs, ih, pasteHere]
      · simp [ht, hs, ih, pasteHere]

/-- `done` is what the loop has gone through and kept -/
theorem sweep_eq (succs : Node → List Node) (accum : List Node) (copy done clear : List Node)
    (hd : ∀ x ∈ done, hasSuccOutside succs accum x = true) :
    sweep succs accum copy (done ++ copy) clear =
      (done ++ copy.filter (hasSuccOutside succs accum),
       clear ++ copy.filter (fun n => !hasSuccOutside succs accum n)) := by
  induction copy generalizing done clear with
  | nil => simp [sweep]
  | cons n cs ih =>
    unfold sweep
    by_cases hk : hasSuccOutside succs accum n = true
    · have h := ih (done ++ [n]) clear (by
        intro x hx
        rcases List.mem_append.mp hx with hx | hx
        · exact hd x hx
        · rw [List.mem_singleton.mp hx]; exact hk)
      simp only [List.append_assoc, List.singleton_append] at h
      simp [hk, h]
    · -- `pasted.remove(n)` removes the first occurrence, which is this one: `done` has none
      have hn : n ∉ done := fun hmem => hk (hd n hmem)
      have he : (done ++ n :: cs).erase n = done ++ cs := by
        rw [List.erase_append_right _ hn]; simp
      simp only [hk, Bool.false_eq_true, if_false, he]
      rw [ih done (clear ++ [n]) hd]
      simp [hk]

theorem sweep_eq' (succs : Node → List Node) (accum pasted clear : List Node) :
    sweep succs accum pasted pasted clear =
      (pasted.filter (hasSuccOutside succs accum),
       clear ++ pasted.filter (fun n => !hasSuccOutside succs accum n)) := by
  simpa using sweep_eq succs accum pasted [] clear (by simp)

section stepOut
variable (ordered : List Node) (succs : Node → List Node) (targets : List Node) (size : Nat)

theorem stepOut_block (k : Nat) (p : List Node) :
    (stepOut ordered succs targets size k p).block = curBlock ordered size k := rfl

variable {ordered succs targets size}

theorem stepOut_paste (k : Nat) (p : List Node) :
    (stepOut ordered succs targets size k p).paste =
      ((curBlock ordered size k).filter
        (pasteHere succs targets (curBlock ordered size k))).reverse := by
  simp [stepOut, classify_eq]

theorem stepOut_clear (k : Nat) (p : List Node) :
    (stepOut ordered succs targets size k p).clear =
      ((curBlock ordered size k).filter (fun n => !decide (n ∈ targets))).filter
          (fun n => !hasSuccOutside succs (curBlock ordered size k) n)
        ++ p.filter (fun n => !hasSuccOutside succs (accumNodes ordered size k) n) := by
  simp only [stepOut, classify_eq, sweep_eq', List.nil_append, List.filter_filter, pasteHere, Bool.not_or,
    Bool.and_comm]

theorem stepOut_pasted (k : Nat) (p : List Node) :
    (stepOut ordered succs targets size k p).pasted =
      p.filter (hasSuccOutside succs (accumNodes ordered size k))
        ++ ((curBlock ordered size k).filter (fun n => !decide (n ∈ targets))).filter
            (hasSuccOutside succs (curBlock ordered size k)) := by
  simp only [stepOut, classify_eq, sweep_eq', List.nil_append, List.filter_filter]
  congr 1
  apply List.filter_congr
  intro n hn
  by_cases ht : n ∈ targets
  · simp [ht, pasteHere, hn]
  · simp [ht, pasteHere]

end stepOut

/-- `pasted` on entry of iteration `k` -/
def pastedAt (ordered : List Node) (succs : Node → List Node) (targets : List Node) (size : Nat) :
    Nat → List Node
  | 0 => []
  | k + 1 => (stepOut ordered succs targets size k (pastedAt ordered succs targets size k)).pasted

def stepAt (ordered : List Node) (succs : Node → List Node) (targets : List Node) (size k : Nat) :
    StepOut :=
  stepOut ordered succs targets size k (pastedAt ordered succs targets size k)

section loop
variable {ordered : List Node} {succs : Node → List Node} {targets : List Node} {size : Nat}

theorem not_lt_of_le_mul {len step size : Nat} (k : Nat) (h : len ≤ step * size) :
    ¬ (step + k) * size < len := fun hlt =>
  Nat.lt_irrefl _ (Nat.lt_of_lt_of_le hlt (Nat.le_trans h (Nat.mul_le_mul_right size (Nat.le_add_right step k))))

/-- entered at iteration `step` with fuel for the rest of `ordered`, the loop does `n` more iterations, the
`step + k` with `k < n`: exactly those whose condition holds -/
theorem steps_eq (hz : 1 ≤ size) (fuel step : Nat) (hf : ordered.length ≤ step * size + fuel) :
    ∃ n, steps ordered succs targets size fuel step (pastedAt ordered succs targets size step) =
        ((List.range' step n).map (stepAt ordered succs targets size),
          pastedAt ordered succs targets size (step + n)) ∧
      ∀ k, k < n ↔ (step + k) * size < ordered.length := by
  induction fuel generalizing step with
  | zero => exact ⟨0, rfl, fun k => iff_of_false (Nat.not_lt_zero k) (not_lt_of_le_mul k hf)⟩
  | succ fuel ih =>
    unfold steps
    by_cases hc : step * size < ordered.length
    · obtain ⟨n, e, hn⟩ := ih (step + 1) (by rw [Nat.succ_mul]; omega)
      rw [if_pos hc]
      refine ⟨n + 1, ?_, fun k => ?_⟩
      · show (stepAt ordered succs targets size step ::
            (steps ordered succs targets size fuel (step + 1) (pastedAt ordered succs targets size (step + 1))).1,
          (steps ordered succs targets size fuel (step + 1) (pastedAt ordered succs targets size (step + 1))).2) = _
        rw [e, List.range'_succ, List.map_cons, Nat.add_assoc, Nat.add_comm 1 n]
      · cases k with
        | zero => exact iff_of_true (Nat.succ_pos n) hc
        | succ k => rw [Nat.add_lt_add_iff_right, hn k, Nat.add_assoc, Nat.add_comm 1 k]
    · rw [if_neg hc]
      exact ⟨0, rfl, fun k => iff_of_false (Nat.not_lt_zero k) (not_lt_of_le_mul k (Nat.le_of_not_lt hc))⟩

variable (ordered succs targets size) in
def nSteps : Nat := (planSteps ordered succs targets size).length

theorem nSteps_spec (hz : 1 ≤ size) :
    planSteps ordered succs targets size =
        (List.range (nSteps ordered succs targets size)).map (stepAt ordered succs targets size) ∧
      finalPasted ordered succs targets size =
        pastedAt ordered succs targets size (nSteps ordered succs targets size) ∧
      ∀ k, k < nSteps ordered succs targets size ↔ k * size < ordered.length := by
  obtain ⟨n, e, hn⟩ := steps_eq hz ordered.length 0 (Nat.le_add_left _ _)
  have hN : nSteps ordered succs targets size = n := by
    simp only [nSteps, planSteps, pastedAt] at e ⊢
    rw [e, List.length_map, List.length_range']
  simp only [pastedAt, Nat.zero_add] at e hn
  rw [hN]
  exact ⟨by rw [planSteps, e, List.range_eq_range'], by rw [finalPasted, e], hn⟩

theorem planSteps_eq_map (hz : 1 ≤ size) :
    planSteps ordered succs targets size =
      (List.range (nSteps ordered succs targets size)).map (stepAt ordered succs targets size) :=
  (nSteps_spec hz).1

theorem finalPasted_eq (hz : 1 ≤ size) :
    finalPasted ordered succs targets size =
      pastedAt ordered succs targets size (nSteps ordered succs targets size) :=
  (nSteps_spec hz).2.1

theorem lt_nSteps (hz : 1 ≤ size) (k : Nat) :
    k < nSteps ordered succs targets size ↔ k * size < ordered.length :=
  (nSteps_spec hz).2.2 k

/-- the loop is left because its condition fails, not because the fuel ran out -/
theorem nSteps_covers (hz : 1 ≤ size) :
    ordered.length ≤ nSteps ordered succs targets size * size :=
  Nat.le_of_not_lt fun h => Nat.lt_irrefl _ ((lt_nSteps hz _).mpr h)

theorem planSteps_getElem? (hz : 1 ≤ size) (k : Nat) :
    (planSteps ordered succs targets size)[k]? =
      if k * size < ordered.length then some (stepAt ordered succs targets size k) else none := by
  rw [planSteps_eq_map hz, List.getElem?_map]
  by_cases hc : k * size < ordered.length
  · rw [if_pos hc, List.getElem?_range ((lt_nSteps hz k).mpr hc)]; rfl
  · rw [if_neg hc, List.getElem?_eq_none (by
      rw [List.length_range]
      exact Nat.le_of_not_lt fun h => hc ((lt_nSteps hz k).mp h))]; rfl

end loop

section slices
variable {ordered : List Node} {size k : Nat} {n : Node}

theorem take_succ_mul (ordered : List Node) (size k : Nat) :
    ordered.take ((k + 1) * size) = ordered.take (k * size) ++ curBlock ordered size k := by
  rw [Nat.add_mul, Nat.one_mul, List.take_add]; rfl

theorem block_sub_accum (h : n ∈ curBlock ordered size k) : n ∈ accumNodes ordered size k := by
  rw [accumNodes, take_succ_mul]; exact List.mem_append_right _ h

theorem mem_drop_mono {l : List Node} {a b : Nat} (hab : a ≤ b) {n : Node} (h : n ∈ l.drop b) :
    n ∈ l.drop a :=
  List.drop_subset_drop_left l hab h

theorem block_sub_drop (h : n ∈ curBlock ordered size k) : n ∈ ordered.drop (k * size) :=
  List.mem_of_mem_take h

theorem mem_of_mem_block (h : n ∈ curBlock ordered size k) : n ∈ ordered :=
  List.mem_of_mem_drop (block_sub_drop h)

theorem lt_of_mem_block (h : n ∈ curBlock ordered size k) : k * size < ordered.length := by
  have := List.length_pos_of_mem (block_sub_drop h)
  rw [List.length_drop] at this; exact Nat.lt_of_sub_pos this

theorem block_length (hz : 1 ≤ size) (hc : k * size < ordered.length) :
    curBlock ordered size k ≠ [] ∧ (curBlock ordered size k).length ≤ size := by
  have hl : (curBlock ordered size k).length = min size (ordered.length - k * size) := by
    rw [curBlock, List.length_take, List.length_drop]
  refine ⟨fun h => ?_, hl ▸ Nat.min_le_left _ _⟩
  have hpos : 0 < (curBlock ordered size k).length := hl ▸ Nat.lt_min.mpr ⟨hz, Nat.sub_pos_of_lt hc⟩
  rw [h] at hpos; exact Nat.lt_irrefl 0 hpos

theorem mem_take_blocks (k : Nat) :
    n ∈ ordered.take (k * size) ↔ ∃ j, j < k ∧ n ∈ curBlock ordered size j := by
  induction k with
  | zero => simp
  | succ k ih =>
    rw [take_succ_mul, List.mem_append, ih]
    constructor
    · rintro (⟨j, hj, hm⟩ | hm)
      · exact ⟨j, Nat.lt_succ_of_lt hj, hm⟩
      · exact ⟨k, Nat.lt_succ_self k, hm⟩
    · rintro ⟨j, hj, hm⟩
      by_cases hjk : j = k
      · subst hjk; exact Or.inr hm
      · exact Or.inl ⟨j, Nat.lt_of_le_of_ne (Nat.le_of_lt_succ hj) hjk, hm⟩

theorem blocks_flatten (ordered : List Node) (size k : Nat) :
    ((List.range k).map (curBlock ordered size)).flatten = ordered.take (k * size) := by
  induction k with
  | zero => simp
  | succ k ih => simp [List.range_succ, ih, take_succ_mul]

theorem nodup_take_drop_disjoint {l : List Node} (hn : l.Nodup) (m : Nat) {n : Node}
    (h1 : n ∈ l.take m) (h2 : n ∈ l.drop m) : False := by
  rw [← List.take_append_drop m l] at hn
  exact (List.nodup_append.mp hn).2.2 n h1 n h2 rfl

theorem take_block_disjoint (hd : ordered.Nodup) {j : Nat} (hjk : j ≤ k)
    (h1 : n ∈ ordered.take (j * size)) (h2 : n ∈ curBlock ordered size k) : False :=
  nodup_take_drop_disjoint hd (k * size) (List.take_subset_take_left _ (Nat.mul_le_mul_right size hjk) h1) (block_sub_drop h2)

theorem block_unique (hd : ordered.Nodup) {k' : Nat}
    (h : n ∈ curBlock ordered size k) (h' : n ∈ curBlock ordered size k') : k' = k := by
  rcases Nat.lt_trichotomy k' k with hlt | he | hlt
  · exact (take_block_disjoint hd (show k' + 1 ≤ k from hlt) (block_sub_accum h') h).elim
  · exact he
  · exact (take_block_disjoint hd (show k + 1 ≤ k' from hlt) (block_sub_accum h) h').elim

end slices

section topo
variable {succs : Node → List Node} {l : List Node}

theorem isTopo_cons {n : Node} {post : List Node} :
    isTopo succs (n :: post) = true ↔ (∀ s ∈ succs n, s ∈ post) ∧ isTopo succs post = true := by
  simp [isTopo]

theorem isTopo_of_append {a b : List Node}
    (h : isTopo succs (a ++ b) = true) : isTopo succs b = true := by
  induction a with
  | nil => exact h
  | cons x a ih => exact ih (isTopo_cons.mp h).2

theorem isTopo_drop (h : isTopo succs l = true) (m : Nat) :
    isTopo succs (l.drop m) = true :=
  isTopo_of_append (a := l.take m) (by rwa [List.take_append_drop])

theorem isTopo_closed (h : isTopo succs l = true)
    {n s : Node} (hn : n ∈ l) (hs : s ∈ succs n) : s ∈ l := by
  induction l with
  | nil => cases hn
  | cons a post ih =>
    have h' := isTopo_cons.mp h
    rcases List.mem_cons.mp hn with rfl | hn
    · exact List.mem_cons_of_mem _ (h'.1 s hs)
    · exact List.mem_cons_of_mem _ (ih h'.2 hn)

theorem isTopo_suffix_closed (h : isTopo succs l = true)
    (m : Nat) {n s : Node} (hn : n ∈ l.drop m) (hs : s ∈ succs n) : s ∈ l.drop m :=
  isTopo_closed (isTopo_drop h m) hn hs

theorem isTopo_pred_strict {pre post : List Node} {n p : Node}
    (h : isTopo succs (pre ++ n :: post) = true) (hd : (pre ++ n :: post).Nodup)
    (hp : p ∈ pre ++ n :: post) (hs : n ∈ succs p) : p ∈ pre := by
  have hn : n ∉ post := (List.nodup_cons.mp (List.nodup_append.mp hd).2.1).1
  have h' := isTopo_cons.mp (isTopo_of_append h)
  rcases List.mem_append.mp hp with hp | hp
  · exact hp
  · rcases List.mem_cons.mp hp with rfl | hp
    · exact (hn (h'.1 _ hs)).elim
    · exact (hn (isTopo_closed h'.2 hp hs)).elim

theorem isTopo_pred_before (h : isTopo succs l = true)
    (hd : l.Nodup) (m : Nat) {p n : Node} (hp : p ∈ l) (hn : n ∈ l.take m) (hs : n ∈ succs p) :
    p ∈ l.take m := by
  obtain ⟨pre, rest, e⟩ := List.append_of_mem hn
  have el : l = pre ++ n :: (rest ++ l.drop m) := by
    rw [← List.cons_append, ← List.append_assoc, ← e, List.take_append_drop]
  rw [el] at h hd hp
  rw [e]; exact List.mem_append_left _ (isTopo_pred_strict h hd hp hs)

theorem isTopo_pred_take (h : isTopo succs l = true)
    (hd : l.Nodup) {i : Nat} (hi : i < l.length) {p : Node} (hp : p ∈ l) (hs : l[i] ∈ succs p) :
    p ∈ l.take i := by
  have el : l = l.take i ++ l[i] :: l.drop (i + 1) := by
    rw [← List.drop_eq_getElem_cons hi, List.take_append_drop]
  rw [el] at h hd hp
  exact isTopo_pred_strict h hd hp hs

end topo

theorem count_filter_add_count_filter_not (p : Node → Bool) (a : Node) (l : List Node) :
    (l.filter p).count a + (l.filter (fun n => !p n)).count a = l.count a := by
  simp only [List.count_eq_countP]
  exact (List.countP_eq_countP_filter_add l _ p).symm

section bookkeeping
variable (ordered : List Node) (succs : Node → List Node) (targets : List Node) (size : Nat)

def clearedBefore (k : Nat) : List Node :=
  ((List.range k).map (fun i => (stepAt ordered succs targets size i).clear)).flatten

theorem clearedBefore_succ (k : Nat) :
    clearedBefore ordered succs targets size (k + 1) =
      clearedBefore ordered succs targets size k ++ (stepAt ordered succs targets size k).clear := by
  simp [clearedBefore, List.range_succ]

theorem mem_clearedBefore {k : Nat} {n : Node} :
    n ∈ clearedBefore ordered succs targets size k ↔
      ∃ i, i < k ∧ n ∈ (stepAt ordered succs targets size i).clear := by
  simp only [clearedBefore, List.mem_flatten, List.mem_map, List.mem_range]
  constructor
  · rintro ⟨l, ⟨i, hi, rfl⟩, hn⟩; exact ⟨i, hi, hn⟩
  · rintro ⟨i, hi, hn⟩; exact ⟨_, ⟨i, hi, rfl⟩, hn⟩

theorem step_count (k : Nat) (p : List Node) (a : Node) :
    (stepOut ordered succs targets size k p).clear.count a
      + (stepOut ordered succs targets size k p).pasted.count a
      = p.count a + ((curBlock ordered size k).filter (fun n => !decide (n ∈ targets))).count a := by
  rw [stepOut_clear, stepOut_pasted, List.count_append, List.count_append]
  rw [← count_filter_add_count_filter_not (hasSuccOutside succs (accumNodes ordered size k)) a p,
    ← count_filter_add_count_filter_not (hasSuccOutside succs (curBlock ordered size k)) a
      ((curBlock ordered size k).filter (fun n => !decide (n ∈ targets)))]
  ac_rfl

theorem cleared_pasted_count (k : Nat) (a : Node) :
    (clearedBefore ordered succs targets size k).count a
      + (pastedAt ordered succs targets size k).count a
      = ((ordered.take (k * size)).filter (fun n => !decide (n ∈ targets))).count a := by
  induction k with
  | zero => simp [clearedBefore, pastedAt]
  | succ k ih =>
    have hs := step_count ordered succs targets size k (pastedAt ordered succs targets size k) a
    rw [clearedBefore_succ, take_succ_mul, List.filter_append, List.count_append, List.count_append, ← ih]
    show _ + _ + (stepOut ordered succs targets size k (pastedAt ordered succs targets size k)).pasted.count a = _
    rw [Nat.add_assoc, stepAt, hs, Nat.add_assoc]

variable {ordered succs targets size}

theorem pastedAt_sub {k : Nat} {n : Node} (h : n ∈ pastedAt ordered succs targets size k) :
    n ∈ ordered.take (k * size) ∧ n ∉ targets := by
  have hc := cleared_pasted_count ordered succs targets size k n
  have hpos : 0 < (pastedAt ordered succs targets size k).count n := List.count_pos_iff.mpr h
  have hm := List.mem_filter.mp (List.count_pos_iff.mp (Nat.lt_of_lt_of_le hpos (hc ▸ Nat.le_add_left _ _)))
  exact ⟨hm.1, by simpa using hm.2⟩

theorem mem_stepAt_paste {k : Nat} {x : Node} :
    x ∈ (stepAt ordered succs targets size k).paste ↔
      x ∈ curBlock ordered size k ∧
        (x ∈ targets ∨ hasSuccOutside succs (curBlock ordered size k) x = true) := by
  unfold stepAt
  rw [stepOut_paste, List.mem_reverse, List.mem_filter, pasteHere, Bool.or_eq_true, decide_eq_true_eq]

theorem mem_stepAt_clear {k : Nat} {x : Node} :
    x ∈ (stepAt ordered succs targets size k).clear ↔
      (x ∈ curBlock ordered size k ∧ x ∉ targets ∧ hasSuccOutside succs (curBlock ordered size k) x = false) ∨
      (x ∈ pastedAt ordered succs targets size k ∧
        hasSuccOutside succs (accumNodes ordered size k) x = false) := by
  unfold stepAt
  simp only [stepOut_clear, List.mem_append, List.mem_filter, Bool.not_eq_true', decide_eq_false_iff_not,
    and_assoc]

theorem mem_pastedAt_succ {k : Nat} {x : Node} :
    x ∈ pastedAt ordered succs targets size (k + 1) ↔
      (x ∈ pastedAt ordered succs targets size k ∧
        hasSuccOutside succs (accumNodes ordered size k) x = true) ∨
      (x ∈ curBlock ordered size k ∧ x ∉ targets ∧
        hasSuccOutside succs (curBlock ordered size k) x = true) := by
  show x ∈ (stepOut ordered succs targets size k (pastedAt ordered succs targets size k)).pasted ↔ _
  simp only [stepOut_pasted, List.mem_append, List.mem_filter, Bool.not_eq_true', decide_eq_false_iff_not,
    and_assoc]

theorem clear_succs_in_accum {k : Nat} {n s : Node}
    (h : n ∈ (stepAt ordered succs targets size k).clear) (hs : s ∈ succs n) :
    s ∈ accumNodes ordered size k := by
  rcases (mem_stepAt_clear).mp h with ⟨_, _, h2⟩ | ⟨_, h2⟩
  · exact block_sub_accum (hasSuccOutside_false.mp h2 s hs)
  · exact hasSuccOutside_false.mp h2 s hs

theorem pastedAt_of_pending (k : Nat) {n : Node} (hn : n ∈ ordered.take (k * size))
    (hnt : n ∉ targets) (hs : hasSuccOutside succs (ordered.take (k * size)) n = true) :
    n ∈ pastedAt ordered succs targets size k := by
  induction k with
  | zero => simp at hn
  | succ k ih =>
    rw [mem_pastedAt_succ]
    rw [take_succ_mul, List.mem_append] at hn
    rcases hn with hn | hn
    · exact Or.inl ⟨ih hn (hasSuccOutside_mono (fun x hx =>
        List.take_subset_take_left _ (Nat.mul_le_mul_right size (Nat.le_succ k)) hx) hs), hs⟩
    · exact Or.inr ⟨hn, hnt, hasSuccOutside_mono (fun x hx => by
        rw [take_succ_mul]; exact List.mem_append_right _ hx) hs⟩

theorem pred_pasted_until (ht : isTopo succs ordered = true) (hd : ordered.Nodup) {k : Nat} {n p : Node}
    (hn : n ∈ curBlock ordered size k) (hp : p ∈ ordered) (hs : n ∈ succs p) :
    p ∈ curBlock ordered size k ∨
      ((∃ j, j < k ∧ p ∈ curBlock ordered size j ∧ p ∈ (stepAt ordered succs targets size j).paste) ∧
        ∀ i, i < k → p ∉ (stepAt ordered succs targets size i).clear) := by
  have hpt := isTopo_pred_before ht hd ((k + 1) * size) hp (block_sub_accum hn) hs
  rw [take_succ_mul] at hpt
  refine (List.mem_append.mp hpt).symm.imp_right fun hpT => ?_
  have hnT : ∀ i, i < k → n ∉ ordered.take ((i + 1) * size) := fun i hi hc =>
    take_block_disjoint hd hi hc hn
  obtain ⟨j, hj, hpj⟩ := (mem_take_blocks k).mp hpT
  exact ⟨⟨j, hj, hpj, mem_stepAt_paste.mpr ⟨hpj, Or.inr (hasSuccOutside_true.mpr
      ⟨n, hs, fun hc => hnT j hj (block_sub_accum hc)⟩)⟩⟩,
    fun i hi hpl => hnT i hi (clear_succs_in_accum hpl hs)⟩

/-- nothing has a successor outside `ordered`, and nothing in the last block has one outside that block -/
theorem pastedAt_last_nil (ht : isTopo succs ordered = true) (k : Nat)
    (hlast : ordered.length ≤ (k + 1) * size) :
    pastedAt ordered succs targets size (k + 1) = [] := by
  have hacc : accumNodes ordered size k = ordered := List.take_of_length_le hlast
  have hblk : curBlock ordered size k = ordered.drop (k * size) := by
    apply List.take_of_length_le
    rw [List.length_drop]
    exact Nat.sub_le_of_le_add (by rw [Nat.add_comm, ← Nat.succ_mul]; exact hlast)
  rw [List.eq_nil_iff_forall_not_mem]
  intro n hn
  rcases (mem_pastedAt_succ).mp hn with ⟨hp, hs⟩ | ⟨hb, _, hs⟩
  · rw [hacc] at hs
    obtain ⟨s, hs, hns⟩ := hasSuccOutside_true.mp hs
    exact hns (isTopo_closed ht (List.mem_of_mem_take (pastedAt_sub hp).1) hs)
  · rw [hblk] at hs hb
    obtain ⟨s, hs, hns⟩ := hasSuccOutside_true.mp hs
    exact hns (isTopo_suffix_closed ht _ hb hs)

theorem finalPasted_nil (hz : 1 ≤ size) (ht : isTopo succs ordered = true) :
    finalPasted ordered succs targets size = [] := by
  rw [finalPasted_eq hz]
  cases hN : nSteps ordered succs targets size with
  | zero => rfl
  | succ k => exact pastedAt_last_nil ht k (hN ▸ nSteps_covers hz)

end bookkeeping

theorem calcBlocks_flatMap (l : List StepOut) :
    calcBlocks (l.flatMap StepOut.actions) = l.map (·.block) := by
  induction l with
  | nil => rfl
  | cons o l ih => simp [StepOut.actions, calcBlocks, ih]

theorem pasteLists_flatMap (l : List StepOut) :
    pasteLists (l.flatMap StepOut.actions) = l.map (·.paste) := by
  induction l with
  | nil => rfl
  | cons o l ih => simp [StepOut.actions, pasteLists, ih]

theorem clearLists_flatMap (l : List StepOut) :
    clearLists (l.flatMap StepOut.actions) = l.map (·.clear) := by
  induction l with
  | nil => rfl
  | cons o l ih => simp [StepOut.actions, clearLists, ih]

section get
variable {ordered : List Node} {succs : Node → List Node} {targets : List Node} {size : Nat} (hz : 1 ≤ size)
include hz

theorem planSteps_map_get {α : Type} (g : StepOut → α) {k : Nat} {y : α} :
    ((planSteps ordered succs targets size).map g)[k]? = some y ↔
      k * size < ordered.length ∧ y = g (stepAt ordered succs targets size k) := by
  rw [List.getElem?_map, planSteps_getElem? hz]
  by_cases hc : k * size < ordered.length
  · simp [hc, eq_comm]
  · simp [hc]

theorem blocks_get {k : Nat} {b : List Node} :
    (calcBlocks (calcSteps ordered succs targets size))[k]? = some b ↔
      k * size < ordered.length ∧ b = curBlock ordered size k := by
  rw [calcSteps, calcBlocks_flatMap]
  exact planSteps_map_get hz _

theorem clears_get {k : Nat} {c : List Node} :
    (clearLists (calcSteps ordered succs targets size))[k]? = some c ↔
      k * size < ordered.length ∧ c = (stepAt ordered succs targets size k).clear := by
  rw [calcSteps, clearLists_flatMap]
  exact planSteps_map_get hz _

theorem pastes_get {k : Nat} {l : List Node} :
    (pasteLists (calcSteps ordered succs targets size))[k]? = some l ↔
      k * size < ordered.length ∧ l = (stepAt ordered succs targets size k).paste := by
  rw [calcSteps, pasteLists_flatMap]
  exact planSteps_map_get hz _

theorem blocks_get_of_mem_take {k : Nat} {n : Node} (h : n ∈ ordered.take ((k + 1) * size)) :
    ∃ (k' : Nat) (b' : List Node), k' ≤ k ∧ (calcBlocks (calcSteps ordered succs targets size))[k']? = some b' ∧
      n ∈ b' := by
  obtain ⟨j, hj, hm⟩ := (mem_take_blocks (k + 1)).mp h
  exact ⟨j, _, Nat.le_of_lt_succ hj, (blocks_get hz).mpr ⟨lt_of_mem_block hm, rfl⟩, hm⟩

theorem blocks_flatten_all :
    (calcBlocks (calcSteps ordered succs targets size)).flatten = ordered := by
  rw [calcSteps, calcBlocks_flatMap, planSteps_eq_map hz, List.map_map]
  exact (blocks_flatten ordered size _).trans
    (List.take_of_length_le (nSteps_covers hz))

theorem clears_flatten :
    (clearLists (calcSteps ordered succs targets size)).flatten =
      clearedBefore ordered succs targets size (nSteps ordered succs targets size) := by
  rw [calcSteps, clearLists_flatMap, planSteps_eq_map hz, List.map_map]
  rfl

end get

end MxModel.CalcSteps
