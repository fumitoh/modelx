import MxModel.Proofs.SerialAssemble
import MxModel.Proofs.SerialFlat
import MxModel.Proofs.SerialExec
/-! `read (write m) = .ok m`: the parts put together.  Reading a written description is running the reader's checks
on the description itself (`read_write_checks`, no hypothesis of `Hk` but `NoMarkerInText`); the checks pass
(`run_write`); what comes back is `normalise m` (`read_write_normalise`), which is `m` (`read_write`). -/
namespace MxModel.Serial
open MxModel.PathCodec MxModel.Generated

/-- all deferred instructions of the written description, in parse order -/
def allOps (m : MDesc) : List (Path × Op) :=
  (modelOpsOf m).map (fun o => (([] : Path), o)) ++ flatNodes [] (nodesOf m.name [] m.spaces)

def spaceInfos (m : MDesc) : List (Path × SpaceInfo) := infosOfL [] m.spaces

theorem allOps_eq (m : MDesc) :
    allOps m = tag [] (modelOpsOf m) ++ (spaceInfos m).flatMap (fun e => tag (own e) (opsOfSpace m.name e.1 e.2)) := by
  simp [allOps, tag, spaceInfos, flatNodes_eq]

theorem filter_tag (p : Path) (ops : List Op) (k : Nat) :
    (tag p ops).filter (inPhase (·.2.phase) k) = tag p (ops.filter (inPhase Op.phase k)) := by
  unfold tag
  rw [List.filter_map]
  rfl

theorem filter_allOps (m : MDesc) (k : Nat) :
    (allOps m).filter (inPhase (·.2.phase) k) =
      tag [] ((modelOpsOf m).filter (inPhase Op.phase k)) ++
        (spaceInfos m).flatMap (fun e => tag (own e) ((opsOfSpace m.name e.1 e.2).filter (inPhase Op.phase k))) := by
  rw [allOps_eq, List.filter_append, filter_tag, List.filter_flatMap]
  simp only [filter_tag]

theorem baseDefs_eq (m : MDesc) : baseDefs m = (spaceInfos m).map (fun e => (own e, e.2.bases)) :=
  spacesBases_eq [] m.spaces

theorem phase1_allOps (m : MDesc) :
    (allOps m).filter (inPhase (·.2.phase) 1) = (baseDefs m).map (basesOp m.name) := by
  rw [filter_allOps, baseDefs_eq]
  simp only [filter_modelOpsOf, filter_opsOfSpace, Nat.reduceEqDiff, ↓reduceIte, List.append_nil, List.nil_append, tag, List.map_nil, List.map_cons, List.map_map]
  induction spaceInfos m with
  | nil => rfl
  | cons e rest ih => simp [List.flatMap_cons, ih, basesOp, Function.comp_def]

def dynDefs (m : MDesc) : List (Path × DynInput) :=
  (spaceInfos m).flatMap (fun e => e.2.dynInputs.map (fun d => (own e, d)))

theorem phase4_allOps (m : MDesc) :
    (allOps m).filter (inPhase (·.2.phase) 4) =
      (dynDefs m).map (fun e => (e.1, dynOpOf m.name e.1 e.2)) := by
  rw [filter_allOps]
  simp only [filter_modelOpsOf, filter_opsOfSpace, Nat.reduceEqDiff, ↓reduceIte, List.append_nil, List.nil_append, tag, List.map_nil, dynDefs, dynOpsOf,
    List.map_flatMap, List.map_map, Function.comp_def]
  rfl

theorem refDefs_eq (m : MDesc) :
    refDefs m = m.refs.map (fun r => (([] : Path), (⟨r.1, r.2, .auto⟩ : RefD))) ++
      (spaceInfos m).flatMap (fun e => e.2.refs.map (fun r => (own e, r))) := by
  simp [refDefs, spaceInfos, spacesRefDefs_eq]

theorem phase3_allOps (m : MDesc) :
    (allOps m).filter (inPhase (·.2.phase) 3) = (refDefs m).map (refOpAt m.name) := by
  rw [filter_allOps, refDefs_eq, List.map_append]
  simp only [filter_modelOpsOf, filter_opsOfSpace, Nat.reduceEqDiff, ↓reduceIte, List.append_nil, List.nil_append]
  congr 1
  · simp [tag, modelRefs, List.map_map, Function.comp_def, refOpAt, refOpOf]
  · have hown : ∀ e : Path × SpaceInfo, (own e == []) = false := fun e => beq_eq_false_iff_ne.mpr (own_ne_nil e)
    simp only [tag, refOps, spaceRefs, List.map_flatMap, List.map_map,
      Function.comp_def, refOpAt, hown]
    rfl

def cellDefs (m : MDesc) : List (Path × CellsD) :=
  (spaceInfos m).flatMap (fun e => e.2.cells.map (fun c => (own e, c)))

theorem phase2_allOps (m : MDesc) :
    (allOps m).filter (inPhase (·.2.phase) 2) =
      (cellDefs m).map (fun e => (e.1, Op.loadPickle e.2.name e.2.inputs)) := by
  rw [filter_allOps]
  simp only [filter_modelOpsOf, filter_opsOfSpace, Nat.reduceEqDiff, ↓reduceIte, List.append_nil, List.nil_append, tag, List.map_nil, cellDefs,
    List.map_flatMap, List.map_map, Function.comp_def]

theorem pickleIds_eq (m : MDesc) :
    pickleIds m = m.refs.flatMap (fun r => refValIds r.2) ++ (spaceInfos m).flatMap (fun e => infoIds e.2) := by
  simp [pickleIds, spaceInfos, spacesIds_eq []]

theorem infoIds_sub (m : MDesc) : ∀ e ∈ spaceInfos m, ∀ x ∈ infoIds e.2, (ctxOf m).pickle.contains x = true := by
  intro e he x hx
  simp only [ctxOf, List.contains_iff_mem, pickleIds_eq, List.mem_append, List.mem_flatMap]
  exact .inr ⟨e, he, hx⟩

theorem cellDefs_ids (m : MDesc) : ∀ e ∈ cellDefs m, ∀ x ∈ e.2.inputs,
    (ctxOf m).pickle.contains x.1 = true ∧ (ctxOf m).pickle.contains x.2 = true := by
  intro e he x hx
  simp only [cellDefs, List.mem_flatMap, List.mem_map] at he
  obtain ⟨i, hi, c, hc, rfl⟩ := he
  have hsub : ∀ y ∈ [x.1, x.2], y ∈ infoIds i.2 := fun y hy =>
    List.mem_append_left _ (List.mem_append_right _ (List.mem_flatMap.mpr ⟨c, hc, List.mem_flatMap.mpr ⟨x, hx, hy⟩⟩))
  exact ⟨infoIds_sub m i hi _ (hsub _ (by simp)), infoIds_sub m i hi _ (hsub _ (by simp))⟩

theorem dynDefs_ids (m : MDesc) : ∀ e ∈ dynDefs m, ∀ x ∈ [e.2.key, e.2.val] ++ e.2.addr.flatMap elemIds,
    (ctxOf m).pickle.contains x = true := by
  intro e he x hx
  simp only [dynDefs, List.mem_flatMap, List.mem_map] at he
  obtain ⟨i, hi, d, hd, rfl⟩ := he
  exact infoIds_sub m i hi x (List.mem_append_right _ (List.mem_flatMap.mpr ⟨d, hd, hx⟩))

theorem bases_ok (m : MDesc) (hwf : WellFormed m) :
    ∀ e ∈ baseDefs m, ∀ b ∈ e.2, (ctxOf m).spaces.contains b = true ∧ b.all validName = true := by
  intro e he b hb
  rw [baseDefs_eq] at he
  simp only [List.mem_map] at he
  obtain ⟨i, hi, rfl⟩ := he
  have hinfo := spacesWF_infos (ctxOf m) (baseDefs m) [] m.spaces (wellFormed_parts m hwf).2.2.2.2 i hi
  exact (infoWF_parts _ _ _ hinfo).2.2.2.2.2.2 b hb

theorem refDefs_ok (m : MDesc) (hwf : WellFormed m) : ∀ e ∈ refDefs m,
    refValWF (ctxOf m) (baseDefs m) e.2.val = true ∧
      ∀ x ∈ refValIds e.2.val, (ctxOf m).pickle.contains x = true := by
  intro e he
  rw [refDefs_eq] at he
  rcases List.mem_append.mp he with he | he
  · simp only [List.mem_map] at he
    obtain ⟨r, hr, rfl⟩ := he
    refine ⟨((wellFormed_parts m hwf).2.1 r hr).2, fun x hx => ?_⟩
    simp only [ctxOf, List.contains_iff_mem, pickleIds_eq, List.mem_append, List.mem_flatMap]
    exact .inl ⟨r, hr, hx⟩
  · simp only [List.mem_flatMap, List.mem_map] at he
    obtain ⟨i, hi, r, hr, rfl⟩ := he
    have hinfo := spacesWF_infos (ctxOf m) (baseDefs m) [] m.spaces (wellFormed_parts m hwf).2.2.2.2 i hi
    exact ⟨((infoWF_parts _ _ _ hinfo).2.2.2.1 r hr).2, fun x hx => infoIds_sub m i hi x
      (List.mem_append_left _ (List.mem_append_left _ (List.mem_flatMap.mpr ⟨r, hr, hx⟩)))⟩

theorem ctx_of_nodes (m : MDesc) :
    (⟨m.name, nodesPaths [] (nodesOf m.name [] m.spaces), nodesCells [] (nodesOf m.name [] m.spaces),
      pickleIds m⟩ : Ctx) = ctxOf m := by
  simp [ctxOf, nodesPaths_eq, nodesCells_eq, spacesPaths_eq, spacesCells_eq]

/-- the checks of the reader that can fail on a written description, in its order of work: the bases in tree
order, then the references, then the inputs of ItemSpaces -/
def runChecks (m : MDesc) : Except Err RState :=
  (runE (step (ctxOf m)) RState.init ((baseDefs m).map (basesOp m.name))).bind fun st =>
  (runE (step (ctxOf m)) st ((refDefs m).map (refOpAt m.name))).bind fun st =>
  runE (step (ctxOf m)) st ((dynDefs m).map (fun e => (e.1, dynOpOf m.name e.1 e.2)))

/-- executing all instructions in scheduled order is `runChecks`: the first and the third phase change nothing -/
theorem run_allOps (m : MDesc) :
    runE (step (ctxOf m)) RState.init (schedule (fun i => i.2.phase) (allOps m)) = runChecks m := by
  have h0 : runE (step (ctxOf m)) RState.init ((allOps m).filter (inPhase (·.2.phase) 0)) =
      .ok RState.init :=
    run_phase0 _ _ _ rfl (fun e he => by simpa [inPhase] using (List.mem_filter.mp he).2)
  have h2 := fun st => run_loads (ctxOf m) st (cellDefs m) (cellDefs_ids m)
  rw [schedule_eq, phase1_allOps, phase2_allOps, phase3_allOps, phase4_allOps]
  simp only [List.append_assoc, runE_append, h0, h2, Except.bind, runChecks]

/-- **reading a written description is running the checks on the description**: the error of the first check
that fails, or the spaces as their instructions rebuild them, without the ItemSpaces deleted on the way -/
theorem read_write_checks (m : MDesc) (hwf : WellFormed m) (hclean : NoMarkerInText m) :
    read (write m) = (runChecks m).map (fun st =>
      ⟨m.name, m.doc, m.allowNone, m.refs, assembleNodes m.name st.dropped [] (nodesOf m.name [] m.spaces)⟩) := by
  unfold read
  simp only [parseModel_write m hwf hclean, phaseChecks_eq, Bool.not_true, Bool.false_eq_true, if_false,
    ctx_of_nodes]
  rw [show (modelOpsOf m).map (fun o => (([] : Path), o)) ++ flatNodes [] (nodesOf m.name [] m.spaces) = allOps m
    from rfl, run_allOps]
  cases runChecks m <;> simp only [assemble_model, Except.map]

theorem run_write (m : MDesc) (hwf : WellFormed m) (hb : NoBasesOrderConflict m) (hr : NoRefOverrideOrder m)
    (hrr : NoRelRefOverrideOrder m) : ∃ st, runChecks m = .ok st ∧ st.dropped = [] := by
  have hmodel : validName (ctxOf m).model = true := (wellFormed_parts m hwf).1
  have h1 : runE (step (ctxOf m)) RState.init ((baseDefs m).map (basesOp m.name)) =
      .ok ⟨baseDefs m, [], [], []⟩ :=
    run_bases (ctxOf m) hmodel (baseDefs m) RState.init rfl (bases_ok m hwf) hb
  have h3 : runE (step (ctxOf m)) ⟨baseDefs m, [], [], []⟩ ((refDefs m).map (refOpAt m.name)) =
      .ok ⟨baseDefs m, (refDefs m).map (fun e => (e.1, e.2.name)), [], []⟩ :=
    run_refs (ctxOf m) (refDefs m) ⟨baseDefs m, [], [], []⟩ rfl (fun e he => (refDefs_ok m hwf e he).2)
      (fun e he => (refDefs_ok m hwf e he).1) hr.refsPass hrr.refsPass
  obtain ⟨st, h4, hdrop⟩ := run_dyn (ctxOf m)
    ⟨baseDefs m, (refDefs m).map (fun e => (e.1, e.2.name)), [], []⟩ (dynDefs m) (dynDefs_ids m)
  exact ⟨st, by simp only [runChecks, h1, h3, Except.bind]; exact h4, hdrop⟩

/-- **what reading a written description gives**: the description up to `normalise`, whenever no text holds a
section marker and the reader's checks pass in its order of work -/
theorem read_write_normalise (m : MDesc) (hwf : WellFormed m) (hclean : NoMarkerInText m)
    (hb : NoBasesOrderConflict m) (hr : NoRefOverrideOrder m) (hrr : NoRelRefOverrideOrder m) :
    read (write m) = .ok (normalise m) := by
  obtain ⟨st, hrun, hdrop⟩ := run_write m hwf hb hr hrr
  obtain ⟨hmodel, _, _, _, hspaces⟩ := wellFormed_parts m hwf
  rw [read_write_checks m hwf hclean, hrun]
  simp only [Except.map, hdrop, normalise,
    assemble_normSpaces m.name hmodel (ctxOf m) (baseDefs m) [] m.spaces hspaces]

/-- **the round trip**: the three remaining hypotheses of `Hk` say that `normalise` changes nothing -/
theorem read_write (m : MDesc) (hwf : WellFormed m) (hk : Hk m) : read (write m) = .ok m := by
  rw [read_write_normalise m hwf hk.sectionMarker hk.basesOrder hk.refOverride hk.relRefOverride,
    normalise_eq_self m hwf hk.refmode hk.derivedInput hk.defText]

end MxModel.Serial
