import MxModel.Kernels.IOSpec
/-! Basic facts about the association lists and look-ups of the IOSpec model. -/
namespace MxModel.IOSpec

section alist
variable {κ α : Type} [DecidableEq κ]

theorem alookup_ainsert (l : List (κ × α)) (k k' : κ) (v : α) :
    alookup (ainsert l k v) k' = if k = k' then some v else alookup l k' := by
  induction l with
  | nil => simp [ainsert, alookup]
  | cons e rest ih =>
    obtain ⟨k0, v0⟩ := e
    simp only [ainsert]
    split
    · rename_i h; subst h
      simp only [alookup]
      split <;> simp_all
    · rename_i h
      simp only [alookup, ih]
      split <;> split <;> simp_all

theorem alookup_aerase (l : List (κ × α)) (k k' : κ) :
    alookup (aerase l k) k' = if k = k' then none else alookup l k' := by
  induction l with
  | nil => simp [aerase, alookup]
  | cons e rest ih =>
    obtain ⟨k0, v0⟩ := e
    simp only [aerase, List.filter] at ih ⊢
    by_cases h : k0 = k
    · subst h
      simp only [ne_eq, not_true_eq_false, decide_false, ih, alookup]
      split <;> simp_all
    · simp only [ne_eq, h, not_false_eq_true, decide_true, alookup, ih]
      split <;> split <;> simp_all

theorem alookup_mem {l : List (κ × α)} {k : κ} {v : α} (h : alookup l k = some v) : (k, v) ∈ l := by
  induction l with
  | nil => simp [alookup] at h
  | cons e rest ih =>
    obtain ⟨k0, v0⟩ := e
    simp only [alookup] at h
    split at h
    · rename_i hk; cases h; subst hk; simp
    · exact List.mem_cons_of_mem _ (ih h)

theorem mem_alookup {l : List (κ × α)} (hn : (l.map (·.1)).Nodup) {k : κ} {v : α} (h : (k, v) ∈ l) :
    alookup l k = some v := by
  induction l with
  | nil => simp at h
  | cons e rest ih =>
    obtain ⟨k0, v0⟩ := e
    simp only [List.map_cons, List.nodup_cons, List.mem_map, not_exists, not_and] at hn
    simp only [List.mem_cons, Prod.mk.injEq] at h
    simp only [alookup]
    rcases h with ⟨rfl, rfl⟩ | h
    · simp
    · have : k0 ≠ k := fun hk => hn.1 (k, v) h (by simp [hk])
      simp only [this, if_false]
      exact ih hn.2 h

theorem mem_ainsert_keys (l : List (κ × α)) (k : κ) (v : α) (k' : κ) :
    k' ∈ (ainsert l k v).map (·.1) ↔ k' = k ∨ k' ∈ l.map (·.1) := by
  induction l with
  | nil => simp [ainsert]
  | cons e rest ih =>
    obtain ⟨k0, v0⟩ := e
    simp only [ainsert]
    split
    · rename_i h; subst h; simp
    · simp only [List.map_cons, List.mem_cons, ih]
      grind

theorem ainsert_keys_nodup {l : List (κ × α)} (hn : (l.map (·.1)).Nodup) (k : κ) (v : α) :
    ((ainsert l k v).map (·.1)).Nodup := by
  induction l with
  | nil => simp [ainsert]
  | cons e rest ih =>
    obtain ⟨k0, v0⟩ := e
    simp only [List.map_cons, List.nodup_cons] at hn
    simp only [ainsert]
    split
    · rename_i h; subst h
      simpa using hn
    · rename_i h
      simp only [List.map_cons, List.nodup_cons, mem_ainsert_keys]
      exact ⟨by grind, ih hn.2⟩

theorem aerase_keys_nodup {l : List (κ × α)} (hn : (l.map (·.1)).Nodup) (k : κ) :
    ((aerase l k).map (·.1)).Nodup := by
  unfold aerase
  exact hn.sublist (List.Sublist.map _ List.filter_sublist)

end alist

theorem mem_refErase {refs : List Ref} {o : Owner} {n : String} {r : Ref} :
    r ∈ refErase refs o n ↔ r ∈ refs ∧ ¬ (r.owner = o ∧ r.name = n) := by
  simp only [refErase, List.mem_filter, decide_eq_true_eq]

theorem refLookup_some {refs : List Ref} {o : Owner} {n : String} {r : Ref}
    (h : refLookup refs o n = some r) : r ∈ refs ∧ r.owner = o ∧ r.name = n := by
  unfold refLookup at h
  have h1 := List.mem_of_find?_eq_some h
  have h2 := List.find?_some h
  simp at h2
  exact ⟨h1, h2⟩

theorem refLookup_none {refs : List Ref} {o : Owner} {n : String}
    (h : refLookup refs o n = none) : ∀ r ∈ refs, ¬ (r.owner = o ∧ r.name = n) := by
  unfold refLookup at h
  rw [List.find?_eq_none] at h
  intro r hr
  simpa using h r hr

theorem refLookup_of_mem {refs : List Ref} {r : Ref} (h : r ∈ refs) :
    ∃ r', refLookup refs r.owner r.name = some r' := by
  cases hl : refLookup refs r.owner r.name with
  | some r' => exact ⟨r', rfl⟩
  | none => exact absurd ⟨rfl, rfl⟩ (refLookup_none hl r h)

/-- one reference per (parent, name) -/
def RefKey (refs : List Ref) : Prop :=
  ∀ r ∈ refs, ∀ r' ∈ refs, r.owner = r'.owner → r.name = r'.name → r = r'

theorem refKey_sub {refs refs' : List Ref} (hk : RefKey refs) (hs : ∀ r ∈ refs', r ∈ refs) : RefKey refs' :=
  fun r hr r' hr' => hk r (hs r hr) r' (hs r' hr')

theorem refKey_snoc {refs : List Ref} {x : Ref} (hk : RefKey refs)
    (hx : ∀ r ∈ refs, ¬ (r.owner = x.owner ∧ r.name = x.name)) : RefKey (refs ++ [x]) := by
  intro r hr r' hr' ho hn
  rcases List.mem_append.1 hr with hr | hr <;> rcases List.mem_append.1 hr' with hr' | hr'
  · exact hk r hr r' hr' ho hn
  · cases List.mem_singleton.1 hr'; exact absurd ⟨ho, hn⟩ (hx r hr)
  · cases List.mem_singleton.1 hr; exact absurd ⟨ho.symm, hn.symm⟩ (hx r' hr')
  · rw [List.mem_singleton.1 hr, List.mem_singleton.1 hr']

theorem refErase_free (refs : List Ref) (o : Owner) (n : String) :
    ∀ r ∈ refErase refs o n, ¬ (r.owner = o ∧ r.name = n) := fun _ hr => (mem_refErase.mp hr).2

theorem getSpec_some {st : St} {m : Nat} {v : Val} {σ : Spec}
    (h : getSpecFromValue st m v = some σ) : σ ∈ st.specs ∧ σ.group = m ∧ σ.val = v := by
  unfold getSpecFromValue at h
  have h1 := List.mem_of_find?_eq_some h
  have h2 := List.find?_some h
  simp at h2
  exact ⟨h1, h2⟩

theorem getSpec_none {st : St} {m : Nat} {v : Val}
    (h : getSpecFromValue st m v = none) : ∀ σ ∈ st.specs, ¬ (σ.group = m ∧ σ.val = v) := by
  unfold getSpecFromValue at h
  rw [List.find?_eq_none] at h
  intro σ hσ
  simpa using h σ hσ

theorem mem_insertSpec {l : List Spec} {σ τ : Spec} : τ ∈ insertSpec l σ ↔ τ = σ ∨ τ ∈ l := by
  induction l with
  | nil => simp [insertSpec]
  | cons c rest ih =>
    simp only [insertSpec]
    split
    · simp only [List.mem_cons]; grind
    · simp only [List.mem_cons, ih]; grind

/-- the undo of `new_pandas` (`del_spec` of the spec `new_spec` has just inserted) restores the list, order included -/
theorem filter_insertSpec {l : List Spec} {σ : Spec} (hf : ∀ τ ∈ l, τ.sid ≠ σ.sid) :
    (insertSpec l σ).filter (fun τ => τ.sid ≠ σ.sid) = l := by
  induction l with
  | nil => simp [insertSpec]
  | cons c rest ih =>
    have hc : c.sid ≠ σ.sid := hf c List.mem_cons_self
    have hrest : ∀ τ ∈ rest, τ.sid ≠ σ.sid := fun τ hτ => hf τ (List.mem_cons_of_mem _ hτ)
    have hfr : rest.filter (fun τ => τ.sid ≠ σ.sid) = rest :=
      List.filter_eq_self.mpr (fun τ hτ => by simpa using hrest τ hτ)
    have hσ : (decide (σ.sid ≠ σ.sid)) = false := by simp
    have hcd : (decide (c.sid ≠ σ.sid)) = true := by simpa using hc
    simp only [insertSpec]
    split
    · rw [List.filter_cons, hcd, if_pos rfl, List.filter_cons, hσ, hfr]
      simp
    · rw [List.filter_cons, hcd, if_pos rfl, ih hrest]

theorem mem_delSpec {st : St} {σ τ : Spec} : τ ∈ (delSpec st σ).specs ↔ τ ∈ st.specs ∧ τ.sid ≠ σ.sid := by
  simp [delSpec]

theorem mem_ioSpecs {specs : List Spec} {m : Nat} {p : String} {c : Spec} :
    c ∈ ioSpecs specs m p ↔ c ∈ specs ∧ c.group = m ∧ c.path = p := by
  simp [ioSpecs]

end MxModel.IOSpec
