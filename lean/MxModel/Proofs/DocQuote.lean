import MxModel.Kernels.DocQuote
/-!
The writer `quoteDocstring` of `Kernels/DocQuote.lean` read by the model of CPython, for C04 and, through the
escape table, for `Proofs/Capture.lean` (C20).  The tokenizer's run counter equals the writer's counter along
the written text, so the token ends at the closing quotes and not before (`scanTok_quoteBody`); the decoder
undoes every escape of the table (`dec_quoteBody`); no written character is one a source text does not keep.
-/
namespace MxModel.DocQuote

/-- the table the theorems of this file are proved for; `escapeTable` (regenerated from the code)
is compared with it by the kernel on every build -/
def escapeTableModelled : List (Char × List Char) :=
  [('\\', ['\\', '\\']),
   (Char.ofNat 0, ['\\', 'x', '0', '0']),
   ('\r', ['\\', 'r']),
   (Char.ofNat 0x0b, ['\\', 'x', '0', 'b']),
   (Char.ofNat 0x0c, ['\\', 'x', '0', 'c']),
   (Char.ofNat 0x1c, ['\\', 'x', '1', 'c']),
   (Char.ofNat 0x1d, ['\\', 'x', '1', 'd']),
   (Char.ofNat 0x1e, ['\\', 'x', '1', 'e']),
   (Char.ofNat 0x85, ['\\', 'x', '8', '5']),
   (Char.ofNat 0x2028, ['\\', 'u', '2', '0', '2', '8']),
   (Char.ofNat 0x2029, ['\\', 'u', '2', '0', '2', '9'])]

theorem escapeTable_eq : escapeTable = escapeTableModelled := by decide +kernel

theorem mem_of_lookup_eq_some {α β : Type} [BEq α] [LawfulBEq α] (l : List (α × β)) (a : α) (b : β)
    (h : l.lookup a = some b) : (a, b) ∈ l := by
  obtain ⟨l₁, l₂, rfl, _⟩ := List.lookup_eq_some_iff.1 h
  simp

theorem lookup_none_not_key {α β : Type} [BEq α] [LawfulBEq α] (l : List (α × β)) (a : α)
    (h : l.lookup a = none) : ∀ p ∈ l, p.1 ≠ a :=
  fun p hp e => by simpa [e] using List.lookup_eq_none_iff.1 h p hp

theorem escapeOf_some {c : Char} {e : List Char} (h : escapeOf c = some e) : (c, e) ∈ escapeTable :=
  mem_of_lookup_eq_some _ _ _ h

theorem unsafe_are_keys : ∀ c ∈ '\\' :: sourceUnsafe, ∃ p ∈ escapeTable, p.1 = c := by
  decide +kernel

theorem escapeOf_none {c : Char} (h : escapeOf c = none) : c ≠ '\\' ∧ c ∉ sourceUnsafe := by
  have hk := lookup_none_not_key _ _ h
  constructor
  · intro e
    obtain ⟨p, hp, hpc⟩ := unsafe_are_keys c (by simp [e])
    exact hk p hp hpc
  · intro hin
    obtain ⟨p, hp, hpc⟩ := unsafe_are_keys c (List.mem_cons_of_mem _ hin)
    exact hk p hp hpc

theorem escapeOf_table : ∀ p ∈ escapeTable, escapeOf p.1 = some p.2 := by decide +kernel

theorem nlAux_append_noCr (a t : List Char) (h : '\r' ∉ a) :
    nlAux false (a ++ t) = a ++ nlAux false t := by
  induction a with
  | nil => rfl
  | cons c r ih =>
    simp only [List.mem_cons, not_or] at h
    have hc : c ≠ '\r' := fun e => h.1 e.symm
    simp [nlAux, hc, ih h.2]

theorem universalNl_noCr (a : List Char) (h : '\r' ∉ a) : universalNl a = a := by
  have := nlAux_append_noCr a [] h
  simpa [universalNl, nlAux] using this

theorem scanTok_quote (run : Nat) (rest : List Char) :
    scanTok run ('"' :: rest) =
      if run + 1 = 3 then some (['"'], rest)
      else (scanTok (run + 1) rest).map (fun p => ('"' :: p.1, p.2)) := by
  rw [scanTok.eq_def]; simp

theorem scanTok_bs (run : Nat) (e : Char) (rest : List Char) :
    scanTok run ('\\' :: e :: rest) = (scanTok 0 rest).map (fun p => ('\\' :: e :: p.1, p.2)) := by
  rw [scanTok.eq_def]; simp

theorem scanTok_other (run : Nat) (c : Char) (rest : List Char) (hc : c ≠ '"') (hb : c ≠ '\\') :
    scanTok run (c :: rest) = (scanTok 0 rest).map (fun p => (c :: p.1, p.2)) := by
  rw [scanTok.eq_def]; simp [hc, hb]

theorem scanTok_append (q : Nat) (p : List Char) : ∀ (t r s : List Char),
    scanTok q p = some (t, r) → scanTok q (p ++ s) = some (t, r ++ s) := by
  fun_induction scanTok q p with
  | case1 => intro t r s h; simp at h
  | case2 run rest hr =>
    intro t r s h
    simp only [Option.some.injEq, Prod.mk.injEq] at h
    obtain ⟨rfl, rfl⟩ := h
    simp [scanTok_quote, hr]
  | case3 run rest hr ih =>
    intro t r s h
    simp only [Option.map_eq_some_iff] at h
    obtain ⟨⟨t', r'⟩, hs, he⟩ := h
    simp only [Prod.mk.injEq] at he
    obtain ⟨rfl, rfl⟩ := he
    simp [scanTok_quote, hr, ih _ _ s hs]
  | case4 run hq =>
    intro t r s h; simp at h
  | case5 run e rest' hq ih =>
    intro t r s h
    simp only [Option.map_eq_some_iff] at h
    obtain ⟨⟨t', r'⟩, hs, he⟩ := h
    simp only [Prod.mk.injEq] at he
    obtain ⟨rfl, rfl⟩ := he
    simp [scanTok_bs, ih _ _ s hs]
  | case6 run c rest hc hb ih =>
    intro t r s h
    simp only [Option.map_eq_some_iff] at h
    obtain ⟨⟨t', r'⟩, hs, he⟩ := h
    simp only [Prod.mk.injEq] at he
    obtain ⟨rfl, rfl⟩ := he
    rw [List.cons_append, scanTok_other _ _ _ hc hb, ih _ _ s hs]; rfl

theorem scanTok_escape {c : Char} {e : List Char} (h : (c, e) ∈ escapeTable) (q : Nat) (x : List Char) :
    scanTok q (e ++ x) = (scanTok 0 x).map (fun r => (e ++ r.1, r.2)) := by
  rw [escapeTable_eq] at h
  simp only [escapeTableModelled, List.mem_cons, List.not_mem_nil, or_false, Prod.mk.injEq] at h
  rcases h with ⟨_, rfl⟩ | ⟨_, rfl⟩ | ⟨_, rfl⟩ | ⟨_, rfl⟩ | ⟨_, rfl⟩ | ⟨_, rfl⟩ | ⟨_, rfl⟩ | ⟨_, rfl⟩ |
    ⟨_, rfl⟩ | ⟨_, rfl⟩ | ⟨_, rfl⟩ <;>
  simp [scanTok_bs, scanTok_other, Option.map_map, Function.comp_def]

theorem scanTok_qqq (tail : List Char) : scanTok 0 (qqq ++ tail) = some (qqq, tail) := by
  simp [qqq, scanTok_quote]

theorem quoteBody_quote_esc (q : Nat) (rest : List Char) (h : q + 1 = 3 ∨ rest = []) :
    quoteBody q ('"' :: rest) = '\\' :: '"' :: quoteBody 0 rest := by
  rw [quoteBody]; rw [if_pos rfl, if_pos h]

theorem quoteBody_quote_keep (q : Nat) (rest : List Char) (h : ¬ (q + 1 = 3 ∨ rest = [])) :
    quoteBody q ('"' :: rest) = '"' :: quoteBody (q + 1) rest := by
  rw [quoteBody]; rw [if_pos rfl, if_neg h]

theorem quoteBody_esc (q : Nat) (c : Char) (rest e : List Char) (hc : c ≠ '"') (he : escapeOf c = some e) :
    quoteBody q (c :: rest) = e ++ quoteBody 0 rest := by
  rw [quoteBody]; rw [if_neg hc, he]

theorem quoteBody_plain (q : Nat) (c : Char) (rest : List Char) (hc : c ≠ '"') (he : escapeOf c = none) :
    quoteBody q (c :: rest) = c :: quoteBody 0 rest := by
  rw [quoteBody]; rw [if_neg hc, he]; rfl

/-- the run counter of the tokenizer is the counter of the writer (both `q`); the writer never leaves a
run open at the end (`d = [] → q = 0`), so the closing quotes are met with counter 0 and the token ends
exactly there -/
theorem scanTok_quoteBody (d : List Char) : ∀ (q : Nat) (tail : List Char), q ≤ 2 → (d = [] → q = 0) →
    scanTok q (quoteBody q d ++ (qqq ++ tail)) = some (quoteBody q d ++ qqq, tail) := by
  induction d with
  | nil =>
    intro q tail _ h0
    rw [h0 rfl]
    simpa [quoteBody] using scanTok_qqq tail
  | cons c rest ih =>
    intro q tail hq _
    by_cases hc : c = '"'
    · subst hc
      by_cases hcond : q + 1 = 3 ∨ rest = []
      · have ih0 := ih 0 tail (by omega) (fun _ => rfl)
        rw [quoteBody_quote_esc _ _ hcond]
        simp only [List.cons_append]
        rw [scanTok_bs, ih0]; rfl
      · have h3 : ¬ q + 1 = 3 := fun e => hcond (Or.inl e)
        have hne : rest ≠ [] := fun e => hcond (Or.inr e)
        have ih1 := ih (q + 1) tail (by omega) (fun e => absurd e hne)
        rw [quoteBody_quote_keep _ _ hcond]
        simp only [List.cons_append]
        rw [scanTok_quote, if_neg h3, ih1]; rfl
    · have ih0 := ih 0 tail (by omega) (fun _ => rfl)
      cases he : escapeOf c with
      | some e =>
        rw [quoteBody_esc _ _ _ _ hc he, List.append_assoc,
          scanTok_escape (escapeOf_some he), ih0]
        simp
      | none =>
        have hb := (escapeOf_none he).1
        rw [quoteBody_plain _ _ _ hc he]
        simp only [List.cons_append]
        rw [scanTok_other _ _ _ hc hb, ih0]; rfl

theorem dec_text_plain (c : Char) (r : List Char) (hb : c ≠ '\\') :
    dec .text (c :: r) = (dec .text r).map (c :: ·) := by
  rw [dec, if_neg hb]

theorem dec_bs_quote (x : List Char) : dec .text ('\\' :: '"' :: x) = (dec .text x).map ('"' :: ·) := by
  simp [dec, escKind]

theorem dec_escape {c : Char} {e : List Char} (h : (c, e) ∈ escapeTable) (x : List Char) :
    dec .text (e ++ x) = (dec .text x).map (c :: ·) := by
  rw [escapeTable_eq] at h
  simp only [escapeTableModelled, List.mem_cons, List.not_mem_nil, or_false, Prod.mk.injEq] at h
  rcases h with ⟨rfl, rfl⟩ | ⟨rfl, rfl⟩ | ⟨rfl, rfl⟩ | ⟨rfl, rfl⟩ | ⟨rfl, rfl⟩ | ⟨rfl, rfl⟩ | ⟨rfl, rfl⟩ |
    ⟨rfl, rfl⟩ | ⟨rfl, rfl⟩ | ⟨rfl, rfl⟩ | ⟨rfl, rfl⟩ <;>
  rfl

theorem dec_quoteBody (d : List Char) : ∀ q : Nat, dec .text (quoteBody q d) = some d := by
  induction d with
  | nil => intro q; simp [quoteBody, dec]
  | cons c rest ih =>
    intro q
    by_cases hc : c = '"'
    · subst hc
      by_cases hcond : q + 1 = 3 ∨ rest = []
      · rw [quoteBody_quote_esc _ _ hcond, dec_bs_quote, ih]; rfl
      · rw [quoteBody_quote_keep _ _ hcond, dec_text_plain _ _ (by decide), ih]; rfl
    · cases he : escapeOf c with
      | some e => rw [quoteBody_esc _ _ _ _ hc he, dec_escape (escapeOf_some he), ih]; rfl
      | none =>
        rw [quoteBody_plain _ _ _ hc he, dec_text_plain _ _ (escapeOf_none he).1, ih]; rfl

theorem escape_sourceSafe : ∀ p ∈ escapeTable, ∀ x ∈ p.2, x ∉ sourceUnsafe := by decide +kernel

theorem quoteBody_sourceSafe (d : List Char) : ∀ (q : Nat) (x : Char), x ∈ quoteBody q d → x ∉ sourceUnsafe := by
  induction d with
  | nil => intro q x h; simp [quoteBody] at h
  | cons c rest ih =>
    intro q x h
    by_cases hc : c = '"'
    · subst hc
      by_cases hcond : q + 1 = 3 ∨ rest = []
      · rw [quoteBody_quote_esc _ _ hcond] at h
        simp only [List.mem_cons] at h
        rcases h with rfl | rfl | h
        · decide
        · decide
        · exact ih _ _ h
      · rw [quoteBody_quote_keep _ _ hcond] at h
        simp only [List.mem_cons] at h
        rcases h with rfl | h
        · decide
        · exact ih _ _ h
    · cases he : escapeOf c with
      | some e =>
        rw [quoteBody_esc _ _ _ _ hc he, List.mem_append] at h
        rcases h with h | h
        · exact escape_sourceSafe _ (escapeOf_some he) _ h
        · exact ih _ _ h
      | none =>
        rw [quoteBody_plain _ _ _ hc he] at h
        simp only [List.mem_cons] at h
        rcases h with rfl | h
        · exact (escapeOf_none he).2
        · exact ih _ _ h

theorem quoteDocstring_sourceSafe (d : List Char) (x : Char) (h : x ∈ quoteDocstring d) : x ∉ sourceUnsafe := by
  simp only [quoteDocstring, List.mem_append] at h
  rcases h with (h | h) | h
  · simp only [qqq, List.mem_cons, List.not_mem_nil, or_false, or_self] at h; subst h; decide
  · exact quoteBody_sourceSafe _ _ _ h
  · simp only [qqq, List.mem_cons, List.not_mem_nil, or_false, or_self] at h; subst h; decide

theorem quoteDocstring_noCr (d : List Char) : '\r' ∉ quoteDocstring d :=
  fun h => quoteDocstring_sourceSafe d _ h (by decide)

theorem lexLit_quoteDocstring (d tail : List Char) :
    lexLit (quoteDocstring d ++ tail) = some (quoteBody 0 d, universalNl tail) := by
  unfold lexLit
  rw [universalNl, nlAux_append_noCr _ _ (quoteDocstring_noCr d)]
  have h := scanTok_quoteBody d 0 (nlAux false tail) (by omega) (fun _ => rfl)
  simp only [quoteDocstring, qqq, List.append_assoc, List.cons_append, List.nil_append] at h ⊢
  rw [h]
  simp [universalNl]

theorem readLiteral_eq_some (text v : List Char) :
    readLiteral text = some v ↔ ∃ body, lexLit text = some (body, []) ∧ dec .text body = some v := by
  unfold readLiteral
  split
  · rename_i body h; rw [h]; simp
  · rename_i h
    constructor
    · intro e; cases e
    · rintro ⟨body, e, _⟩; exact absurd e (h body)

theorem otherBoundaries_unsafe : ∀ x ∈ otherBoundaries, x ∈ sourceUnsafe := by decide +kernel

/-- `hb`: a line feed that ends the whole text is dropped by `"\n".join(text.splitlines())`, one that
more text follows is kept -/
theorem splitJoin_append_safe (a b : List Char) (ha : ∀ x ∈ a, x ∉ sourceUnsafe) (hb : b ≠ []) :
    splitJoin false (a ++ b) = a ++ splitJoin false b := by
  induction a with
  | nil => rfl
  | cons c r ih =>
    have hc : c ∉ sourceUnsafe := ha c (List.mem_cons_self)
    have hr : ∀ x ∈ r, x ∉ sourceUnsafe := fun x hx => ha x (List.mem_cons_of_mem _ hx)
    have hob : c ∉ otherBoundaries := fun h => hc (otherBoundaries_unsafe _ h)
    have hcr : c ≠ '\r' := fun e => hc (by rw [e]; decide)
    have hne : r ++ b ≠ [] := by simp [hb]
    rw [List.cons_append, splitJoin]
    by_cases hn : c = '\n'
    · subst hn
      simp [hne, ih hr]
    · simp [hn, hob, ih hr]

end MxModel.DocQuote
