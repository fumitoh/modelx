import MxModel.Exec.Mech
/-! Elementary facts about the cache association list and about which state fields each
primitive of the mechanism touches. -/
namespace MxModel.Exec

@[simp] theorem lookup_nil (n : Node) : lookup [] n = none := rfl

theorem lookup_cons (m : Node) (v : Val) (d : List (Node × Val)) (n : Node) :
    lookup ((m, v) :: d) n = if m = n then some v else lookup d n := rfl

theorem lookup_filter_ne (d : List (Node × Val)) (n m : Node) (h : m ≠ n) :
    lookup (d.filter (fun e => e.1 != n)) m = lookup d m := by
  induction d with
  | nil => rfl
  | cons e rest ih =>
    obtain ⟨k, v⟩ := e
    by_cases hk : k = n
    · subst hk
      have : ((k, v).1 != k) = false := by simp
      simp only [List.filter, this, lookup_cons, ih]
      simp [Ne.symm h]
    · have : ((k, v).1 != n) = true := by simp [hk]
      simp only [List.filter, this, lookup_cons, ih]

theorem lookup_insert (d : List (Node × Val)) (n : Node) (v : Val) (m : Node) :
    lookup (insert d n v) m = if n = m then some v else lookup d m := by
  unfold insert
  rw [lookup_cons]
  split
  · rfl
  · rename_i h; exact lookup_filter_ne d n m (Ne.symm h)

structure SameCache (s s' : St) : Prop where
  data : s'.data = s.data
  inputs : s'.inputs = s.inputs
  hit : s'.hit = s.hit

theorem SameCache.trans {a b c : St} (h1 : SameCache a b) (h2 : SameCache b c) : SameCache a c :=
  ⟨h2.data.trans h1.data, h2.inputs.trans h1.inputs, h2.hit.trans h1.hit⟩

def GraphOnly (s s' : St) : Prop := ∃ gn ge, s' = { s with gn := gn, ge := ge }

theorem GraphOnly.refl (s : St) : GraphOnly s s := ⟨s.gn, s.ge, rfl⟩

theorem GraphOnly.trans {a b c : St} (h1 : GraphOnly a b) (h2 : GraphOnly b c) : GraphOnly a c := by
  obtain ⟨_, _, rfl⟩ := h1
  obtain ⟨_, _, rfl⟩ := h2
  exact ⟨_, _, rfl⟩

theorem GraphOnly.sameCache {s s' : St} (h : GraphOnly s s') : SameCache s s' := by
  obtain ⟨_, _, rfl⟩ := h
  exact ⟨rfl, rfl, rfl⟩

theorem GraphOnly.stack {s s' : St} (h : GraphOnly s s') : s'.stack = s.stack := by
  obtain ⟨_, _, rfl⟩ := h; rfl

theorem GraphOnly.idx {s s' : St} (h : GraphOnly s s') : s'.idx = s.idx := by
  obtain ⟨_, _, rfl⟩ := h; rfl

theorem GraphOnly.rg {s s' : St} (h : GraphOnly s s') : s'.rg = s.rg := by
  obtain ⟨_, _, rfl⟩ := h; rfl

theorem GraphOnly.log {s s' : St} (h : GraphOnly s s') : s'.log = s.log := by
  obtain ⟨_, _, rfl⟩ := h; rfl

theorem GraphOnly.rolledback {s s' : St} (h : GraphOnly s s') : s'.rolledback = s.rolledback := by
  obtain ⟨_, _, rfl⟩ := h; rfl

theorem graphOnly_addNode (s : St) (a : GNode) : GraphOnly s (s.addNode a) := by
  unfold St.addNode
  split
  · exact GraphOnly.refl s
  · exact ⟨_, s.ge, rfl⟩

theorem graphOnly_addEdge (s : St) (a b : GNode) : GraphOnly s (s.addEdge a b) := by
  have h := (graphOnly_addNode s a).trans (graphOnly_addNode (s.addNode a) b)
  unfold St.addEdge
  simp only []
  split
  · exact h
  · exact h.trans ⟨_, _, rfl⟩

theorem graphOnly_hitEdge (s : St) (n : Node) : GraphOnly s (s.hitEdge n) := by
  unfold St.hitEdge
  split
  · exact graphOnly_addEdge s _ _
  · exact GraphOnly.refl s

theorem graphOnly_popEdge (env : Env) (s : St) (n : Node) : GraphOnly s (s.popEdge env n) := by
  unfold St.popEdge
  split
  · exact graphOnly_addEdge s _ _
  · split
    · exact graphOnly_addNode s _
    · exact GraphOnly.refl s

theorem sameCache_addNode (s : St) (a : GNode) : SameCache s (s.addNode a) := (graphOnly_addNode s a).sameCache

theorem sameCache_addEdge (s : St) (a b : GNode) : SameCache s (s.addEdge a b) := (graphOnly_addEdge s a b).sameCache

theorem sameCache_removeNode (s : St) (a : GNode) : SameCache s (s.removeNode a) := ⟨rfl, rfl, rfl⟩

theorem sameCache_push (env : Env) (s : St) (n : Node) : SameCache s (s.push env n) := ⟨rfl, rfl, rfl⟩

theorem sameCache_hitEdge (s : St) (n : Node) : SameCache s (s.hitEdge n) := (graphOnly_hitEdge s n).sameCache

theorem noteRead_eq (s : St) (a : Bool) (r : RefId) : ∃ rs, s.noteRead a r = { s with refstack := rs } := by
  unfold St.noteRead
  split
  · exact ⟨_, rfl⟩
  · exact ⟨s.refstack, rfl⟩

theorem sameCache_noteRead (s : St) (a : Bool) (r : RefId) : SameCache s (s.noteRead a r) := by
  obtain ⟨_, h⟩ := noteRead_eq s a r
  rw [h]; exact ⟨rfl, rfl, rfl⟩

theorem sameCache_newExc (s : St) : SameCache s s.newExc := ⟨rfl, rfl, rfl⟩

theorem sameCache_rollback (s : St) (n : Node) : SameCache s (s.rollback n) := ⟨rfl, rfl, rfl⟩

/-- `drainRefs` touches only `refstack` and `rg` -/
structure DrainSame (s s' : St) : Prop where
  data : s'.data = s.data
  inputs : s'.inputs = s.inputs
  gn : s'.gn = s.gn
  ge : s'.ge = s.ge
  stack : s'.stack = s.stack
  idx : s'.idx = s.idx
  rolledback : s'.rolledback = s.rolledback
  curExc : s'.curExc = s.curExc
  excStack : s'.excStack = s.excStack
  hit : s'.hit = s.hit
  log : s'.log = s.log
  excCount : s'.excCount = s.excCount

theorem drainSame (env : Env) (s : St) (n : Node) : DrainSame s (s.drainRefs env n) := by
  unfold St.drainRefs
  split
  · exact ⟨rfl, rfl, rfl, rfl, rfl, rfl, rfl, rfl, rfl, rfl, rfl, rfl⟩
  · split <;> exact ⟨rfl, rfl, rfl, rfl, rfl, rfl, rfl, rfl, rfl, rfl, rfl, rfl⟩

/-- `pop` is `dropFrame`, a change of the trace graph, and `drainRefs` -/
theorem pop_drainSame (env : Env) (s : St) (n : Node) :
    DrainSame { s.dropFrame with gn := (s.dropFrame.popEdge env n).gn, ge := (s.dropFrame.popEdge env n).ge }
      (s.pop env n) := by
  obtain ⟨gn, ge, h⟩ := graphOnly_popEdge env s.dropFrame n
  unfold St.pop
  rw [h]
  exact drainSame env _ n

theorem sameCache_pop (env : Env) (s : St) (n : Node) : SameCache s (s.pop env n) :=
  ⟨(pop_drainSame env s n).data, (pop_drainSame env s n).inputs, (pop_drainSame env s n).hit⟩

/-- everything except `curExc` / `excStack` is the same: what `keepExc` leaves alone -/
structure ExcOnly (s s' : St) : Prop where
  data : s'.data = s.data
  inputs : s'.inputs = s.inputs
  gn : s'.gn = s.gn
  ge : s'.ge = s.ge
  rg : s'.rg = s.rg
  stack : s'.stack = s.stack
  idx : s'.idx = s.idx
  refstack : s'.refstack = s.refstack
  rolledback : s'.rolledback = s.rolledback
  excCount : s'.excCount = s.excCount
  hit : s'.hit = s.hit
  log : s'.log = s.log

@[simp] theorem keepExc_fst (s : St) (p : Res × St) : (keepExc s p).1 = p.1 := by
  unfold keepExc; split <;> rfl

theorem keepExc_excOnly (s : St) (p : Res × St) : ExcOnly p.2 (keepExc s p).2 := by
  unfold keepExc; split <;> exact ⟨rfl, rfl, rfl, rfl, rfl, rfl, rfl, rfl, rfl, rfl, rfl, rfl⟩

theorem keepExc_err (s : St) (p : Res × St) (e : Err) (h : p.1 = .err e) : keepExc s p = p := by
  unfold keepExc; rw [h]

theorem keepExc_ok (s : St) (p : Res × St) (v : Val) (h : p.1 = .ok v) :
    (keepExc s p).2 = { p.2 with curExc := s.curExc, excStack := s.excStack } := by
  unfold keepExc; rw [h]

theorem ExcOnly.sameCache {s s' : St} (h : ExcOnly s s') : SameCache s s' := ⟨h.data, h.inputs, h.hit⟩

end MxModel.Exec
