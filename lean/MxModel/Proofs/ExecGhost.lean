import MxModel.Exec.Mech
/-!
# The depth-limit flag `hit` is a ghost: nothing the mechanism does depends on it

`St.hit` is set by `runN 0` and read by no function of `Exec/Mech.lean`.  Formally: every function
of the mechanism COMMUTES with raising the flag (`St.orHit`): started with the flag up, it returns
the same result and the same state, flag up.  Hence an evaluation from a state in which an earlier
evaluation hit the limit behaves exactly like the evaluation from the same state with the flag
lowered (`St.clearHit`) – which is what lets the theorems that speak about "the limit was not hit"
speak about THIS evaluation only.
-/
namespace MxModel.Exec

/-- raise the ghost flag (`b = true`) or leave it (`b = false`) -/
def St.orHit (s : St) (b : Bool) : St := { s with hit := b || s.hit }

/-- lower the ghost flag: "start counting limit hits from here" -/
def St.clearHit (s : St) : St := { s with hit := false }

@[simp] theorem St.orHit_false (s : St) : s.orHit false = s := rfl

theorem St.eq_clearHit_orHit (s : St) : s = s.clearHit.orHit s.hit := by
  cases s; simp [St.orHit, St.clearHit]

@[simp] theorem St.orHit_hit (s : St) (b : Bool) : (s.orHit b).hit = (b || s.hit) := rfl
@[simp] theorem St.clearHit_hit (s : St) : s.clearHit.hit = false := rfl
@[simp] theorem St.clearHit_data (s : St) : s.clearHit.data = s.data := rfl
@[simp] theorem St.clearHit_inputs (s : St) : s.clearHit.inputs = s.inputs := rfl
@[simp] theorem St.orHit_data (s : St) (b : Bool) : (s.orHit b).data = s.data := rfl
@[simp] theorem St.orHit_inputs (s : St) (b : Bool) : (s.orHit b).inputs = s.inputs := rfl

theorem St.clearHit_of_hit_false (s : St) (h : s.hit = false) : s.clearHit = s := by
  cases s; simp_all [St.clearHit]

theorem St.orHit_hit_false {s : St} {b : Bool} (h : (s.orHit b).hit = false) : s.hit = false := by
  simp only [St.orHit_hit, Bool.or_eq_false_iff] at h; exact h.2

def UpToHit (s s' : St) : Prop := s'.clearHit = s.clearHit

theorem upToHit_orHit (s : St) (b : Bool) : UpToHit s (s.orHit b) := rfl

variable (b : Bool)

theorem addNode_orHit (s : St) (a : GNode) : (s.orHit b).addNode a = (s.addNode a).orHit b := by
  unfold St.addNode
  show (if s.gn.contains a then s.orHit b else _) = _
  split <;> rfl

theorem addEdge_orHit (s : St) (a c : GNode) : (s.orHit b).addEdge a c = (s.addEdge a c).orHit b := by
  unfold St.addEdge
  simp only [addNode_orHit]
  generalize (s.addNode a).addNode c = s1
  show (if s1.ge.contains (a, c) then _ else _) = _
  split <;> rfl

theorem edgeTarget_orHit (s : St) : (s.orHit b).edgeTarget = s.edgeTarget := rfl

theorem push_orHit (env : Env) (s : St) (n : Node) : (s.orHit b).push env n = (s.push env n).orHit b := rfl

theorem hitEdge_orHit (s : St) (n : Node) : (s.orHit b).hitEdge n = (s.hitEdge n).orHit b := by
  unfold St.hitEdge
  rw [edgeTarget_orHit]
  split
  · exact addEdge_orHit b s _ _
  · rfl

theorem noteRead_orHit (s : St) (a : Bool) (r : RefId) : (s.orHit b).noteRead a r = (s.noteRead a r).orHit b := by
  unfold St.noteRead
  show (if (a && decide (s.stack.length > 0)) = true then _ else _) = _
  split <;> rfl

theorem newExc_orHit (s : St) : (s.orHit b).newExc = s.newExc.orHit b := rfl

theorem popEdge_orHit (env : Env) (s : St) (n : Node) : (s.orHit b).popEdge env n = (s.popEdge env n).orHit b := by
  unfold St.popEdge
  rw [edgeTarget_orHit]
  split
  · exact addEdge_orHit b s _ _
  · split
    · exact addNode_orHit b s _
    · rfl

theorem drainRefs_orHit (env : Env) (s : St) (n : Node) :
    (s.orHit b).drainRefs env n = (s.drainRefs env n).orHit b := by
  unfold St.drainRefs
  split
  · rfl
  · show (if s.stack.length > 0 then _ else _) = _
    split <;> rfl

theorem pop_orHit (env : Env) (s : St) (n : Node) : (s.orHit b).pop env n = (s.pop env n).orHit b := by
  unfold St.pop
  have : (s.orHit b).dropFrame = s.dropFrame.orHit b := rfl
  rw [this, popEdge_orHit, drainRefs_orHit]

theorem rollback_orHit (s : St) (n : Node) : (s.orHit b).rollback n = (s.rollback n).orHit b := rfl

theorem keepExc_orHit (s : St) (p : Res × St) :
    keepExc (s.orHit b) (p.1, p.2.orHit b) = ((keepExc s p).1, (keepExc s p).2.orHit b) := by
  obtain ⟨r, s'⟩ := p
  cases r <;> rfl

/-- an evaluator that neither reads nor lowers the flag -/
def HitBlind (f : Node → St → Res × St) : Prop :=
  ∀ n s b, f n (s.orHit b) = ((f n s).1, (f n s).2.orHit b)

theorem runBody_orHit (env : Env) (f : Node → St → Res × St) (hf : HitBlind f) :
    ∀ (p : Prog) (s : St) (b : Bool),
      runBody env f p (s.orHit b) = ((runBody env f p s).1, (runBody env f p s).2.orHit b) := by
  intro p
  induction p with
  | ret v => intro s b; rfl
  | raise e => intro s b; rfl
  | reraise e => intro s b; rfl
  | read a r k ih =>
    intro s b
    simp only [runBody]
    rw [noteRead_orHit]
    exact ih _ _ b
  | call n k ih =>
    intro s b
    simp only [runBody]
    rw [hf n s b]
    exact ih _ _ b

theorem evalNode_orHit (env : Env) (ef : Node → St → Res × St) (hef : HitBlind ef) :
    HitBlind (evalNode env ef) := by
  intro n s b
  unfold evalNode
  split
  · split
    · simp only [St.orHit_data]
      cases hl : lookup s.data n with
      | some v => simp only [hitEdge_orHit]
      | none => simp only []; rw [hef n s b]; exact keepExc_orHit b s _
    · rw [hef n s b]; exact keepExc_orHit b s _
  · rfl

theorem runN_orHit (env : Env) : ∀ d, HitBlind (runN env d) := by
  intro d
  induction d with
  | zero =>
    intro n s b
    simp only [runN, St.newExc, St.orHit, Bool.or_true]
  | succ d ih =>
    intro n s b
    simp only [runN]
    rw [push_orHit, runBody_orHit env _ (evalNode_orHit env _ ih)]
    generalize runBody env (evalNode env (runN env d)) (env.formula n) (s.push env n) = p
    obtain ⟨r, s1⟩ := p
    cases r with
    | err e => simp only [rollback_orHit]
    | ok v =>
      simp only []
      split
      · split
        · simp only [newExc_orHit, rollback_orHit]
        · have : ({ s1.orHit b with data := insert (s1.orHit b).data n v } : St) =
              ({ s1 with data := insert s1.data n v } : St).orHit b := rfl
          rw [this, pop_orHit]
      · rw [pop_orHit]

/-- **the flag is a ghost for a top-level call**: same result, same state, flag raised as before -/
theorem evalTop_orHit (env : Env) (n : Node) (s : St) (b : Bool) :
    evalTop env n (s.orHit b) = ((evalTop env n s).1, (evalTop env n s).2.orHit b) := by
  unfold evalTop
  simp only [St.orHit_data]
  cases hl : (if env.cached n.1 = true then lookup s.data n else none) with
  | some v => rfl
  | none =>
    simp only []
    rw [runN_orHit env _ n s b]
    generalize runN env (env.maxdepth + 1) n s = p
    obtain ⟨r, s1⟩ := p
    cases r <;> rfl

theorem evalTop_clearHit (env : Env) (n : Node) (s : St) :
    evalTop env n s = ((evalTop env n s.clearHit).1, (evalTop env n s.clearHit).2.orHit s.hit) := by
  conv => lhs; rw [s.eq_clearHit_orHit]
  exact evalTop_orHit env n s.clearHit s.hit

theorem evalTop_fst_clearHit (env : Env) (n : Node) (s : St) :
    (evalTop env n s.clearHit).1 = (evalTop env n s).1 := by
  rw [evalTop_clearHit env n s]

theorem evalTop_data_clearHit (env : Env) (n : Node) (s : St) :
    (evalTop env n s.clearHit).2.data = (evalTop env n s).2.data ∧
    (evalTop env n s.clearHit).2.inputs = (evalTop env n s).2.inputs := by
  rw [evalTop_clearHit env n s]; exact ⟨rfl, rfl⟩

theorem evalTop_hit (env : Env) (n : Node) (s : St) :
    (evalTop env n s).2.hit = (s.hit || (evalTop env n s.clearHit).2.hit) := by
  rw [evalTop_clearHit env n s]; rfl

theorem foldl_orHit {α} (g : St → α → St) (hg : ∀ s x, g (s.orHit b) x = (g s x).orHit b) :
    ∀ (L : List α) (s : St), L.foldl g (s.orHit b) = (L.foldl g s).orHit b := by
  intro L
  induction L with
  | nil => intro s; rfl
  | cons x rest ih => intro s; simp only [List.foldl]; rw [hg, ih]

theorem clearWithDescs_orHit (s : St) (n : Node) :
    (s.orHit b).clearWithDescs n = (s.clearWithDescs n).orHit b := by
  unfold St.clearWithDescs
  show (if s.gn.contains (.elem n) then _ else _) = _
  split <;> rfl

theorem clearValueAt_orHit (s : St) (n : Node) (ci : Bool) :
    (s.orHit b).clearValueAt n ci = (s.clearValueAt n ci).orHit b := by
  unfold St.clearValueAt
  show (if (lookup s.data n).isSome then (if ci || !s.inputs.contains n then _ else _) else _) = _
  split
  · split
    · exact clearWithDescs_orHit b s n
    · rfl
  · rfl

theorem clearAllValues_orHit (s : St) (c : CellId) (ci : Bool) :
    (s.orHit b).clearAllValues c ci = (s.clearAllValues c ci).orHit b := by
  unfold St.clearAllValues
  exact foldl_orHit b _ (fun s x => clearValueAt_orHit b s x ci) _ s

theorem clearObj_orHit (s : St) (c : CellId) : (s.orHit b).clearObj c = (s.clearObj c).orHit b := rfl

theorem clearAttrReferrers_orHit (s : St) (r : RefId) :
    (s.orHit b).clearAttrReferrers r = (s.clearAttrReferrers r).orHit b := by
  unfold St.clearAttrReferrers
  exact foldl_orHit b
    (fun s n => if s.gn.contains (.elem n) then
        ((s.removeNodes (s.descsWith (.elem n))).rgRemoveReferred (elemsOf (s.descsWith (.elem n)))).dropValues
          (elemsOf (s.descsWith (.elem n)))
      else s)
    (by intro s n; show (if s.gn.contains (.elem n) then _ else _) = _; split <;> rfl)
    ((s.rg.filter (fun e => e.1 == r)).map (·.2))
    { s with rg := s.rg.filter (fun e =>
        e.1 != r && !((s.rg.filter (fun e => e.1 == r)).map (·.2)).contains e.2) }

theorem onNamespaceChange_orHit (env : Env) (s : St) (c : CellId) :
    (s.orHit b).onNamespaceChange env c = (s.onNamespaceChange env c).orHit b := by
  unfold St.onNamespaceChange
  split
  · exact clearAllValues_orHit b s c false
  · exact clearObj_orHit b s c

theorem notifyAll_orHit (env : Env) (s : St) (L : List CellId) :
    (s.orHit b).notifyAll env L = (s.notifyAll env L).orHit b :=
  foldl_orHit b _ (fun s c => onNamespaceChange_orHit b env s c) L s

theorem notifyObservers_orHit (env : Env) (s : St) (r : RefId) :
    (s.orHit b).notifyObservers env r = (s.notifyObservers env r).orHit b :=
  foldl_orHit b _ (fun s c => onNamespaceChange_orHit b env s c) _ s

theorem delRef_orHit (env : Env) (s : St) (r : RefId) : (s.orHit b).delRef env r = (s.delRef env r).orHit b := by
  unfold St.delRef; rw [notifyObservers_orHit, clearAttrReferrers_orHit]

theorem setRef_orHit (env : Env) (s : St) (r : RefId) : (s.orHit b).setRef env r = (s.setRef env r).orHit b := by
  unfold St.setRef St.changeRef St.newRef
  split
  · rw [delRef_orHit, notifyObservers_orHit, clearAttrReferrers_orHit]
  · exact notifyObservers_orHit b env s r

theorem setFormula_orHit (s : St) (c : CellId) : (s.orHit b).setFormula c = (s.setFormula c).orHit b := rfl

theorem delCell_orHit (env : Env) (s : St) (c : CellId) : (s.orHit b).delCell env c = (s.delCell env c).orHit b := by
  unfold St.delCell St.notifySiblings; rw [clearObj_orHit, notifyAll_orHit]

theorem newCell_orHit (env : Env) (s : St) (c : CellId) : (s.orHit b).newCell env c = (s.newCell env c).orHit b := by
  unfold St.newCell St.notifySiblings; rw [notifyAll_orHit]

theorem setValue_orHit (env : Env) (s : St) (n : Node) (v : Val) :
    (s.orHit b).setValue env n v = (((s.setValue env n v).1).orHit b, (s.setValue env n v).2) := by
  unfold St.setValue
  split
  · rfl
  · simp only [clearValueAt_orHit]
    have : ({ (s.clearValueAt n true).orHit b with data := insert ((s.clearValueAt n true).orHit b).data n v } : St) =
        ({ s.clearValueAt n true with data := insert (s.clearValueAt n true).data n v } : St).orHit b := rfl
    rw [this, addNode_orHit]
    generalize ({ s.clearValueAt n true with data := insert (s.clearValueAt n true).data n v } : St).addNode (.elem n) = s3
    show (({ s3.orHit b with inputs := if s3.inputs.contains n then s3.inputs else s3.inputs ++ [n] } : St), _) = _
    rfl

end MxModel.Exec
