import MxModel.Kernels.Dispatch
/-! `Dispatch.selectDecoder` in closed form.  The kernel compares two `String`s by encoding both to UTF-8, byte
by byte, so the condition texts are compared once here (`tupleCondition_ne_always`); every later use of the
table compares tags only. -/
namespace MxModel.Dispatch
open MxModel.Generated

theorem decoderConditions_eq : decoderConditions =
    [("InterfaceDecoder", tupleCondition), ("IOSpecDecoder", tupleCondition), ("ModuleDecoder", tupleCondition),
     ("PickleDecoder", tupleCondition), ("LiteralDecoder", "(cls, node) return True")] := rfl

theorem alwaysCondition_node : alwaysCondition "(cls, node)" = "(cls, node) return True" := by decide +kernel

theorem tupleCondition_ne_always : tupleCondition ≠ alwaysCondition "(cls, node)" := by decide +kernel

theorem decoderAccepts_of_always (d : String × String) (tag : String)
    (h : decoderConditions.lookup d.1 = some (alwaysCondition "(cls, node)")) : decoderAccepts d tag = true := by
  simp only [decoderAccepts, h, if_true]

/-- `tag = ""` stands for a right-hand side that is no tagged tuple, which the tuple condition refuses: hence `hd`, `hc` -/
theorem decoderAccepts_of_tuple (d : String × String) (tag : String)
    (h : decoderConditions.lookup d.1 = some tupleCondition) (hd : d.2 ≠ "") (hc : compatOf d.1 ≠ some "") :
    decoderAccepts d tag = decide (d.2 = tag ∨ compatOf d.1 = some tag) := by
  have hne : d.2 = tag ∨ compatOf d.1 = some tag → tag ≠ "" := by
    rintro (e | e) rfl
    · exact hd e
    · exact hc e
  simp only [decoderAccepts, h, if_neg tupleCondition_ne_always, if_true]
  by_cases ht : d.2 = tag ∨ compatOf d.1 = some tag
  · simpa [ht] using hne ht
  · simpa [ht] using fun _ => not_or.mp ht

theorem lookup_tupleDecoders :
    decoderConditions.lookup "InterfaceDecoder" = some tupleCondition ∧
    decoderConditions.lookup "IOSpecDecoder" = some tupleCondition ∧
    decoderConditions.lookup "ModuleDecoder" = some tupleCondition ∧
    decoderConditions.lookup "PickleDecoder" = some tupleCondition ∧
    decoderConditions.lookup "LiteralDecoder" = some (alwaysCondition "(cls, node)") := by
  simp only [decoderConditions_eq, alwaysCondition_node, List.lookup, String.reduceBEq, and_self]

theorem selectDecoder_eq (tag : String) :
    selectDecoder tag = some
      (if "Interface" = tag then ("InterfaceDecoder", "Interface")
       else if "IOSpec" = tag ∨ "DataSpec" = tag then ("IOSpecDecoder", "IOSpec")
       else if "Module" = tag then ("ModuleDecoder", "Module")
       else if "Pickle" = tag then ("PickleDecoder", "Pickle")
       else ("LiteralDecoder", "")) := by
  obtain ⟨lI, lS, lM, lP, lL⟩ := lookup_tupleDecoders
  have cI : compatOf "InterfaceDecoder" = none := rfl
  have cS : compatOf "IOSpecDecoder" = some "DataSpec" := rfl
  have cM : compatOf "ModuleDecoder" = none := rfl
  have cP : compatOf "PickleDecoder" = none := rfl
  have hI := decoderAccepts_of_tuple ("InterfaceDecoder", "Interface") tag lI (by decide +kernel) (by rw [cI]; decide)
  have hS := decoderAccepts_of_tuple ("IOSpecDecoder", "IOSpec") tag lS (by decide +kernel)
    (by rw [cS]; decide +kernel)
  have hM := decoderAccepts_of_tuple ("ModuleDecoder", "Module") tag lM (by decide +kernel) (by rw [cM]; decide)
  have hP := decoderAccepts_of_tuple ("PickleDecoder", "Pickle") tag lP (by decide +kernel) (by rw [cP]; decide)
  have hL := decoderAccepts_of_always ("LiteralDecoder", "") tag lL
  simp only [cI, cS, cM, cP, reduceCtorEq, or_false, Option.some.injEq] at hI hS hM hP
  -- `find?` is stepped through with lemmas: unfolded, the kernel would evaluate `decoderAccepts` on the table
  have pos : ∀ {d : String × String} {l}, decoderAccepts d tag = true →
      List.find? (decoderAccepts · tag) (d :: l) = some d := fun h => List.find?_cons_of_pos h
  have neg : ∀ {d : String × String} {l}, decoderAccepts d tag = false →
      List.find? (decoderAccepts · tag) (d :: l) = List.find? (decoderAccepts · tag) l :=
    fun h => List.find?_cons_of_neg (ne_true_of_eq_false h)
  unfold selectDecoder decoderTags
  by_cases h1 : "Interface" = tag
  · rw [pos (hI.trans (decide_eq_true h1)), if_pos h1]
  rw [neg (hI.trans (decide_eq_false h1)), if_neg h1]
  by_cases h2 : "IOSpec" = tag ∨ "DataSpec" = tag
  · rw [pos (hS.trans (decide_eq_true h2)), if_pos h2]
  rw [neg (hS.trans (decide_eq_false h2)), if_neg h2]
  by_cases h3 : "Module" = tag
  · rw [pos (hM.trans (decide_eq_true h3)), if_pos h3]
  rw [neg (hM.trans (decide_eq_false h3)), if_neg h3]
  by_cases h4 : "Pickle" = tag
  · rw [pos (hP.trans (decide_eq_true h4)), if_pos h4]
  rw [neg (hP.trans (decide_eq_false h4)), if_neg h4, pos hL]

end MxModel.Dispatch
