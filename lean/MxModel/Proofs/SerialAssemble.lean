import MxModel.Proofs.SerialSched
/-! The instructions of a space, applied in scheduled order, rebuild the space up to `normInfo` (`assemble_normInfo`,
over the tree `assemble_normSpaces`); `normalise` changes nothing under the three hypotheses of `Hk` that speak of one
space at a time (`normalise_eq_self`). -/
namespace MxModel.Serial
open MxModel.PathCodec MxModel.Generated

theorem idt_map_elemName (model : Name) (p : Path) : (idt model p).map elemName = model :: p := by
  simp [idt, List.map_map, Function.comp_def, elemName]

theorem restoreVal_decodedOf (model : Name) (owner : Path) (v : RefVal) :
    restoreVal model owner (decodedOf model owner v) = v := by
  cases v <;> simp [decodedOf, restoreVal, resolveRel_roundtrip]

theorem modifyCell_append_new (n : Name) (f : CellsD → CellsD) (l : List CellsD) (x : CellsD) (rest : List CellsD)
    (hl : ∀ c ∈ l, c.name ≠ n) (hx : x.name = n) :
    modifyCell n f (l ++ x :: rest) = l ++ f x :: rest := by
  induction l with
  | nil => simp [modifyCell, hx]
  | cons c cs ih =>
    have hc : c.name ≠ n := hl c (by simp)
    simp [modifyCell, hc, ih (fun c hc => hl c (by simp [hc]))]

/-- a cells as it is after the first phase: everything but its input values -/
def stripInputs (c : CellsD) : CellsD := { c with inputs := [] }

/-! what comes back from the files: a `def` with the text of its syntax node in place of its source
(C04-def-text-outside-node), a reference whose value is no object with mode `auto` (C04-refmode-noninterface),
no input value of a derived cells (C04-derived-input); everything else as it was -/

def normCell (c : CellsD) : CellsD := { c with formula := readFormula c.formula }

def normRef (r : RefD) : RefD := if isInterface r.val then r else { r with mode := .auto }

def normInfo (i : SpaceInfo) : SpaceInfo :=
  { i with formula := readOptFormula i.formula, cells := i.cells.map normCell, refs := i.refs.map normRef,
           derivedInputs := [] }

mutual
def normSpace : SpaceD → SpaceD
  | .mk i cs => .mk (normInfo i) (normSpaces cs)
def normSpaces : List SpaceD → List SpaceD
  | [] => []
  | s :: ss => normSpace s :: normSpaces ss
end

def normalise (m : MDesc) : MDesc := { m with spaces := normSpaces m.spaces }

/-- the part of `WellFormed`, `RefModesWritten`, `NoDerivedInputs` and `DefTextIsNode` that speaks of one space -/
structure LocalOK (i : SpaceInfo) : Prop where
  cellsNodup : (i.cells.map (·.name)).Nodup
  cellsOK : ∀ c ∈ i.cells, cellsWF c = true ∧ formulaIsNode c.formula = true
  formulaOK : match i.formula with | some f => formulaIsNode f = true | none => True
  basesOK : ∀ b ∈ i.bases, b.all validName = true
  refsOK : ∀ r ∈ i.refs, isInterface r.val = true ∨ r.mode = .auto
  noDerived : i.derivedInputs = []

theorem readFormula_isNode {f : Formula} (h : formulaIsNode f = true) : readFormula f = f := by
  cases f with
  | lambda t => rfl
  | defn s n =>
    simp only [formulaIsNode, beq_iff_eq] at h
    simp [readFormula, h]

theorem foldl_cellOps0_one (model : Name) (path : Path) (a : SpaceInfo) (c : CellsD)
    (ha : ∀ x ∈ a.cells, x.name ≠ c.name) (hwf : cellsWF c = true) :
    (cellOps0 c).foldl (applyOp model path) a = { a with cells := a.cells ++ [stripInputs (normCell c)] } := by
  have hm : ∀ (f : CellsD → CellsD) (x : CellsD), x.name = c.name →
      modifyCell c.name f (a.cells ++ [x]) = a.cells ++ [f x] :=
    fun f x hx => modifyCell_append_new c.name f a.cells x [] ha hx
  unfold cellOps0 trailerOps
  obtain ⟨name, formula, allowNone, isCached, doc, inputs⟩ := c
  simp only [cellsWF, Bool.and_eq_true] at hwf
  simp only at hm ha
  cases formula with
  | lambda t =>
    cases doc <;> cases allowNone <;> cases isCached <;>
      simp [List.foldl_cons, applyOp, hm, readFormula, normCell, stripInputs]
  | defn s n =>
    have hdoc : doc = none := by simpa using hwf.2
    subst hdoc
    cases allowNone <;> cases isCached <;>
      simp [List.foldl_cons, applyOp, hm, readFormula, normCell, stripInputs]

theorem foldl_cellOps0 (model : Name) (path : Path) (cs : List CellsD) (a : SpaceInfo)
    (ha : ∀ x ∈ a.cells, ∀ c ∈ cs, x.name ≠ c.name) (hn : (cs.map (·.name)).Nodup)
    (hok : ∀ c ∈ cs, cellsWF c = true) :
    (cs.flatMap cellOps0).foldl (applyOp model path) a =
      { a with cells := a.cells ++ (cs.map normCell).map stripInputs } := by
  induction cs generalizing a with
  | nil => simp
  | cons c rest ih =>
    simp only [List.map_cons, List.nodup_cons, List.mem_map, not_exists, not_and] at hn
    rw [List.flatMap_cons, List.foldl_append,
      foldl_cellOps0_one model path a c (fun x hx => ha x hx c (by simp)) (hok c (by simp)),
      ih _ _ hn.2 (fun c' hc' => hok c' (by simp [hc']))]
    · simp
    · intro x hx c' hc'
      simp only [List.mem_append, List.mem_singleton] at hx
      rcases hx with hx | rfl
      · exact ha x hx c' (by simp [hc'])
      · exact fun e => hn.1 c' hc' e.symm

theorem foldl_loadPickle (model : Name) (path : Path) (cs : List CellsD) (a : SpaceInfo) (pre : List CellsD)
    (ha : a.cells = pre ++ cs.map stripInputs) (hpre : ∀ x ∈ pre, ∀ c ∈ cs, x.name ≠ c.name)
    (hn : (cs.map (·.name)).Nodup) :
    (cs.map (fun c => Op.loadPickle c.name c.inputs)).foldl (applyOp model path) a =
      { a with cells := pre ++ cs } := by
  induction cs generalizing a pre with
  | nil =>
    cases a
    simp_all
  | cons c rest ih =>
    simp only [List.map_cons, List.nodup_cons, List.mem_map, not_exists, not_and] at hn
    simp only [List.map_cons, List.foldl_cons]
    have hmod : modifyCell c.name (fun x => { x with inputs := x.inputs ++ c.inputs }) a.cells =
        (pre ++ [c]) ++ rest.map stripInputs := by
      rw [ha, List.map_cons, modifyCell_append_new c.name _ pre (stripInputs c) _ (fun x hx => hpre x hx c (by simp)) rfl]
      simp [stripInputs]
    rw [ih (applyOp model path a (Op.loadPickle c.name c.inputs)) (pre ++ [c]) (by simp [applyOp, hmod]) _ hn.2]
    · simp [applyOp]
    · intro x hx c' hc'
      simp only [List.mem_append, List.mem_singleton] at hx
      rcases hx with hx | rfl
      · exact hpre x hx c' (by simp [hc'])
      · exact fun e => hn.1 c' hc' e.symm

theorem applyOp_refOpOf (model : Name) (path : Path) (a : SpaceInfo) (r : RefD) :
    applyOp model path a (refOpOf false model path (r.name, r.val, r.mode.text)) =
      { a with refs := a.refs ++ [normRef r] } := by
  obtain ⟨name, val, mode⟩ := r
  unfold refOpOf normRef
  by_cases hi : isInterface val = true
  · simp only [hi, Bool.not_false, Bool.and_self, if_true]
    show { a with refs := a.refs ++ [(⟨name, restoreVal model path (decodedOf model path val),
      (Mode.parse mode.text).getD .auto⟩ : RefD)] } = _
    rw [restoreVal_decodedOf, mode_parse_text]; rfl
  · simp only [hi, Bool.and_false, Bool.false_eq_true, if_false]
    show { a with refs := a.refs ++ [(⟨name, restoreVal model path (decodedOf model path val), .auto⟩ : RefD)] } = _
    rw [restoreVal_decodedOf]

theorem foldl_refOps (model : Name) (path : Path) (rs : List RefD) (a : SpaceInfo) :
    ((rs.map (fun r => (r.name, r.val, r.mode.text))).map (refOpOf false model path)).foldl
      (applyOp model path) a = { a with refs := a.refs ++ rs.map normRef } := by
  induction rs generalizing a with
  | nil => simp
  | cons r rest ih =>
    simp only [List.map_cons, List.foldl_cons]
    rw [applyOp_refOpOf, ih]
    simp

theorem foldl_dynOps (model : Name) (path : Path) (ds : List DynInput) (a : SpaceInfo) :
    (ds.map (dynOpOf model path)).foldl (applyOp model path) a = { a with dynInputs := a.dynInputs ++ ds } := by
  induction ds generalizing a with
  | nil => simp
  | cons d rest ih =>
    simp only [List.map_cons, List.foldl_cons]
    rw [ih]
    simp [dynOpOf, applyOp, dynAddr_roundtrip]

theorem filterMap_resolveBase (model : Name) (hmodel : validName model = true) (bs : List Path)
    (h : ∀ b ∈ bs, b.all validName = true) : (bs.map (dotted model)).filterMap (resolveBase model) = bs := by
  induction bs with
  | nil => rfl
  | cons b rest ih =>
    simp [resolveBase_dotted model b hmodel (h b (by simp)),
      ih (fun b' hb' => h b' (by simp [hb']))]

theorem assemble_normInfo (model : Name) (hmodel : validName model = true) (parent : Path) (i : SpaceInfo)
    (hn : (i.cells.map (·.name)).Nodup) (hcells : ∀ c ∈ i.cells, cellsWF c = true)
    (hbases : ∀ b ∈ i.bases, b.all validName = true) :
    (schedule Op.phase (opsOfSpace model parent i)).foldl (applyOp model (parent ++ [i.name])) (emptyInfo i.name) =
      normInfo i := by
  rw [schedule_eq]
  simp only [filter_opsOfSpace, Nat.reduceEqDiff, ↓reduceIte, List.append_nil, List.nil_append, List.foldl_append]
  have hdoc : List.foldl (applyOp model (parent ++ [i.name]))
      (List.foldl (applyOp model (parent ++ [i.name])) (emptyInfo i.name) (docOps i.doc))
      [Op.setFormula (readOptFormula i.formula), Op.setAllowNone i.allowNone] =
      { emptyInfo i.name with doc := i.doc, formula := readOptFormula i.formula, allowNone := i.allowNone } := by
    cases hd : i.doc <;> simp [docOps, applyOp, emptyInfo]
  have hnames : (i.cells.map normCell).map (·.name) = i.cells.map (·.name) := by
    rw [List.map_map]; rfl
  have hload : i.cells.map (fun c => Op.loadPickle c.name c.inputs) =
      (i.cells.map normCell).map (fun c => Op.loadPickle c.name c.inputs) := by
    rw [List.map_map]; rfl
  rw [hdoc, foldl_cellOps0 model _ i.cells _ (by simp [emptyInfo]) hn hcells]
  simp only [List.foldl_cons, List.foldl_nil, applyOp]
  rw [hload, foldl_loadPickle model _ (i.cells.map normCell) _ [] (by simp [emptyInfo]) (by simp) (hnames ▸ hn)]
  unfold refOps spaceRefs dynOpsOf
  rw [foldl_refOps, foldl_dynOps]
  have hb := filterMap_resolveBase model hmodel i.bases hbases
  obtain ⟨name, doc, allowNone, formula, bases, cells, refs, dynInputs, derivedInputs⟩ := i
  simp only at hb
  simp [emptyInfo, normInfo, hb]

theorem normInfo_of_localOK {i : SpaceInfo} (h : LocalOK i) : normInfo i = i := by
  have hf : readOptFormula i.formula = i.formula := by
    have := h.formulaOK
    cases hfo : i.formula with
    | none => rfl
    | some f => rw [hfo] at this; simp [readOptFormula, readFormula_isNode this]
  have hc : i.cells.map normCell = i.cells :=
    (List.map_congr_left (fun c hc => by
      simp only [normCell, readFormula_isNode (h.cellsOK c hc).2, id])).trans (List.map_id _)
  have hr : i.refs.map normRef = i.refs :=
    (List.map_congr_left (fun r hr => by
      unfold normRef
      rcases h.refsOK r hr with e | e
      · rw [if_pos e]; rfl
      · split
        · rfl
        · cases r; cases e; rfl)).trans (List.map_id _)
  have hd := h.noDerived
  obtain ⟨name, doc, allowNone, formula, bases, cells, refs, dynInputs, derivedInputs⟩ := i
  simp only at hf hc hr hd
  simp only [normInfo, hf, hc, hr, hd]

mutual
def AllLocal : SpaceD → Prop
  | .mk i cs => LocalOK i ∧ AllLocalL cs
def AllLocalL : List SpaceD → Prop
  | [] => True
  | s :: ss => AllLocal s ∧ AllLocalL ss
end

mutual
theorem assemble_nodeOf (model : Name) (hmodel : validName model = true) (parent : Path) :
    ∀ s : SpaceD, AllLocal s → assembleNode model [] parent (nodeOf model parent s) = s
  | .mk i cs, h => by
    simp only [AllLocal] at h
    simp only [nodeOf, assembleNode, normInfo_of_localOK h.1, assemble_nodesOf model hmodel (parent ++ [i.name]) cs h.2,
      assemble_normInfo model hmodel parent i h.1.cellsNodup (fun c hc => (h.1.cellsOK c hc).1) h.1.basesOK]
    simp
theorem assemble_nodesOf (model : Name) (hmodel : validName model = true) (parent : Path) :
    ∀ cs : List SpaceD, AllLocalL cs → assembleNodes model [] parent (nodesOf model parent cs) = cs
  | [], _ => rfl
  | s :: ss, h => by
    simp only [AllLocalL] at h
    simp only [nodesOf, assembleNodes, assemble_nodeOf model hmodel parent s h.1,
      assemble_nodesOf model hmodel parent ss h.2]
end

mutual
theorem assemble_normSpace (model : Name) (hmodel : validName model = true) (ctx : Ctx) (bs : BaseRel)
    (parent : Path) :
    ∀ s : SpaceD, spaceWF ctx bs s = true → assembleNode model [] parent (nodeOf model parent s) = normSpace s
  | .mk i cs, h => by
    simp only [spaceWF, Bool.and_eq_true] at h
    obtain ⟨_, hcells, hcn, _, _, _, hbases⟩ := infoWF_parts ctx bs i h.1.1
    simp only [nodeOf, assembleNode, normSpace, assemble_normSpaces model hmodel ctx bs (parent ++ [i.name]) cs h.2,
      assemble_normInfo model hmodel parent i hcn hcells (fun b hb => (hbases b hb).2)]
    simp
theorem assemble_normSpaces (model : Name) (hmodel : validName model = true) (ctx : Ctx) (bs : BaseRel)
    (parent : Path) :
    ∀ cs : List SpaceD, spacesWF ctx bs cs = true →
      assembleNodes model [] parent (nodesOf model parent cs) = normSpaces cs
  | [], _ => rfl
  | s :: ss, h => by
    simp only [spacesWF, Bool.and_eq_true] at h
    simp only [nodesOf, assembleNodes, normSpaces, assemble_normSpace model hmodel ctx bs parent s h.1,
      assemble_normSpaces model hmodel ctx bs parent ss h.2]
end

theorem localOK_of (ctx : Ctx) (bs : BaseRel) (i : SpaceInfo) (hwf : infoWF ctx bs i = true)
    (h1 : pRefMode i = true) (h2 : pNoDerived i = true) (h3 : pDefText i = true) : LocalOK i := by
  obtain ⟨_, hcells, hcn, _, _, _, hbases⟩ := infoWF_parts ctx bs i hwf
  simp only [pDefText, Bool.and_eq_true, List.all_eq_true] at h3
  simp only [pRefMode, List.all_eq_true, Bool.or_eq_true, beq_iff_eq] at h1
  refine ⟨hcn, fun c hc => ⟨hcells c hc, h3.1 c hc⟩, ?_, fun b hb => (hbases b hb).2, h1, ?_⟩
  · cases hf : i.formula with
    | none => trivial
    | some f => have := h3.2; rw [hf] at this; exact this
  · simpa [pNoDerived] using h2

mutual
theorem allLocal_of (ctx : Ctx) (bs : BaseRel) :
    ∀ s : SpaceD, spaceWF ctx bs s = true → allSpace pRefMode s = true → allSpace pNoDerived s = true →
      allSpace pDefText s = true → AllLocal s
  | .mk i cs, hwf, h1, h2, h3 => by
    simp only [spaceWF, Bool.and_eq_true, decide_eq_true_eq] at hwf
    simp only [allSpace, Bool.and_eq_true] at h1 h2 h3
    exact ⟨localOK_of ctx bs i hwf.1.1 h1.1 h2.1 h3.1, allLocalL_of ctx bs cs hwf.2 h1.2 h2.2 h3.2⟩
theorem allLocalL_of (ctx : Ctx) (bs : BaseRel) :
    ∀ cs : List SpaceD, spacesWF ctx bs cs = true → allSpaces pRefMode cs = true →
      allSpaces pNoDerived cs = true → allSpaces pDefText cs = true → AllLocalL cs
  | [], _, _, _, _ => trivial
  | s :: ss, hwf, h1, h2, h3 => by
    simp only [spacesWF, Bool.and_eq_true] at hwf
    simp only [allSpaces, Bool.and_eq_true] at h1 h2 h3
    exact ⟨allLocal_of ctx bs s hwf.1 h1.1 h2.1 h3.1, allLocalL_of ctx bs ss hwf.2 h1.2 h2.2 h3.2⟩
end

/-- a description that meets the three hypotheses is what comes back: both sides are what the reader assembles -/
theorem normalise_eq_self (m : MDesc) (hwf : WellFormed m) (h1 : RefModesWritten m) (h2 : NoDerivedInputs m)
    (h3 : DefTextIsNode m) : normalise m = m := by
  obtain ⟨hmodel, _, _, _, hspaces⟩ := wellFormed_parts m hwf
  unfold normalise
  rw [← assemble_normSpaces m.name hmodel (ctxOf m) (baseDefs m) [] m.spaces hspaces,
    assemble_nodesOf m.name hmodel [] m.spaces
      (allLocalL_of (ctxOf m) (baseDefs m) m.spaces hspaces h1.perSpace h2.perSpace h3.perSpace)]

theorem filter_modelOpsOf (m : MDesc) (k : Nat) :
    (modelOpsOf m).filter (inPhase Op.phase k) =
      (if 0 = k then docOps m.doc ++ [Op.setAllowNone (some m.allowNone)] else []) ++
      if 3 = k then (modelRefs m).map (refOpOf true m.name []) else [] := by
  have heq : modelOpsOf m = docOps m.doc ++ [Op.setAllowNone (some m.allowNone)] ++
      (modelRefs m).map (refOpOf true m.name []) := by
    unfold modelOpsOf docOps; cases m.doc <;> rfl
  have h0 : ∀ o ∈ docOps m.doc ++ [Op.setAllowNone (some m.allowNone)], o.phase = some 0 := by
    intro o ho
    rcases List.mem_append.mp ho with h | h
    · exact phase_docOps _ o h
    · exact List.mem_singleton.mp h ▸ phase_setAllowNone _
  rw [heq, List.filter_append, filter_all_phase _ 0 k h0, filter_map_phase _ _ 3 k (phase_refOpOf true m.name [])]

theorem assemble_model (m : MDesc) :
    (schedule Op.phase (modelOpsOf m)).foldl (applyModelOp m.name) ⟨none, false, []⟩ =
      ⟨m.doc, m.allowNone, m.refs⟩ := by
  rw [schedule_eq]
  simp only [filter_modelOpsOf, Nat.reduceEqDiff, ↓reduceIte, List.append_nil, List.nil_append, List.foldl_append]
  have hrefs : ∀ (rs : List (Name × RefVal)) (a : ModelAcc),
      ((rs.map (fun r => (r.1, r.2, kNone))).map (refOpOf true m.name [])).foldl (applyModelOp m.name) a =
        { a with refs := a.refs ++ rs } := by
    intro rs
    induction rs with
    | nil => intro a; simp
    | cons r rest ih =>
      intro a
      simp only [List.map_cons, List.foldl_cons]
      rw [ih]
      simp [refOpOf, applyModelOp, restoreVal_decodedOf]
  unfold modelRefs
  rw [hrefs]
  cases hd : m.doc <;> simp [docOps, applyModelOp]

end MxModel.Serial
