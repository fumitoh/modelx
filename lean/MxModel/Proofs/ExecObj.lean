import MxModel.Proofs.ExecGraph
/-!
# Object nodes of the trace graph belong to uncached cells

`(cells,)` - the key-less node that stands for an uncached cells - enters the graph in one place
only: `CallStack.pop` of an element of an uncached cells below a cached caller (`St.popEdge`).
`ObjGrow env s s'`: every object node of `s'` was already in `s` or belongs to a cells that is
uncached in `env`.  Every evaluation - successful, failed, with handled failures, any formula
behaviour, no hypothesis on the programs at all - is `ObjGrow`; so `ObjOK` (all object nodes
belong to uncached cells) is kept by evaluation.  Clearing only removes nodes.
-/
namespace MxModel.Exec

def ObjOK (env : Env) (s : St) : Prop := ∀ c, GNode.obj c ∈ s.gn → env.cached c = false

def ObjGrow (env : Env) (s s' : St) : Prop :=
  ∀ c, GNode.obj c ∈ s'.gn → GNode.obj c ∈ s.gn ∨ env.cached c = false

variable {env : Env}

theorem ObjGrow.refl (s : St) : ObjGrow env s s := fun _ h => Or.inl h

theorem ObjGrow.trans {a b c : St} (h1 : ObjGrow env a b) (h2 : ObjGrow env b c) : ObjGrow env a c := by
  intro x hx
  rcases h2 x hx with h | h
  · exact h1 x h
  · exact Or.inr h

theorem ObjGrow.of_gn {s s' : St} (h : s'.gn = s.gn) : ObjGrow env s s' := fun _ hx => Or.inl (h ▸ hx)

theorem ObjGrow.of_sub {s s' : St} (h : ∀ x, x ∈ s'.gn → x ∈ s.gn) : ObjGrow env s s' :=
  fun _ hx => Or.inl (h _ hx)

theorem ObjOK.grow {s s' : St} (h : ObjOK env s) (g : ObjGrow env s s') : ObjOK env s' := by
  intro c hc
  rcases g c hc with h' | h'
  · exact h c h'
  · exact h'

theorem objGrow_addNode_elem (s : St) (m : Node) : ObjGrow env s (s.addNode (.elem m)) := by
  intro c hc
  rcases (mem_addNode_gn s _ _).mp hc with h | h
  · exact Or.inl h
  · cases h

theorem objGrow_addEdge (s : St) (a : GNode) (t : Node)
    (ha : (∃ m, a = .elem m) ∨ (∃ c, a = .obj c ∧ env.cached c = false)) :
    ObjGrow env s (s.addEdge a (.elem t)) := by
  intro c hc
  rcases (mem_addEdge_gn s _ _ _).mp hc with h | h | h
  · exact Or.inl h
  · rcases ha with ⟨m, rfl⟩ | ⟨c', rfl, hc'⟩
    · cases h
    · cases h; exact Or.inr hc'
  · cases h

theorem objGrow_hitEdge (s : St) (n : Node) : ObjGrow env s (s.hitEdge n) := by
  unfold St.hitEdge
  split
  · exact objGrow_addEdge s _ _ (Or.inl ⟨n, rfl⟩)
  · exact ObjGrow.refl s

theorem objGrow_popEdge (s : St) (n : Node) : ObjGrow env s (s.popEdge env n) := by
  unfold St.popEdge
  split
  · by_cases hc : env.cached n.1 = true
    · simp only [hc, if_true]; exact objGrow_addEdge s _ _ (Or.inl ⟨n, rfl⟩)
    · have hc' : env.cached n.1 = false := by simpa using hc
      simp only [hc', Bool.false_eq_true, if_false]
      exact objGrow_addEdge s _ _ (Or.inr ⟨n.1, rfl, hc'⟩)
  · split
    · exact objGrow_addNode_elem s n
    · exact ObjGrow.refl s

theorem objGrow_pop (s : St) (n : Node) : ObjGrow env s (s.pop env n) :=
  (objGrow_popEdge (env := env) s.dropFrame n).trans (ObjGrow.of_gn (pop_drainSame env s n).gn)

theorem objGrow_rollback (s : St) (n : Node) : ObjGrow env s (s.rollback n) := by
  apply ObjGrow.of_sub
  intro x hx
  simp only [St.rollback, St.removeNode, St.dropFrame, List.mem_filter] at hx
  exact hx.1

theorem obj_steps (env : Env) : EvalSteps env (fun _ _ => True) (ObjGrow env) where
  refl := ObjGrow.refl
  trans := ObjGrow.trans
  newExc _ := .of_gn rfl
  noteRead s a r := by obtain ⟨_, h⟩ := noteRead_eq s a r; rw [h]; exact .of_gn rfl
  hitEdge s n _ _ _ := objGrow_hitEdge s n
  restore _ _ _ := .of_gn rfl
  hit _ := .of_gn rfl
  store _ _ _ := .of_gn rfl
  enter _ _ _ _ := trivial
  rollback n s s1 _ h := (ObjGrow.of_gn (s' := s.push env n) rfl).trans (h.trans (objGrow_rollback s1 n))
  pop n s s1 _ _ h := (ObjGrow.of_gn (s' := s.push env n) rfl).trans (h.trans (objGrow_pop s1 n))
  finish _ _ _ := .of_gn rfl

theorem evalTop_obj (n : Node) (s : St) : ObjGrow env s (evalTop env n s).2 :=
  evalTop_rel (obj_steps env) n s (fun _ => trivial)

end MxModel.Exec
