import MxModel.Proofs.StructMechEffect
/-!
# What an accepted `renameCells` does to the definitions

`rename_cells` renames the cells of `p`, the copies derived from it, and - as the code does - the
overriding cells of that name in sub spaces (`St.renameTargets`); where a target other than `p` already
has a cells of the new name the old one is dropped.  On the definitions: in every target the definition
under `old` is gone and the definition under `new` is the one the target had under `new`, else the one
it had under `old`; nothing else changes.
-/
namespace MxModel.SM
open MxModel.C3

def renamedDef (st : St) (old new : String) (q : Path) (n : String) : Option Nat :=
  if n = old then none
  else if n = new then (if (st.mem .cells q new).isSome then st.defd .cells q new else st.defd .cells q old)
  else st.defd .cells q n

theorem mem_renameIn_other (s : St) (p : Path) (old new : String) (q q' : Path) (n : String) (h : q' ≠ q) :
    (s.renameIn p old new q).mem .cells q' n = s.mem .cells q' n := by
  rw [St.mem_eq, St.mem_eq, cont_renameIn_other s p old new q .cells q' (fun h' => h h'.2)]

theorem defd_renameIn (s : St) (p : Path) (old new : String) (hon : old ≠ new) (q : Path) (mq : Member)
    (hm : s.mem .cells q old = some mq) (hpn : q = p → s.mem .cells q new = none)
    (a' : Attr) (q' : Path) (n : String) :
    (s.renameIn p old new q).defd a' q' n =
      if a' = .cells ∧ q' = q then renamedDef s old new q n else s.defd a' q' n := by
  by_cases hc : a' = .cells ∧ q' = q
  · obtain ⟨rfl, rfl⟩ := hc
    have hq : q' ∈ (s.delMem .cells q' old).ids := by
      rw [(shape_delMem s .cells q' old).ids]
      exact mem_ids_of_mem_isSome s .cells q' old (by rw [hm]; rfl)
    rw [if_pos ⟨rfl, rfl⟩]
    unfold St.renameIn renamedDef
    rw [hm]
    simp only
    split
    · -- a sub space that has its own `new`: its `old` is dropped
      rename_i hcond
      simp only [Bool.and_eq_true, bne_iff_ne, ne_eq] at hcond
      unfold St.defd
      rw [mem_delMem]
      by_cases h1 : n = old
      · simp [h1]
      · by_cases h2 : n = new
        · subst h2; simp [h1, hcond.2]
        · simp only [h1, h2, and_false, if_false]
    · -- otherwise the entry moves from `old` to `new`, and the space had no `new`
      rename_i hcond
      have hnew : (s.mem .cells q' new).isSome = false := by
        by_cases hqp : q' = p
        · rw [hpn hqp]; rfl
        · simpa [hqp] using hcond
      unfold St.defd
      rw [mem_setMem _ _ _ _ _ hq, mem_delMem]
      by_cases h1 : n = old
      · subst h1
        simp [hon]
      · by_cases h2 : n = new
        · subst h2
          simp only [true_and, and_self, if_true, h1, if_false, hnew, Bool.false_eq_true, hm]
        · simp only [h1, h2, and_false, if_false]
  · rw [if_neg hc]
    unfold St.defd
    rw [St.mem_eq, cont_renameIn_other s p old new q a' q' hc, ← St.mem_eq]

theorem defd_renameFold (p : Path) (old new : String) (hon : old ≠ new) : ∀ (T : List Path) (s : St),
    T.Nodup → (∀ q ∈ T, (s.mem .cells q old).isSome = true) → (p ∈ T → s.mem .cells p new = none) →
    ∀ a' q' n, (T.foldl (fun s q => s.renameIn p old new q) s).defd a' q' n =
      if a' = .cells ∧ q' ∈ T then renamedDef s old new q' n else s.defd a' q' n := by
  intro T
  induction T with
  | nil => intro s _ _ _ a' q' n; simp
  | cons t T ih =>
    intro s hnd hold hpn a' q' n
    simp only [List.nodup_cons] at hnd
    simp only [List.foldl_cons]
    cases hmt : s.mem .cells t old with
    | none =>
      have := hold t (by simp)
      rw [hmt] at this; cases this
    | some mq =>
      have hstep := defd_renameIn s p old new hon t mq hmt (fun e => by subst e; exact hpn (by simp))
      have hold' : ∀ q ∈ T, ((s.renameIn p old new t).mem .cells q old).isSome = true := by
        intro q hq
        rw [mem_renameIn_other s p old new t q old (fun e => hnd.1 (e ▸ hq))]
        exact hold q (List.mem_cons_of_mem _ hq)
      have hpn' : p ∈ T → (s.renameIn p old new t).mem .cells p new = none := by
        intro hp
        rw [mem_renameIn_other s p old new t p new (fun e => hnd.1 (e ▸ hp))]
        exact hpn (List.mem_cons_of_mem _ hp)
      rw [ih (s.renameIn p old new t) hnd.2 hold' hpn' a' q' n]
      by_cases hc : a' = .cells ∧ q' ∈ T
      · obtain ⟨rfl, hq'⟩ := hc
        have hne : q' ≠ t := fun e => hnd.1 (e ▸ hq')
        have hmem : q' ∈ t :: T := List.mem_cons_of_mem _ hq'
        simp only [true_and, hq', hmem, if_true]
        unfold renamedDef
        rw [mem_renameIn_other s p old new t q' new hne]
        have hd : ∀ m, (s.renameIn p old new t).defd .cells q' m = s.defd .cells q' m := by
          intro m
          rw [hstep .cells q' m]
          simp [hne]
        rw [hd new, hd old, hd n]
      · simp only [hc, if_false]
        rw [hstep a' q' n]
        by_cases hc2 : a' = .cells ∧ q' = t
        · obtain ⟨rfl, rfl⟩ := hc2
          simp
        · have : ¬ (a' = .cells ∧ q' ∈ t :: T) := by
            rintro ⟨h1, h2⟩
            rcases List.mem_cons.mp h2 with h2 | h2
            · exact hc2 ⟨h1, h2⟩
            · exact hc ⟨h1, h2⟩
          simp only [hc2, this, if_false]

theorem renameCells_accepted (kw : List String) (st st' : St) (p : Path) (old new : String)
    (hop : st.renameCells kw p old new = some st') :
    (st.mem .cells p old).isSome = true ∧ st.canAdd p new .cells = true ∧
    st' = ((st.renameTargets p old).foldl (fun s q => s.renameIn p old new q) st).updateAll
      (((st.renameTargets p old).foldl (fun s q => s.renameIn p old new q) st).subs p) := by
  obtain ⟨m, hm, _, hca, _, rfl⟩ := renameCells_some hop
  exact ⟨by rw [hm]; rfl, hca, rfl⟩

theorem renameCells_full (kw : List String) (st st' : St) (h : Inv st) (p : Path) (old new : String)
    (hop : st.renameCells kw p old new = some st') :
    Shape st st' ∧ ∀ a q n, st'.defd a q n =
      if a = .cells ∧ q ∈ st.renameTargets p old then renamedDef st old new q n else st.defd a q n := by
  refine ⟨(renameCells_spec kw st st' h.wf.keys p old new hop).1, ?_⟩
  obtain ⟨hm, hca, rfl⟩ := renameCells_accepted kw st st' p old new hop
  have hp : p ∈ st.ids := mem_ids_of_mem_isSome st .cells p old hm
  have hpnew : st.mem .cells p new = none :=
    (kindOf_none st p new (canAdd_space (h.wf.tree p hp).1 hca).1).1
  have hon : old ≠ new := by
    rintro rfl
    rw [hpnew] at hm; cases hm
  have hTnd : (st.renameTargets p old).Nodup := (subs_nodup st h.wf.nodup p).sublist List.filter_sublist
  have hTold : ∀ q ∈ st.renameTargets p old, (st.mem .cells q old).isSome = true := by
    intro q hq
    have := (List.mem_filter.mp hq).2
    cases hmq : st.mem .cells q old with
    | none => rw [hmq] at this; cases this
    | some _ => rfl
  have RN := renamed_foldl p old new (st.renameTargets p old) st h.wf.keys
  intro a q n
  rw [(rederived_updateAll _ RN.keys _).defs a q n]
  exact defd_renameFold p old new hon (st.renameTargets p old) st hTnd hTold (fun _ => hpnew) a q n

end MxModel.SM
