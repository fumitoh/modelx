import MxModel.Proofs.C3
/-!
# C3 facts the refinement proof of the incremental mechanism needs

* the depth bound of `mro` is irrelevant once it is large enough (`mro_le`, `mro_depth`);
* the linearisation is closed: every element has a linearisation that is a subsequence
  (`mro_closed`), the space is not in its own tail (`mro_not_mem_tail`, acyclicity), no duplicates
  (`mro_nodup`);
* **locality**: the linearisation of `q` depends only on the direct bases of the spaces in it
  (`mro_congr`) – an edit of the bases of `p` can only change the linearisation of `p` and of the
  spaces that have `p` in their linearisation;
* removing base relations can only shrink the set of spaces in a linearisation (`mro_subset_of_bases_subset`).
-/
namespace MxModel.C3

variable {α : Type} [DecidableEq α]

omit [DecidableEq α] in
theorem mapM_isSome {β : Type} (f : α → Option β) (l : List α) (h : ∀ x ∈ l, (f x).isSome) :
    ∃ ms, l.mapM f = some ms := by
  induction l with
  | nil => exact ⟨[], by simp⟩
  | cons a l ih =>
    obtain ⟨ms, hms⟩ := ih (fun x hx => h x (List.mem_cons_of_mem _ hx))
    have ha := h a (by simp)
    cases hfa : f a with
    | none => rw [hfa] at ha; cases ha
    | some y => exact ⟨y :: ms, by simp [List.mapM_cons, hfa, hms]⟩

theorem mro_succ (bases : α → List α) : ∀ (d : Nat) (s : α) (l : List α),
    mro bases d s = some l → mro bases (d + 1) s = some l := by
  intro d
  induction d with
  | zero => intro s l h; simp [mro] at h
  | succ d ih =>
    intro s l h
    obtain ⟨ms, r, h1, h2, rfl⟩ := mro_succ_some bases d s l h
    refine mro_succ_of bases (d + 1) s ms r ?_ h2
    rw [mapM_some_iff] at h1 ⊢
    rw [← h1]
    apply List.map_congr_left
    intro x hx
    have : (mro bases d x) ∈ (bases s).map (mro bases d) := List.mem_map.mpr ⟨x, hx, rfl⟩
    rw [h1] at this
    obtain ⟨lx, _, hlx⟩ := List.mem_map.mp this
    rw [← hlx]
    exact ih x lx hlx.symm

theorem mro_le (bases : α → List α) (d d' : Nat) (hd : d ≤ d') (s : α) (l : List α)
    (h : mro bases d s = some l) : mro bases d' s = some l := by
  induction hd with
  | refl => exact h
  | step _ ih => exact mro_succ bases _ s l ih

theorem mro_tail_mem (bases : α → List α) (d : Nat) (s : α) (r : List α)
    (h : mro bases (d + 1) s = some (s :: r)) (x : α) (hx : x ∈ r) :
    x ∈ bases s ∨ ∃ b ∈ bases s, ∃ lb, mro bases d b = some lb ∧ x ∈ lb := by
  obtain ⟨ms, r', h1, h2, h3⟩ := mro_succ_some bases d s _ h
  simp only [List.cons.injEq, true_and] at h3
  subst h3
  obtain ⟨sq, hsq, hxs⟩ := merge_mem (α := α) _ _ _ h2 x hx
  simp only [List.mem_append, List.mem_singleton] at hsq
  rcases hsq with hsq | rfl
  · right
    obtain ⟨b, hb, hbm⟩ := (mapM_mem _ _ _ h1).2 sq hsq
    exact ⟨b, hb, sq, hbm, hxs⟩
  · exact Or.inl hxs

theorem mro_closed (bases : α → List α) : ∀ (d : Nat) (q : α) (l : List α),
    mro bases d q = some l → ∀ x ∈ l, ∃ lx, mro bases d x = some lx ∧ lx.Sublist l := by
  intro d
  induction d with
  | zero => intro q l h; simp [mro] at h
  | succ d ih =>
    intro q l h x hx
    obtain ⟨r, rfl⟩ := mro_head bases _ q l h
    simp only [List.mem_cons] at hx
    rcases hx with rfl | hx
    · exact ⟨_, h, List.Sublist.refl _⟩
    · rcases mro_tail_mem bases d q r h x hx with hb | ⟨b, hb, lb, hlb, hxb⟩
      · obtain ⟨lb, h1, h2⟩ := (mro_sublist bases d q r h).2 x hb
        exact ⟨lb, mro_succ bases d x lb h1, List.Sublist.cons _ h2⟩
      · obtain ⟨lx, h1, h2⟩ := ih b lb hlb x hxb
        obtain ⟨lb', h3, h4⟩ := (mro_sublist bases d q r h).2 b hb
        rw [hlb] at h3; cases h3
        exact ⟨lx, mro_succ bases d x lx h1, List.Sublist.cons _ (h2.trans h4)⟩

theorem mro_not_mem_tail (bases : α → List α) (d : Nat) (q : α) (r : List α)
    (h : mro bases d q = some (q :: r)) : q ∉ r := by
  intro hq
  obtain ⟨lx, h1, h2⟩ := mro_closed bases d q _ h q (List.mem_cons_of_mem _ hq)
  rw [h] at h1; cases h1
  -- the whole linearisation would be a subsequence of its own tail: compare lengths
  cases d with
  | zero => simp [mro] at h
  | succ d =>
    rcases mro_tail_mem bases d q r h q hq with hb | ⟨b, hb, lb, hlb, hxb⟩
    · obtain ⟨lb, h3, h4⟩ := (mro_sublist bases d q r h).2 q hb
      have h5 := mro_succ bases d q lb h3
      rw [h] at h5; cases h5
      have := h4.length_le
      simp at this
      omega
    · obtain ⟨lq, h3, h4⟩ := mro_closed bases d b lb hlb q hxb
      obtain ⟨lb', h5, h6⟩ := (mro_sublist bases d q r h).2 b hb
      rw [hlb] at h5; cases h5
      have h7 := mro_succ bases d q lq h3
      rw [h] at h7; cases h7
      have := (h4.trans h6).length_le
      simp at this
      omega

theorem mro_closed_tail (bases : α → List α) (d : Nat) (q : α) (r : List α)
    (h : mro bases d q = some (q :: r)) (x : α) (hx : x ∈ r) :
    ∃ rx, mro bases d x = some (x :: rx) ∧ (x :: rx).Sublist r := by
  obtain ⟨lx, h1, h2⟩ := mro_closed bases d q _ h x (List.mem_cons_of_mem _ hx)
  obtain ⟨rx, rfl⟩ := mro_head bases d x lx h1
  refine ⟨rx, h1, ?_⟩
  have hne : x ≠ q := fun e => mro_not_mem_tail bases d q r h (e ▸ hx)
  cases h2 with
  | cons _ h => exact h
  | cons_cons _ _ => exact absurd rfl hne

theorem mro_bases_subset (bases : α → List α) (d : Nat) (q : α) (l : List α)
    (h : mro bases d q = some l) (x : α) (hx : x ∈ l) (b : α) (hb : b ∈ bases x) : b ∈ l := by
  obtain ⟨lx, h1, h2⟩ := mro_closed bases d q l h x hx
  obtain ⟨rx, rfl⟩ := mro_head bases d x lx h1
  cases d with
  | zero => simp [mro] at h
  | succ d =>
    have := (mro_sublist bases d x rx h1).1.subset hb
    exact h2.subset (List.mem_cons_of_mem _ this)

theorem merge_nodup : ∀ (fuel : Nat) (seqs : List (List α)) (res : List α),
    merge fuel seqs = some res → res.Nodup := by
  intro fuel seqs res
  induction res generalizing fuel seqs with
  | nil => intro _; simp
  | cons c r ih =>
    intro h
    rcases merge_some _ _ _ h with ⟨hr, _⟩ | ⟨f, c', r', _, hc, hm, hr⟩
    · cases hr
    · cases hr
      refine List.nodup_cons.mpr ⟨?_, ih _ _ hm⟩
      -- the head picked is in no tail, and it is dropped where it is a head
      intro hcr
      obtain ⟨s', hs', hcs'⟩ := merge_mem _ _ _ hm c hcr
      obtain ⟨_, _, _, hnt⟩ := pick_mem _ _ _ hc
      unfold dropHead at hs'
      obtain ⟨s, hs, rfl⟩ := List.mem_map.mp hs'
      have hns : inTail c s = false := by
        have := List.any_eq_false.mp hnt s hs
        simpa using this
      cases s with
      | nil => cases hcs'
      | cons y ys =>
        simp only [inTail, List.tail_cons, List.contains_eq_mem, decide_eq_false_iff_not] at hns
        simp only [] at hcs'
        split at hcs'
        · exact hns hcs'
        · rename_i hyc
          simp only [List.mem_cons] at hcs'
          rcases hcs' with rfl | h'
          · exact hyc rfl
          · exact hns h'

theorem mro_nodup (bases : α → List α) (d : Nat) (q : α) (l : List α)
    (h : mro bases d q = some l) : l.Nodup := by
  cases d with
  | zero => simp [mro] at h
  | succ d =>
    obtain ⟨ms, r, _, h2, rfl⟩ := mro_succ_some bases d q l h
    exact List.nodup_cons.mpr ⟨mro_not_mem_tail bases _ q r h, merge_nodup _ _ _ h2⟩

theorem mro_congr (bases bases' : α → List α) : ∀ (d : Nat) (q : α) (l : List α),
    mro bases d q = some l → (∀ x ∈ l, bases' x = bases x) → mro bases' d q = some l := by
  intro d
  induction d with
  | zero => intro q l h; simp [mro] at h
  | succ d ih =>
    intro q l h hb
    obtain ⟨ms, r, h1, h2, rfl⟩ := mro_succ_some bases d q l h
    have hq : bases' q = bases q := hb q (by simp)
    refine mro_succ_of bases' d q ms r ?_ (by rw [hq]; exact h2)
    rw [hq]
    refine mapM_congr _ _ _ _ h1 ?_
    intro b hbq
    obtain ⟨lb, h3, h4⟩ := (mro_sublist bases d q r h).2 b hbq
    rw [h3]
    exact ih b lb h3 (fun x hx => hb x (List.mem_cons_of_mem _ (h4.subset hx)))

theorem mro_depth (bases : α → List α) : ∀ (d : Nat) (q : α) (l : List α),
    mro bases d q = some l → mro bases l.length q = some l := by
  intro d
  induction d with
  | zero => intro q l h; simp [mro] at h
  | succ d ih =>
    intro q l h
    obtain ⟨ms, r, h1, h2, rfl⟩ := mro_succ_some bases d q l h
    simp only [List.length_cons]
    refine mro_succ_of bases r.length q ms r ?_ h2
    refine mapM_congr _ _ _ _ h1 ?_
    intro b hbq
    obtain ⟨lb, h3, h4⟩ := (mro_sublist bases d q r h).2 b hbq
    rw [h3]
    exact mro_le bases _ _ h4.length_le b lb (ih b lb h3)

theorem mro_transfer (bases bases' : α → List α) (d d' : Nat) (q : α) (l : List α)
    (h : mro bases d q = some l) (hb : ∀ x ∈ l, bases' x = bases x) (hd : l.length ≤ d') :
    mro bases' d' q = some l :=
  mro_le bases' _ _ hd q l (mro_depth bases' d q l (mro_congr bases bases' d q l h hb))

theorem mro_subset_of_bases_subset (bases bases' : α → List α) (hsub : ∀ x, bases' x ⊆ bases x) :
    ∀ (d' d : Nat) (q : α) (l l' : List α), mro bases d q = some l → mro bases' d' q = some l' → l' ⊆ l := by
  intro d'
  induction d' with
  | zero => intro d q l l' _ h; simp [mro] at h
  | succ d' ih =>
    intro d q l l' h h' x hx
    obtain ⟨r', rfl⟩ := mro_head bases' _ q l' h'
    obtain ⟨r, rfl⟩ := mro_head bases _ q l h
    simp only [List.mem_cons] at hx
    rcases hx with rfl | hx
    · simp
    · cases d with
      | zero => simp [mro] at h
      | succ d =>
        rcases mro_tail_mem bases' d' q r' h' x hx with hb | ⟨b, hb, lb', hlb', hxb⟩
        · exact List.mem_cons_of_mem _ ((mro_sublist bases d q r h).1.subset (hsub q hb))
        · obtain ⟨lb, h3, h4⟩ := (mro_sublist bases d q r h).2 b (hsub q hb)
          have h3' := mro_succ bases d b lb h3
          have := ih (d + 1) b lb lb' h3' hlb' hxb
          exact List.mem_cons_of_mem _ (h4.subset this)

theorem mro_mem_cases (bases : α → List α) : ∀ (d : Nat) (q : α) (l : List α),
    mro bases d q = some l → ∀ x ∈ l, x = q ∨ ∃ y ∈ l, x ∈ bases y := by
  intro d
  induction d with
  | zero => intro q l h; simp [mro] at h
  | succ d ih =>
    intro q l h x hx
    obtain ⟨r, rfl⟩ := mro_head bases _ q l h
    simp only [List.mem_cons] at hx
    rcases hx with rfl | hx
    · exact Or.inl rfl
    · right
      rcases mro_tail_mem bases d q r h x hx with hb | ⟨b, hb, lb, hlb, hxb⟩
      · exact ⟨q, by simp, hb⟩
      · obtain ⟨lb', h3, h4⟩ := (mro_sublist bases d q r h).2 b hb
        rw [hlb] at h3; cases h3
        rcases ih b lb hlb x hxb with rfl | ⟨y, hy, hxy⟩
        · exact ⟨q, by simp, hb⟩
        · exact ⟨y, List.mem_cons_of_mem _ (h4.subset hy), hxy⟩

theorem mro_transfer_le (bases bases' : α → List α) (d d' : Nat) (q : α) (l : List α)
    (h : mro bases d q = some l) (hb : ∀ x ∈ l, bases' x = bases x) (hd : d ≤ d') :
    mro bases' d' q = some l :=
  mro_le bases' _ _ hd q l (mro_congr bases bases' d q l h hb)

end MxModel.C3
