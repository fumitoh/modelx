import MxModel.Exec.Expr
/-!
# The specification of `bindKey` (argument binding of the exec layer), for every signature

`bindKey a dflt pos kw` (Exec/Expr.lean; used by `Expr.callK`, by the driver's `eval` / `set` /
`clearat` and by `evalSpelled`) is characterised completely:

* `Binds a dflt pos kw` – what Python requires of a spelling (`inspect.Signature.bind` for
  positional-or-keyword parameters): no surplus positional argument, no repeated keyword, every
  keyword names a parameter that has no positional argument, every parameter without a default is
  supplied;
* `canonKey a dflt pos kw` – the fully positional key: the positional arguments, then for every
  remaining parameter its keyword argument, else its default (the LAST `dflt.length` parameters
  have one: parameter `i` has the default `dflt[i + dflt.length - a]`);
* **`bindKey_iff`**: `bindKey a dflt pos kw = some key ↔ Binds a dflt pos kw ∧ key = canonKey a dflt pos kw`;
* `bindKey_perm` (keyword order is irrelevant), `bindKey_eq_none_iff`.

No hypothesis on the signature (`dflt.length ≤ a` is not needed: surplus defaults at the front are
never looked at).
-/
namespace MxModel.Exec

def kwVal (kw : List (Nat × Val)) (i : Nat) : Option Val := (kw.find? (fun e => e.1 == i)).map (·.2)

/-- what Python requires of a spelling for a callee with `a` positional-or-keyword parameters of which
the last `dflt.length` have defaults -/
structure Binds (a : Nat) (dflt pos : List Val) (kw : List (Nat × Val)) : Prop where
  noSurplus : pos.length ≤ a
  kwDistinct : (kw.map (·.1)).Nodup
  kwKnown : ∀ e ∈ kw, pos.length ≤ e.1 ∧ e.1 < a
  supplied : ∀ i, pos.length ≤ i → i + dflt.length < a → i ∈ kw.map (·.1)

def canonSlot (a : Nat) (dflt pos : List Val) (kw : List (Nat × Val)) (i : Nat) : Val :=
  if i < pos.length then pos[i]?.getD .none
  else match kwVal kw i with
    | some v => v
    | none => dflt[i + dflt.length - a]?.getD .none

def canonKey (a : Nat) (dflt pos : List Val) (kw : List (Nat × Val)) : Key :=
  (List.range a).map (canonSlot a dflt pos kw)

theorem distinctNats_iff : ∀ (l : List Nat), distinctNats l = true ↔ l.Nodup
  | [] => by simp [distinctNats]
  | x :: xs => by
    simp only [distinctNats, Bool.and_eq_true, Bool.not_eq_true', List.nodup_cons, distinctNats_iff xs]
    constructor
    · rintro ⟨h1, h2⟩
      exact ⟨by simpa using h1, h2⟩
    · rintro ⟨h1, h2⟩
      exact ⟨by simpa using h1, h2⟩

theorem kwVal_isSome_iff (kw : List (Nat × Val)) (i : Nat) : (kwVal kw i).isSome ↔ i ∈ kw.map (·.1) := by
  unfold kwVal
  rw [Option.isSome_map, List.find?_isSome]
  simp only [beq_iff_eq, List.mem_map]

theorem kwVal_eq_some_iff : ∀ (kw : List (Nat × Val)) (i : Nat) (v : Val), (kw.map (·.1)).Nodup →
    (kwVal kw i = some v ↔ (i, v) ∈ kw)
  | [], i, v, _ => by simp [kwVal]
  | (j, w) :: kw, i, v, hnd => by
    have hnd' := List.nodup_cons.mp hnd
    have ih := kwVal_eq_some_iff kw i v hnd'.2
    rw [kwVal] at ih ⊢
    rw [List.find?_cons, List.mem_cons, Prod.mk.injEq]
    by_cases hji : j = i
    · subst hji
      -- the first entry is the one for `j`, and no later one is
      have hn : (j, v) ∉ kw := fun h => hnd'.1 (List.mem_map.mpr ⟨_, h, rfl⟩)
      simp [hn, eq_comm]
    · simp [beq_eq_false_iff_ne.mpr hji, Ne.symm hji, ih]

def slotGiven (a : Nat) (dflt pos : List Val) (kw : List (Nat × Val)) (i : Nat) : Bool :=
  decide (i < pos.length) || (kwVal kw i).isSome || decide (a ≤ i + dflt.length)

theorem bindSlot_eq (a : Nat) (dflt pos : List Val) (kw : List (Nat × Val)) (i : Nat) (hi : i < a) :
    bindSlot a dflt pos kw i =
      if slotGiven a dflt pos kw i then some (canonSlot a dflt pos kw i) else none := by
  unfold bindSlot canonSlot slotGiven kwVal
  by_cases h1 : i < pos.length
  · simp [h1]
  · simp only [h1, if_false, decide_false, Bool.false_or]
    cases hf : kw.find? (fun e => e.1 == i) with
    | some e => simp
    | none =>
      simp only [Option.map_none, Option.isSome_none, Bool.false_or, decide_eq_true_eq]
      by_cases h2 : a ≤ i + dflt.length
      · have h3 : i + dflt.length - a < dflt.length := by omega
        simp [h2, List.getElem?_eq_getElem h3]
      · simp [h2]

theorem bindSlots_eq (a : Nat) (dflt pos : List Val) (kw : List (Nat × Val)) :
    ∀ (is : List Nat), (∀ i ∈ is, i < a) →
      bindSlots a dflt pos kw is =
        if is.all (slotGiven a dflt pos kw) then some (is.map (canonSlot a dflt pos kw)) else none
  | [], _ => by simp [bindSlots]
  | i :: is, h => by
    have hi : i < a := h i (by simp)
    have ih := bindSlots_eq a dflt pos kw is (fun j hj => h j (by simp [hj]))
    simp only [bindSlots, bindSlot_eq a dflt pos kw i hi, ih, List.all_cons, List.map_cons]
    cases slotGiven a dflt pos kw i <;> cases is.all (slotGiven a dflt pos kw) <;> rfl

/-- the guards of `bindKey`, as propositions -/
theorem bindKey_eq_some_iff (a : Nat) (dflt pos : List Val) (kw : List (Nat × Val)) (key : Key) :
    bindKey a dflt pos kw = some key ↔
      pos.length ≤ a ∧ (kw.map (·.1)).Nodup ∧ (∀ e ∈ kw, pos.length ≤ e.1 ∧ e.1 < a) ∧
        bindSlots a dflt pos kw (List.range a) = some key := by
  simp only [bindKey, Option.ite_none_left_eq_some, Nat.not_lt, Bool.not_eq_true', Bool.not_eq_false,
    distinctNats_iff, List.any_eq_true, Bool.or_eq_true, decide_eq_true_eq, not_exists, not_and, not_or, Nat.not_le]

theorem all_slotGiven_iff (a : Nat) (dflt pos : List Val) (kw : List (Nat × Val)) :
    (List.range a).all (slotGiven a dflt pos kw) = true ↔
      ∀ i, pos.length ≤ i → i + dflt.length < a → i ∈ kw.map (·.1) := by
  simp only [List.all_eq_true, List.mem_range, slotGiven, Bool.or_eq_true, decide_eq_true_eq, kwVal_isSome_iff]
  exact ⟨fun h i hi hd => (h i (by omega)).elim (·.elim (by omega) id) (by omega), fun h i hia =>
    if hp : i < pos.length then .inl (.inl hp)
    else if hd : a ≤ i + dflt.length then .inr hd
    else .inl (.inr (h i (by omega) (by omega)))⟩

/-- **The specification of `bindKey`, for every signature and every spelling**: it binds exactly the
spellings Python accepts, and the bound key is the fully positional one with the keyword values and
the trailing defaults filled in. -/
theorem bindKey_iff (a : Nat) (dflt pos : List Val) (kw : List (Nat × Val)) (key : Key) :
    bindKey a dflt pos kw = some key ↔ Binds a dflt pos kw ∧ key = canonKey a dflt pos kw := by
  rw [bindKey_eq_some_iff, bindSlots_eq a dflt pos kw _ (fun i hi => List.mem_range.mp hi)]
  constructor
  · rintro ⟨h1, h2, h3, h4⟩
    split at h4
    · rename_i hall
      exact ⟨⟨h1, h2, h3, (all_slotGiven_iff a dflt pos kw).mp hall⟩, (Option.some.inj h4).symm⟩
    · cases h4
  · rintro ⟨hb, rfl⟩
    exact ⟨hb.noSurplus, hb.kwDistinct, hb.kwKnown,
      by rw [if_pos ((all_slotGiven_iff a dflt pos kw).mpr hb.supplied)]; rfl⟩

theorem bindKey_of_binds {a : Nat} {dflt pos : List Val} {kw : List (Nat × Val)} (hb : Binds a dflt pos kw) :
    bindKey a dflt pos kw = some (canonKey a dflt pos kw) :=
  (bindKey_iff a dflt pos kw _).mpr ⟨hb, rfl⟩

theorem bindKey_eq_none_iff (a : Nat) (dflt pos : List Val) (kw : List (Nat × Val)) :
    bindKey a dflt pos kw = none ↔ ¬ Binds a dflt pos kw := by
  rw [← Option.not_isSome_iff_eq_none, Option.isSome_iff_exists]
  exact not_congr ⟨fun ⟨key, h⟩ => ((bindKey_iff a dflt pos kw key).mp h).1, fun hb => ⟨_, bindKey_of_binds hb⟩⟩

theorem Binds.perm {a : Nat} {dflt pos : List Val} {kw kw' : List (Nat × Val)} (hp : kw.Perm kw')
    (hb : Binds a dflt pos kw) : Binds a dflt pos kw' :=
  ⟨hb.noSurplus, (hp.map _).nodup_iff.mp hb.kwDistinct, fun e he => hb.kwKnown e (hp.mem_iff.mpr he),
    fun i hi hd => (hp.map _).mem_iff.mp (hb.supplied i hi hd)⟩

theorem kwVal_perm {kw kw' : List (Nat × Val)} (hp : kw.Perm kw') (hnd : (kw.map (·.1)).Nodup) (i : Nat) :
    kwVal kw i = kwVal kw' i :=
  Option.ext fun v => by
    rw [kwVal_eq_some_iff kw i v hnd, kwVal_eq_some_iff kw' i v ((hp.map _).nodup_iff.mp hnd), hp.mem_iff]

theorem canonKey_perm {a : Nat} {dflt pos : List Val} {kw kw' : List (Nat × Val)} (hp : kw.Perm kw')
    (hnd : (kw.map (·.1)).Nodup) : canonKey a dflt pos kw = canonKey a dflt pos kw' := by
  unfold canonKey
  apply List.map_congr_left
  intro i _
  unfold canonSlot
  rw [kwVal_perm hp hnd i]

theorem bindKey_perm (a : Nat) (dflt pos : List Val) {kw kw' : List (Nat × Val)} (hp : kw.Perm kw') :
    bindKey a dflt pos kw = bindKey a dflt pos kw' := by
  by_cases hb : Binds a dflt pos kw
  · rw [bindKey_of_binds hb, bindKey_of_binds (hb.perm hp), canonKey_perm hp hb.kwDistinct]
  · rw [(bindKey_eq_none_iff a dflt pos kw).mpr hb,
      (bindKey_eq_none_iff a dflt pos kw').mpr (fun hb' => hb (hb'.perm hp.symm))]

theorem canonKey_length (a : Nat) (dflt pos : List Val) (kw : List (Nat × Val)) :
    (canonKey a dflt pos kw).length = a := by
  rw [canonKey, List.length_map, List.length_range]

theorem canonKey_eq_append {a : Nat} {dflt pos : List Val} {kw : List (Nat × Val)} (h : pos.length ≤ a) :
    canonKey a dflt pos kw = pos ++ (List.range' pos.length (a - pos.length)).map (canonSlot a dflt pos kw) := by
  have hp : (List.range' 0 pos.length).map (canonSlot a dflt pos kw) = pos :=
    List.ext_getElem (by simp) fun i h1 h2 => by
      simp only [List.length_map, List.length_range'] at h1
      simp [canonSlot, h1]
  have hr := @List.range'_append_1 0 pos.length (a - pos.length)
  rw [Nat.zero_add, Nat.add_sub_cancel' h] at hr
  rw [canonKey, List.range_eq_range', ← hr, List.map_append, hp]

theorem canonKey_getElem? (a : Nat) (dflt pos : List Val) (kw : List (Nat × Val)) (i : Nat) (ha : i < a) :
    (canonKey a dflt pos kw)[i]? = some (canonSlot a dflt pos kw i) := by
  rw [canonKey, List.getElem?_map, List.getElem?_range ha]; rfl

theorem canonKey_pos (a : Nat) (dflt pos : List Val) (kw : List (Nat × Val)) (i : Nat) (hi : i < pos.length)
    (ha : i < a) : (canonKey a dflt pos kw)[i]? = pos[i]? := by
  rw [canonKey_getElem? a dflt pos kw i ha, canonSlot, if_pos hi, List.getElem?_eq_getElem hi]; rfl

theorem canonKey_kw (a : Nat) (dflt pos : List Val) (kw : List (Nat × Val)) (hb : Binds a dflt pos kw)
    (i : Nat) (v : Val) (hm : (i, v) ∈ kw) : (canonKey a dflt pos kw)[i]? = some v := by
  have hk := hb.kwKnown (i, v) hm
  rw [canonKey_getElem? a dflt pos kw i hk.2, canonSlot, if_neg (Nat.not_lt.mpr hk.1),
    (kwVal_eq_some_iff kw i v hb.kwDistinct).mpr hm]

theorem canonKey_default (a : Nat) (dflt pos : List Val) (kw : List (Nat × Val)) (i : Nat) (ha : i < a)
    (hp : pos.length ≤ i) (hk : i ∉ kw.map (·.1)) (hd : a ≤ i + dflt.length) :
    (canonKey a dflt pos kw)[i]? = dflt[i + dflt.length - a]? := by
  have hv : kwVal kw i = none :=
    Option.not_isSome_iff_eq_none.mp (fun h => hk ((kwVal_isSome_iff kw i).mp h))
  have h3 : i + dflt.length - a < dflt.length := by omega
  rw [canonKey_getElem? a dflt pos kw i ha, canonSlot, if_neg (Nat.not_lt.mpr hp), hv,
    List.getElem?_eq_getElem h3]; rfl

/-! Non-vacuity: `rate(t, base=100, step=10)` – `rate(3, step=5)`, `rate(step=5, t=3)` bind, to the key
`(3, 100, 5)`; `rate(base=1)` does not (no value for `t`). -/
private def vj (i : Int) : Val := .int i
example : Binds 3 [vj 100, vj 10] [vj 3] [(2, vj 5)] ∧ canonKey 3 [vj 100, vj 10] [vj 3] [(2, vj 5)] = [vj 3, vj 100, vj 5] ∧
    canonKey 3 [vj 100, vj 10] [] [(2, vj 5), (0, vj 3)] = [vj 3, vj 100, vj 5] := by
  refine ⟨⟨by decide +kernel, by decide +kernel, by decide +kernel, ?_⟩, by decide +kernel, by decide +kernel⟩
  intro i hi hd
  simp only [List.length_cons, List.length_nil] at hi hd
  omega
example : ¬ Binds 3 [vj 100, vj 10] [] [(1, vj 1)] := fun h => by
  have := h.supplied 0 (by simp) (by simp)
  simp at this

end MxModel.Exec
