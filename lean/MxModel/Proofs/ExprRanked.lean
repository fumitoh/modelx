import MxModel.Proofs.ExecGraph
import MxModel.Proofs.ExprInduct
/-! Programs of the concrete grammar in which every cells calls only cells with a smaller
id are `Ranked` for the order "smaller cells id" – a syntactic class of terminating programs
on which the graph theorems are non-vacuous. -/
namespace MxModel.Exec

mutual
def callsBelowId (i : CellId) : Expr → Bool
  | .lit _ => true
  | .none => true
  | .param _ => true
  | .add a b => callsBelowId i a && callsBelowId i b
  | .sub a b => callsBelowId i a && callsBelowId i b
  | .mul a b => callsBelowId i a && callsBelowId i b
  | .lt a b => callsBelowId i a && callsBelowId i b
  | .ite c a b => callsBelowId i c && callsBelowId i a && callsBelowId i b
  | .call c args => decide (c < i) && callsBelowIdList i args
  | .readN _ => true
  | .readA _ => true
  | .raise _ => true
  | .try_ a _ b => callsBelowId i a && callsBelowId i b
  | .tryRe a _ b => callsBelowId i a && callsBelowId i b
  | .tryFin a b => callsBelowId i a && callsBelowId i b
  | .callK c args _ _ _ => decide (c < i) && callsBelowIdList i args
def callsBelowIdList (i : CellId) : List Expr → Bool
  | [] => true
  | e :: es => callsBelowId i e && callsBelowIdList i es
end

def idLt (a b : Node) : Prop := a.1 < b.1

theorem idLt_strict : StrictOrder idLt :=
  ⟨fun _ h => Nat.lt_irrefl _ h, fun _ _ _ h1 h2 => Nat.lt_trans h1 h2⟩

def HBelow (n : Node) (h : Bool → Err → Prog) : Prop := ∀ x e, CallsBelow idLt n (h x e)

theorem read_below (n : Node) (byAttr : Bool) (r : RefId) (x : Nat) :
    StaysIn (CallsBelow idLt n) (HBelow n)
      (fun k h => .read byAttr r (fun o => match o with | some v => k v | none => h true (.user x))) := by
  intro k h hk hh o; cases o with
  | some v => exact hk v
  | none => exact hh _ _

theorem call_below {n : Node} {c : CellId} (hc : c < n.1) (key : Key) :
    StaysIn (CallsBelow idLt n) (HBelow n)
      (fun k h => .call (c, key) (retK k h)) := by
  refine fun k h hk hh => ⟨hc, fun r => ?_⟩
  cases r with
  | ok v => exact hk v
  | err e => exact hh _ _

theorem compile_below (ar : CellId → Option Nat) (params : List Val) (n : Node) :
    (∀ e : Expr, callsBelowId n.1 e = true → StaysIn (CallsBelow idLt n) (HBelow n) (compile ar params e)) ∧
    ∀ es : List Expr, callsBelowIdList n.1 es = true →
      StaysIn (CallsBelow idLt n) (HBelow n) (compileArgs ar params es) := by
  have hnew : ∀ h, HBelow n h → ∀ e, CallsBelow idLt n (h true e) := fun h hh e => hh true e
  apply Expr.induct
  case lit => exact fun i _ k h hk _ => hk _
  case none | nil => exact fun _ k h hk _ => hk _
  case param => exact fun i _ => staysIn_param hnew i
  case add | sub | mul | lt =>
    exact fun a b iha ihb hc =>
      staysIn_binop hnew _ (iha (Bool.and_eq_true_iff.mp hc).1) (ihb (Bool.and_eq_true_iff.mp hc).2)
  case ite =>
    intro c a b ihc iha ihb hc
    obtain ⟨hcca, hcb⟩ := Bool.and_eq_true_iff.mp hc
    obtain ⟨hcc, hca⟩ := Bool.and_eq_true_iff.mp hcca
    exact staysIn_ite (ihc hcc) (iha hca) (ihb hcb)
  case call =>
    intro c args ih hc k h
    obtain ⟨hc, hargs⟩ := Bool.and_eq_true_iff.mp hc
    rw [compile_call_eq]
    exact staysIn_callWith hnew _ (call_below (of_decide_eq_true hc)) (ih hargs) k h
  case callK =>
    intro c args npos kws dflt ih hc
    obtain ⟨hc, hargs⟩ := Bool.and_eq_true_iff.mp hc
    exact staysIn_callWith hnew _ (call_below (of_decide_eq_true hc)) (ih hargs)
  case readN => exact fun r _ => read_below n false r kName
  case readA => exact fun r _ => read_below n true r kAttr
  case raise => exact fun e _ k h _ hh => hh _ _
  case try_ =>
    intro a c b iha ihb hc k h hk hh
    obtain ⟨hca, hcb⟩ := Bool.and_eq_true_iff.mp hc
    exact iha hca k _ hk (fun x e => prop_ite (CallsBelow idLt n) (ihb hcb k h hk hh) (hh x e))
  case tryRe =>
    intro a c b iha ihb hc k h hk hh
    obtain ⟨hca, hcb⟩ := Bool.and_eq_true_iff.mp hc
    exact iha hca k _ hk (fun x e => prop_ite (CallsBelow idLt n) (ihb hcb _ h (fun _ => hh x e) hh) (hh x e))
  case tryFin =>
    intro a b iha ihb hc k h hk hh
    obtain ⟨hca, hcb⟩ := Bool.and_eq_true_iff.mp hc
    exact iha hca _ _ (fun v => ihb hcb _ h (fun _ => hk v) hh) (fun x e => ihb hcb _ h (fun _ => hh _ _) hh)
  case cons =>
    exact fun e es ihe ihes hc =>
      staysIn_cons (ihe (Bool.and_eq_true_iff.mp hc).1) (ihes (Bool.and_eq_true_iff.mp hc).2)

theorem compileArgs_below (ar : CellId → Option Nat) (params : List Val) (n : Node) :
    ∀ (es : List Expr) (k : List Val → Prog) (h : Bool → Err → Prog), callsBelowIdList n.1 es = true →
      (∀ vs, CallsBelow idLt n (k vs)) → (∀ x e, CallsBelow idLt n (h x e)) →
      CallsBelow idLt n (compileArgs ar params es k h) :=
  fun es k h hc => (compile_below ar params n).2 es hc k h

theorem ranked_of_table (cells : CellId → Option Expr) (ar : CellId → Option Nat) (env : Env)
    (hf : ∀ n, env.formula n = match cells n.1 with
      | some e => formulaOf ar e n.2
      | none => .raise (.user kName))
    (hcalls : ∀ i e, cells i = some e → callsBelowId i e = true) : Ranked env idLt := by
  intro n
  rw [hf n]
  split
  · rename_i e he
    unfold formulaOf
    refine (compile_below ar n.2 n).1 e (hcalls _ e he) _ _ (fun v => by simp [CallsBelow]) (fun x e' => ?_)
    split <;> simp [CallsBelow]
  · simp [CallsBelow]

end MxModel.Exec
