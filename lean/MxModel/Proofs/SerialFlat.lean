import MxModel.Proofs.SerialSched
/-! The tree of a description as the list of its spaces in tree order (`infosOfL`): everything the reader
walks over in parse order is a map / flatMap over that list; so are the files the writer writes
(`initPaths_writeSpace`, `dataPaths_writeSpace`, for `C04.files_of_write`). -/
namespace MxModel.Serial
open MxModel.PathCodec MxModel.Generated

mutual
/-- the spaces in tree order, each with the path of its PARENT -/
def infosOf (parent : Path) : SpaceD → List (Path × SpaceInfo)
  | .mk i cs => (parent, i) :: infosOfL (parent ++ [i.name]) cs
def infosOfL (parent : Path) : List SpaceD → List (Path × SpaceInfo)
  | [] => []
  | s :: ss => infosOf parent s ++ infosOfL parent ss
end

/-- the path of the space itself -/
def own (e : Path × SpaceInfo) : Path := e.1 ++ [e.2.name]

theorem own_ne_nil (e : Path × SpaceInfo) : own e ≠ [] := by simp [own]

def tag (p : Path) (ops : List Op) : List (Path × Op) := ops.map (fun o => (p, o))

mutual
theorem spacePaths_eq (parent : Path) : ∀ s : SpaceD, spacePaths parent s = (infosOf parent s).map own
  | .mk i cs => by simp [spacePaths, infosOf, own, spacesPaths_eq (parent ++ [i.name]) cs]
theorem spacesPaths_eq (parent : Path) : ∀ cs : List SpaceD, spacesPaths parent cs = (infosOfL parent cs).map own
  | [] => rfl
  | s :: ss => by simp [spacesPaths, infosOfL, spacePaths_eq parent s, spacesPaths_eq parent ss]
end

mutual
theorem spaceCells_eq (parent : Path) :
    ∀ s : SpaceD, spaceCells parent s = (infosOf parent s).map (fun e => (own e, e.2.cells.map (·.name)))
  | .mk i cs => by simp [spaceCells, infosOf, own, spacesCells_eq (parent ++ [i.name]) cs]
theorem spacesCells_eq (parent : Path) :
    ∀ cs : List SpaceD, spacesCells parent cs = (infosOfL parent cs).map (fun e => (own e, e.2.cells.map (·.name)))
  | [] => rfl
  | s :: ss => by simp [spacesCells, infosOfL, spaceCells_eq parent s, spacesCells_eq parent ss]
end

mutual
theorem spaceBases_eq (parent : Path) :
    ∀ s : SpaceD, spaceBases parent s = (infosOf parent s).map (fun e => (own e, e.2.bases))
  | .mk i cs => by simp [spaceBases, infosOf, own, spacesBases_eq (parent ++ [i.name]) cs]
theorem spacesBases_eq (parent : Path) :
    ∀ cs : List SpaceD, spacesBases parent cs = (infosOfL parent cs).map (fun e => (own e, e.2.bases))
  | [] => rfl
  | s :: ss => by simp [spacesBases, infosOfL, spaceBases_eq parent s, spacesBases_eq parent ss]
end

mutual
theorem spaceRefDefs_eq (parent : Path) :
    ∀ s : SpaceD, spaceRefDefs parent s = (infosOf parent s).flatMap (fun e => e.2.refs.map (fun r => (own e, r)))
  | .mk i cs => by simp [spaceRefDefs, infosOf, own, spacesRefDefs_eq (parent ++ [i.name]) cs]
theorem spacesRefDefs_eq (parent : Path) :
    ∀ cs : List SpaceD, spacesRefDefs parent cs =
      (infosOfL parent cs).flatMap (fun e => e.2.refs.map (fun r => (own e, r)))
  | [] => rfl
  | s :: ss => by simp [spacesRefDefs, infosOfL, spaceRefDefs_eq parent s, spacesRefDefs_eq parent ss]
end

mutual
theorem flatNode_eq (model : Name) (parent : Path) :
    ∀ s : SpaceD, flatNode parent (nodeOf model parent s) =
      (infosOf parent s).flatMap (fun e => tag (own e) (opsOfSpace model e.1 e.2))
  | .mk i cs => by
    simp [nodeOf, flatNode, infosOf, own, tag, flatNodes_eq model (parent ++ [i.name]) cs]
theorem flatNodes_eq (model : Name) (parent : Path) :
    ∀ cs : List SpaceD, flatNodes parent (nodesOf model parent cs) =
      (infosOfL parent cs).flatMap (fun e => tag (own e) (opsOfSpace model e.1 e.2))
  | [] => rfl
  | s :: ss => by simp [nodesOf, flatNodes, infosOfL, flatNode_eq model parent s, flatNodes_eq model parent ss]
end

mutual
theorem nodePaths_eq (model : Name) (parent : Path) :
    ∀ s : SpaceD, nodePaths parent (nodeOf model parent s) = (infosOf parent s).map own
  | .mk i cs => by simp [nodeOf, nodePaths, infosOf, own, nodesPaths_eq model (parent ++ [i.name]) cs]
theorem nodesPaths_eq (model : Name) (parent : Path) :
    ∀ cs : List SpaceD, nodesPaths parent (nodesOf model parent cs) = (infosOfL parent cs).map own
  | [] => rfl
  | s :: ss => by simp [nodesOf, nodesPaths, infosOfL, nodePaths_eq model parent s, nodesPaths_eq model parent ss]
end

theorem opCells_opsOfSpace (model : Name) (parent : Path) (i : SpaceInfo) :
    (opsOfSpace model parent i).flatMap opCells = i.cells.map (·.name) := by
  have hrefs : ∀ r, opCells (refOpOf false model (parent ++ [i.name]) r) = [] := by
    intro r; unfold refOpOf; split <;> rfl
  have hdyn : ∀ d, opCells (dynOpOf model (parent ++ [i.name]) d) = [] := fun _ => rfl
  have hcell : ∀ c : CellsD, (cellOps c).flatMap opCells = [c.name] := by
    intro c
    have htr : (trailerOps c).flatMap opCells = [] := by
      simp only [List.flatMap_eq_nil_iff]
      intro o ho
      rcases mem_trailerOps ho with ⟨d, rfl⟩ | ⟨v, rfl⟩ | ⟨b, rfl⟩ <;> rfl
    simp [cellOps, List.flatMap_cons, List.flatMap_append, opCells, htr]
  rw [opsOfSpace_eq]
  simp only [List.flatMap_append, refOps, dynOpsOf, List.flatMap_map, hrefs, hdyn, List.flatMap_assoc, hcell]
  cases i.doc <;> simp [docOps, opCells, List.map_eq_flatMap]

mutual
theorem nodeCells_eq (model : Name) (parent : Path) :
    ∀ s : SpaceD, nodeCells parent (nodeOf model parent s) =
      (infosOf parent s).map (fun e => (own e, e.2.cells.map (·.name)))
  | .mk i cs => by
    simp [nodeOf, nodeCells, infosOf, own, opCells_opsOfSpace, nodesCells_eq model (parent ++ [i.name]) cs]
theorem nodesCells_eq (model : Name) (parent : Path) :
    ∀ cs : List SpaceD, nodesCells parent (nodesOf model parent cs) =
      (infosOfL parent cs).map (fun e => (own e, e.2.cells.map (·.name)))
  | [] => rfl
  | s :: ss => by simp [nodesOf, nodesCells, infosOfL, nodeCells_eq model parent s, nodesCells_eq model parent ss]
end

mutual
theorem spaceWF_infos (ctx : Ctx) (bs : BaseRel) (parent : Path) :
    ∀ s : SpaceD, spaceWF ctx bs s = true → ∀ e ∈ infosOf parent s, infoWF ctx bs e.2 = true
  | .mk i cs, h, e, he => by
    simp only [spaceWF, Bool.and_eq_true] at h
    simp only [infosOf, List.mem_cons] at he
    rcases he with rfl | he
    · exact h.1.1
    · exact spacesWF_infos ctx bs (parent ++ [i.name]) cs h.2 e he
theorem spacesWF_infos (ctx : Ctx) (bs : BaseRel) (parent : Path) :
    ∀ cs : List SpaceD, spacesWF ctx bs cs = true → ∀ e ∈ infosOfL parent cs, infoWF ctx bs e.2 = true
  | [], _, e, he => by cases he
  | s :: ss, h, e, he => by
    simp only [spacesWF, Bool.and_eq_true] at h
    simp only [infosOfL, List.mem_append] at he
    rcases he with he | he
    · exact spaceWF_infos ctx bs parent s h.1 e he
    · exact spacesWF_infos ctx bs parent ss h.2 e he
end

mutual
theorem spaceIds_eq (parent : Path) : ∀ s : SpaceD, spaceIds s = (infosOf parent s).flatMap (fun e => infoIds e.2)
  | .mk i cs => by simp [spaceIds, infosOf, spacesIds_eq (parent ++ [i.name]) cs]
theorem spacesIds_eq (parent : Path) :
    ∀ cs : List SpaceD, spacesIds cs = (infosOfL parent cs).flatMap (fun e => infoIds e.2)
  | [] => rfl
  | s :: ss => by simp [spacesIds, infosOfL, spaceIds_eq parent s, spacesIds_eq parent ss]
end

mutual
theorem initPaths_writeSpace (model : Name) (parent : Path) :
    ∀ s : SpaceD, (writeSpace model parent s).initPaths (parent ++ [s.name]) = spacePaths parent s
  | .mk i cs => by
    simp [writeSpace, Dir.initPaths, spacePaths, SpaceD.name, SpaceD.info,
      initPathsL_writeSpaces model (parent ++ [i.name]) cs]
theorem initPathsL_writeSpaces (model : Name) (parent : Path) :
    ∀ cs : List SpaceD, Dir.initPathsL parent (writeSpaces model parent cs) = spacesPaths parent cs
  | [] => rfl
  | s :: ss => by
    simp [writeSpaces, Dir.initPathsL, spacesPaths, writeSpace_name, initPaths_writeSpace model parent s,
      initPathsL_writeSpaces model parent ss]
end

/-- the names of the `_data` files of a space: the cells that hold input values, and `_dynamic_inputs` if
an ItemSpace holds one -/
def dataNames (i : SpaceInfo) : List Name :=
  ((i.cells.filter (fun c => !c.inputs.isEmpty)).map (·.name)) ++
    (if i.dynInputs.isEmpty then [] else [fDynInputs])

theorem spaceData_names (model : Name) (path : Path) (i : SpaceInfo) :
    (spaceData model path i).map (·.1) = dataNames i := by
  unfold spaceData dataNames
  by_cases h : i.dynInputs.isEmpty <;> simp [h, List.map_map, Function.comp_def]

mutual
theorem dataPaths_writeSpace (model : Name) (parent : Path) :
    ∀ s : SpaceD, (writeSpace model parent s).dataPaths (parent ++ [s.name]) =
      (infosOf parent s).flatMap (fun e => (dataNames e.2).map (fun n => (own e, n)))
  | .mk i cs => by
    simp [writeSpace, Dir.dataPaths, infosOf, SpaceD.name, SpaceD.info, own, ← spaceData_names model (parent ++ [i.name]) i,
      List.map_map, Function.comp_def, dataPathsL_writeSpaces model (parent ++ [i.name]) cs]
theorem dataPathsL_writeSpaces (model : Name) (parent : Path) :
    ∀ cs : List SpaceD, Dir.dataPathsL parent (writeSpaces model parent cs) =
      (infosOfL parent cs).flatMap (fun e => (dataNames e.2).map (fun n => (own e, n)))
  | [] => rfl
  | s :: ss => by
    simp [writeSpaces, Dir.dataPathsL, infosOfL, writeSpace_name, dataPaths_writeSpace model parent s,
      dataPathsL_writeSpaces model parent ss]
end

end MxModel.Serial
