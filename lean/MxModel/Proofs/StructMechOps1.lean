import MxModel.Proofs.StructMechCoreOps
/-!
# Preservation of `Inv` by the member operations that do not change the base relation

`setGlobal`, `delGlobal`, `setFormula`, `setRef` (change and creation), `newCells`, `delCells` /
`delRef`.
-/
namespace MxModel.SM
open MxModel.C3

def Attr.other : Attr → Attr
  | .cells => .refs
  | .refs => .cells

theorem Disj.cr' {st : St} (h : Disj st) (a : Attr) (q : Path) (n : String)
    (hm : (st.mem a q n).isSome = true) : st.mem a.other q n = none := by
  cases a with
  | cells => exact h.cr q n hm
  | refs =>
    simp only [Attr.other]
    cases hc : st.mem .cells q n with
    | none => rfl
    | some m =>
      have := h.cr q n (by rw [hc]; rfl)
      rw [this] at hm; cases hm

theorem Disj.child' {st : St} (h : Disj st) (a : Attr) (q : Path) (n : String)
    (hc : n ∈ st.childNames q) : st.mem a q n = none := by
  cases a with
  | cells => exact (h.child q n hc).1
  | refs => exact (h.child q n hc).2

theorem isSome_of_ne_none {α : Type} (x : Option α) (h : x ≠ none) : x.isSome = true := by
  cases x with
  | none => exact absurd rfl h
  | some _ => rfl

theorem Disj.mono {st st' : St} (h : Disj st)
    (hm : ∀ a q n, (st'.mem a q n).isSome = true → (st.mem a q n).isSome = true)
    (hc : ∀ q n, n ∈ st'.childNames q → n ∈ st.childNames q)
    (hg : ∀ n ∈ st'.globals, n ∈ st.globals) : Disj st' where
  cr := fun q n hs => Option.not_isSome_iff_eq_none.mp fun hr => by
    have h2 := hm .refs q n (by simpa using hr)
    rw [h.cr q n (hm .cells q n hs)] at h2; cases h2
  child := fun q n hn =>
    have hnone : ∀ a, st'.mem a q n = none := fun a => Option.not_isSome_iff_eq_none.mp fun hr => by
      have h2 := hm a q n (by simpa using hr)
      rw [h.child' a q n (hc q n hn)] at h2; cases h2
    ⟨hnone .cells, hnone .refs⟩
  glob := fun n hn hcn => h.glob n (hg n hn) (hc [] n hcn)

theorem Disj.of_new {st st' : St} (h : Disj st) (hs : Shape st st') (a : Attr) (name : String)
    (hnew : ∀ a' q n', (st'.mem a' q n').isSome = true → (st.mem a' q n').isSome = true ∨
      (a' = a ∧ n' = name ∧ st.mem a.other q name = none ∧ name ∉ st.childNames q)) : Disj st' where
  cr := fun q n hsc => Option.not_isSome_iff_eq_none.mp fun hsr => by
    rcases hnew .cells q n hsc with h1 | ⟨ha, hn, hf, _⟩
    · rcases hnew .refs q n hsr with h2 | ⟨ha, hn, hf, _⟩
      · rw [h.cr q n h1] at h2; cases h2
      · subst ha; subst hn
        simp only [Attr.other] at hf
        rw [hf] at h1; cases h1
    · subst ha; subst hn
      rcases hnew .refs q n hsr with h2 | ⟨ha, _, _, _⟩
      · simp only [Attr.other] at hf
        rw [hf] at h2; cases h2
      · cases ha
  child := fun q n hn =>
    have hboth : ∀ a', st'.mem a' q n = none := fun a' => Option.not_isSome_iff_eq_none.mp fun hr => by
      rw [hs.childNames] at hn
      rcases hnew a' q n hr with h1 | ⟨_, hn', _, hf⟩
      · rw [h.child' a' q n hn] at h1; cases h1
      · subst hn'; exact hf hn
    ⟨hboth .cells, hboth .refs⟩
  glob := fun n hn => by
    rw [hs.globals] at hn
    rw [hs.childNames]
    exact h.glob n hn

theorem inv_of_spaces_eq {st st' : St} (h : Inv st) (hs : st'.spaces = st.spaces)
    (hg : ∀ n ∈ st'.globals, n ∉ st'.childNames []) : Inv st' := by
  obtain ⟨sp, g⟩ := st
  obtain ⟨sp', g'⟩ := st'
  simp only at hs
  subst hs
  exact ⟨⟨h.wf.nodup, h.wf.bases, h.wf.mro, h.wf.keys, h.wf.tree⟩, h.good, ⟨h.disj.cr, h.disj.child, hg⟩⟩

theorem inv_setGlobal (st st' : St) (h : Inv st) (name : String)
    (hop : st.setGlobal name = some st') : Inv st' := by
  obtain ⟨hc, rfl⟩ := of_eq_ite_some (setGlobal_eq st name) hop
  have hc : name ∉ st.childNames [] := by simpa [St.acceptsSetGlobal] using hc
  refine inv_of_spaces_eq h rfl ?_
  intro n hn
  show n ∉ st.childNames []
  simp only at hn
  split at hn
  · exact h.disj.glob n hn
  · simp only [List.mem_append, List.mem_singleton] at hn
    rcases hn with hn | rfl
    · exact h.disj.glob n hn
    · exact hc

theorem inv_delGlobal (st st' : St) (h : Inv st) (name : String)
    (hop : st.delGlobal name = some st') : Inv st' := by
  obtain ⟨_, rfl⟩ := of_eq_ite_some (delGlobal_eq st name) hop
  refine inv_of_spaces_eq h rfl ?_
  intro n hn
  simp only [List.mem_filter] at hn
  exact h.disj.glob n hn.1

theorem Inv.def_source {st : St} (h : Inv st) (a : Attr) (q : Path) (n : String)
    (hm : (st.mem a q n).isSome = true) : ∃ b, (b = q ∨ b ∈ st.tail q) ∧ (st.defd a b n).isSome = true := by
  have hg := h.good a q n
  unfold Good1 at hg
  cases hq : st.mem a q n with
  | none => rw [hq] at hm; cases hm
  | some m =>
    rw [hq] at hg
    cases hd : m.derived with
    | false => exact ⟨q, Or.inl rfl, by unfold St.defd; rw [hq]; simp [hd]⟩
    | true =>
      obtain ⟨b, hb⟩ := hg hd
      obtain ⟨h1, h2⟩ := firstDef_some st a _ n b _ hb
      exact ⟨b, Or.inr h1, by rw [h2]; rfl⟩

theorem Inv.mem_isSome_of_base {st : St} (h : Inv st) (a : Attr) (p q : Path) (name : String)
    (hpq : p ∈ st.tail q) (hm : (st.mem a p name).isSome = true) : (st.mem a q name).isSome = true := by
  obtain ⟨b, hb, hbd⟩ := h.def_source a p name hm
  have hbq : b ∈ st.tail q := hb.elim (fun e => e ▸ hpq) (h.wf.tail_subset q p hpq b)
  cases hq : st.mem a q name with
  | some _ => rfl
  | none =>
    -- a space without the name has no definition of it along its linearisation
    have hg := h.good a q name
    unfold Good1 at hg
    rw [hq] at hg
    rw [(firstDef_eq_none st a _ name).mp hg b hbq] at hbd
    cases hbd

theorem Inv.mem_isSome_of_source {st : St} (h : Inv st) (a : Attr) {b q : Path} {name : String}
    (hb : b = q ∨ b ∈ st.tail q) (hm : (st.mem a b name).isSome = true) : (st.mem a q name).isSome = true := by
  rcases hb with rfl | hb
  · exact hm
  · exact h.mem_isSome_of_base a b q name hb hm

theorem walk_after_define (st : St) (h : Inv st) (a : Attr) (p : Path) (name : String) (v : Nat)
    (hp : p ∈ st.ids) (f : St → Path → St) (C : St → Path → Prop)
    (hC : ∀ s s' q q', SubStep a name s s' q' → C s q → C s' q)
    (hstep : ∀ s q, KeysOK s → s.defd a p name = some v → GoodUnless s a q name p → C s q →
      SubStep a name s (f s q) q)
    (st1 : St) (hst1 : st.setMem a p name { derived := false, payload := v } = st1)
    (hC0 : ∀ q ∈ st1.subs p, C st1 q) :
    Shape st ((st1.subs p).foldl f st1) ∧ WF ((st1.subs p).foldl f st1) ∧
      (∀ a' q n', Good1 ((st1.subs p).foldl f st1) a' q n') ∧
      Walked a p name st1 ((st1.subs p).foldl f st1) (st1.subs p) := by
  obtain ⟨hs, hk, hdp, hother, hgu⟩ := goodUnless_after_define st h.wf h.good a p name v hp
  rw [hst1] at hs hk hdp hother hgu
  have W := walked_foldl a p name v f C hC hstep st1 hdp (st1.subs p) [] st1
    (walked_nil a p name st1 hk hgu) hC0
  simp only [List.nil_append] at W
  refine ⟨hs.trans W.shape, h.wf.of_shape (hs.trans W.shape) W.keys, ?_, W⟩
  intro a' q n'
  by_cases hc : a' = a ∧ n' = name
  · obtain ⟨rfl, rfl⟩ := hc
    exact walked_all_good (h.wf.of_shape hs hk) W q
  · exact (hother a' q n' hc).congr (W.other a' q n' (fun h' => hc ⟨h'.1, h'.2.2⟩)) (W.shape.tail q)
      (fun b _ => W.defs a' b n')

theorem inv_changeMember (st : St) (h : Inv st) (a : Attr) (p : Path) (name : String) (v : Nat)
    (hm : (st.mem a p name).isSome = true) : Inv (st.changeMember a p name v) := by
  have hp : p ∈ st.ids := mem_ids_of_mem_isSome st a p name hm
  unfold St.changeMember
  generalize hst1 : st.setMem a p name { derived := false, payload := v } = st1
  have hs : Shape st st1 := by rw [← hst1]; exact shape_setMem st a p name _
  have hsome1 : ∀ a' q n', (st1.mem a' q n').isSome = (st.mem a' q n').isSome := by
    intro a' q n'
    rw [← hst1, mem_setMem st a p name _ hp]
    by_cases hc : q = p ∧ a' = a ∧ n' = name
    · obtain ⟨rfl, rfl, rfl⟩ := hc
      simp [hm]
    · simp [hc]
  -- a sub space of `p` has the name already
  have hC0 : ∀ q ∈ st1.subs p, q ∈ st1.ids ∧ (st1.mem a q name).isSome = true := by
    intro q hq
    obtain ⟨h1, _, h3⟩ := (mem_subs p q).mp hq
    refine ⟨h1, ?_⟩
    rw [hsome1]
    rw [hs.tail] at h3
    exact h.mem_isSome_of_base a p q name h3 hm
  obtain ⟨hss, hwf, hgood, W⟩ := walk_after_define st h a p name v hp
    (fun s q => s.changeMemberSub a p name v q) (fun s q => q ∈ s.ids ∧ (s.mem a q name).isSome = true)
    (fun s s' q q' hst hc => ⟨by rw [hst.shape.ids]; exact hc.1, by
      by_cases hqq : q = q'
      · subst hqq; exact hst.mono hc.2
      · rw [hst.other a q name (fun h' => hqq h'.2.1)]; exact hc.2⟩)
    (fun s q hk' hd' hg' hc => subStep_change a p name v s q hk' hc.1 hd' hg' hc.2) st1 hst1 hC0
  refine ⟨hwf, hgood, h.disj.mono ?_ (fun q n hn => by rwa [hss.childNames] at hn)
    (fun n hn => by rwa [hss.globals] at hn)⟩
  intro a' q n' hh
  rw [← hsome1]
  by_cases hc : a' = a ∧ q ∈ st1.subs p ∧ n' = name
  · obtain ⟨rfl, hq, rfl⟩ := hc
    exact (hC0 q hq).2
  · rw [← W.other a' q n' hc]; exact hh

theorem inv_setFormula (st st' : St) (h : Inv st) (p : Path) (name : String) (v : Nat)
    (hop : st.setFormula p name v = some st') : Inv st' := by
  obtain ⟨hm, rfl⟩ := of_eq_ite_some (setFormula_eq st p name v) hop
  exact inv_changeMember st h .cells p name v hm

theorem inv_newMember (st : St) (h : Inv st) (a : Attr) (p : Path) (name : String) (v : Nat)
    (hp : p ∈ st.ids) (hm : st.mem a p name = none)
    (hfree : ∀ q, q = p ∨ q ∈ st.subs p → st.mem a q name = none →
      st.mem a.other q name = none ∧ name ∉ st.childNames q) :
    Inv (st.newMember a p name v) := by
  unfold St.newMember
  generalize hst1 : st.setMem a p name { derived := false, payload := v } = st1
  have hs : Shape st st1 := by rw [← hst1]; exact shape_setMem st a p name _
  obtain ⟨hss, hwf, hgood, W⟩ := walk_after_define st h a p name v hp
    (fun s q => s.newMemberSub a p name v q) (fun s q => q ∈ s.ids ∧ p ∈ s.tail q)
    (fun s s' q q' hst hc => ⟨by rw [hst.shape.ids]; exact hc.1, by rw [hst.shape.tail]; exact hc.2⟩)
    (fun s q hk' hd' hg' hc => subStep_new a p name v s q hk' hc.1 hd' hg' hc.2) st1 hst1
    (fun q hq => ⟨((mem_subs p q).mp hq).1, ((mem_subs p q).mp hq).2.2⟩)
  generalize List.foldl (fun s q => s.newMemberSub a p name v q) st1 (st1.subs p) = s1 at hss hwf hgood W ⊢
  have hnew : ∀ a' q n', (s1.mem a' q n').isSome = true → (st.mem a' q n').isSome = true ∨
      (a' = a ∧ n' = name ∧ st.mem a.other q name = none ∧ name ∉ st.childNames q) := by
    intro a' q n' hh
    have hst1m : ∀ a' q n', ¬ (q = p ∧ a' = a ∧ n' = name) → st1.mem a' q n' = st.mem a' q n' := by
      intro a' q n' hc
      rw [← hst1, mem_setMem st a p name _ hp]
      simp [hc]
    by_cases hc : a' = a ∧ n' = name
    · obtain ⟨rfl, rfl⟩ := hc
      cases hq0 : st.mem a' q n' with
      | some _ => exact Or.inl rfl
      | none =>
        right
        refine ⟨rfl, rfl, ?_⟩
        by_cases hqp : q = p
        · exact hfree q (Or.inl hqp) hq0
        · by_cases hqs : q ∈ st1.subs p
          · rw [hs.subs] at hqs
            exact hfree q (Or.inr hqs) hq0
          · exfalso
            rw [W.other a' q n' (fun h' => hqs h'.2.1), hst1m a' q n' (fun h' => hqp h'.1), hq0] at hh
            cases hh
    · left
      rw [W.other a' q n' (fun h' => hc ⟨h'.1, h'.2.2⟩), hst1m a' q n' (fun h' => hc ⟨h'.2.1, h'.2.2⟩)] at hh
      exact hh
  exact ⟨hwf, hgood, h.disj.of_new hss a name hnew⟩

theorem inv_newCells (kw : List String) (st st' : St) (h : Inv st) (p : Path) (name : String) (v : Nat)
    (hop : st.newCells kw p name v = some st') : Inv st' := by
  obtain ⟨hp, _, hca, rfl⟩ := newCells_some hop
  obtain ⟨hkp, hsub⟩ := canAdd_space (h.wf.tree p hp).1 hca
  obtain ⟨h1, h2, h3, _⟩ := kindOf_none st p name hkp
  refine inv_newMember st h .cells p name v hp h1 ?_
  intro q hq hqm
  rcases hq with rfl | hq
  · exact ⟨h3, h2⟩
  · rcases hsub q hq with hk | hk
    · exact ⟨(kindOf_none st q name hk).2.2.1, (kindOf_none st q name hk).2.1⟩
    · have := kindOf_cells st q name hk
      rw [hqm] at this; cases this

theorem inv_setRef (kw : List String) (st st' : St) (h : Inv st) (p : Path) (name : String) (v : Nat)
    (hop : st.setRef kw p name v = some st') : Inv st' := by
  obtain ⟨hp, _, hcase⟩ := setRef_some hop
  rcases hcase with ⟨hm, rfl⟩ | ⟨hm, hok, rfl⟩
  · exact inv_changeMember st h .refs p name v hm
  · exact inv_newMember st h .refs p name v hp hm (fun q hq _ => newRefOk_free hok q hq)

theorem good_updateAll_all (st1 : St) (hk : KeysOK st1) (ds : List Path)
    (hpre : ∀ a q n, q ∉ ds → Good1 st1 a q n) : ∀ a q n, Good1 (st1.updateAll ds) a q n := by
  intro a q n
  have R := rederived_updateAll st1 hk ds
  by_cases hq : q ∈ ds
  · exact R.good a q n (Or.inl hq)
  · exact R.good a q n (Or.inr (hpre a q n hq))

theorem inv_delMember (st st' : St) (h : Inv st) (a : Attr) (p : Path) (name : String)
    (hop : st.delMember a p name = some st') : Inv st' := by
  obtain ⟨hd, rfl⟩ := of_eq_ite_some (delMember_eq st a p name) hop
  generalize hst1 : st.delMem a p name = st1
  have hs : Shape st st1 := by rw [← hst1]; exact shape_delMem st a p name
  have hk : KeysOK st1 := by rw [← hst1]; exact keysOK_delMem st h.wf.keys a p name
  have hm1 : ∀ a' q n', ¬ (q = p ∧ a' = a ∧ n' = name) → st1.mem a' q n' = st.mem a' q n' := by
    intro a' q n' hc
    rw [← hst1, mem_delMem]; simp [hc]
  have hm1' : ∀ a' q n', (st1.mem a' q n').isSome = true → (st.mem a' q n').isSome = true := by
    intro a' q n' hh
    by_cases hc : q = p ∧ a' = a ∧ n' = name
    · rw [← hst1, mem_delMem] at hh
      simp [hc] at hh
    · rw [← hm1 a' q n' hc]; exact hh
  have hd1 : ∀ a' q n', q ≠ p → st1.defd a' q n' = st.defd a' q n' := by
    intro a' q n' hc
    unfold St.defd
    rw [hm1 a' q n' (fun h' => hc h'.1)]
  have R := rederived_updateAll st1 hk (p :: st1.subs p)
  refine ⟨h.wf.of_shape (hs.trans R.shape) R.keys, ?_, ?_⟩
  · apply good_updateAll_all st1 hk
    intro a' q n' hq
    simp only [List.mem_cons, not_or] at hq
    by_cases hqi : q ∈ st1.ids
    · have hpt : p ∉ st1.tail q := not_mem_tail_of_not_sub p q hqi hq.1 hq.2
      rw [hs.tail] at hpt
      exact (h.good a' q n').congr (hm1 a' q n' (fun h' => hq.1 h'.1)) (hs.tail q)
        (fun b hb => hd1 a' b n' (fun e => hpt (e ▸ hb)))
    · exact Good1.of_not_mem st1 a' q n' hqi
  · refine h.disj.mono ?_ (fun q n hn => by rw [(hs.trans R.shape).childNames] at hn; exact hn)
      (fun n hn => by rw [(hs.trans R.shape).globals] at hn; exact hn)
    -- a name a space has after the re-derivation was a name of it, or of a space of its linearisation
    intro a' q n' hh
    obtain ⟨b, hb, hbm⟩ := R.mem_source a' q n' hh
    exact h.mem_isSome_of_source a' (by rw [← hs.tail]; exact hb) (hm1' a' b n' hbm)

end MxModel.SM
