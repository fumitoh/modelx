import MxModel.Proofs.EditMachineOps3
/-!
# Every operation of the combined machine keeps the certificate invariant; histories

`CIG P lt w`: the structural invariant (`SM.Inv`, `run_inv`), every member has an identity, and the
certificate invariant `CI` for the definitions READ OFF THE CURRENT STRUCTURE (`W.env`); `CIW` adds "no
model-level reference", the fragment `step` stays in.

What one operation does to a state is said once: a value operation is the operation of the value-layer
machine on the cells' identities (`step_value`), an accepted structural operation puts the new structure
and the grown tables and clears under the old definitions read with the grown tables (`step_struct`, a `ClearsTo`).
`step_ciw`: one operation, given that its clearing covers what it changes (`StepCovers`) – which is a
theorem for EVERY operation of the machine (`stepCovers_of_inv`, from `SM.Inv` alone), and decidable besides
(`stepCovers_of_check`: the Boolean `Edit.stepCovered`, which the driver evaluates at every step as a
cross-check).
-/
namespace MxModel.Edit
open MxModel.Exec MxModel.C02 MxModel.SM

variable (P : Params) (lt : Node → Node → Prop)

structure CIG (w : W) : Prop where
  inv : SM.Inv w.sm
  alloc : AllocOK w.tabs w.sm
  ci : CI (w.env P) lt w.ex

structure CIW (w : W) : Prop where
  inv : SM.Inv w.sm
  alloc : AllocOK w.tabs w.sm
  ci : CI (w.env P) lt w.ex
  noglob : w.sm.globals = []

theorem CIW.toCIG {w : W} (h : CIW P lt w) : CIG P lt w := ⟨h.inv, h.alloc, h.ci⟩

theorem refPay_noglobals (t : Tabs) (st : SM.St) (hg : st.globals = []) (q : Path) (x : String) :
    refPay t st q x = (st.mem .refs q x).map (·.payload) := by
  unfold refPay gpay
  cases st.mem .refs q x with
  | some m => rfl
  | none => simp [hg]

/-- without model-level references a slot is the member entry: the clauses about members give those about slots -/
theorem coversG_of_covers {t : Tabs} {st st' : SM.St} {cl : List Clear} (h : Covers t st st' cl)
    (hg : st.globals = []) (hg' : st'.globals = []) : CoversG t st st' cl := by
  have hne : ∀ q x, refPay t st' q x ≠ refPay t st q x → st'.mem .refs q x ≠ st.mem .refs q x := by
    intro q x hne heq
    apply hne
    rw [refPay_noglobals t st' hg', refPay_noglobals t st hg, heq]
  refine ⟨h.ns, h.cells, fun q x hd => h.refsNs q x (hne q x hd), ?_⟩
  intro q x hd hs
  apply h.refsAttr q x (hne q x hd)
  rw [refPay_noglobals t st hg] at hs
  simpa using hs

theorem apply_keeps (kw : List String) (st st' : SM.St) (hi : SM.Inv st) (o : SM.Op) (hsup : supported o = true)
    (hop : st.apply kw o = some st') :
    st'.globals = st.globals ∧ ((∀ p, o ≠ .delSpace p) → ∀ q ∈ st.ids, q ∈ st'.ids) := by
  have heff := apply_spec kw st st' (keysOK_of_inv hi) o hop
  cases o with
  | newSpace parent name bases refs => exact ⟨heff.2.2.1, fun _ q hq => heff.2.1 ▸ List.mem_append_left _ hq⟩
  | delSpace p => exact ⟨heff.globals, fun h => absurd rfl (h p)⟩
  | newCells p name fname v => exact ⟨heff.1.globals, fun _ q hq => heff.1.ids ▸ hq⟩
  | setFormula p name v => exact ⟨heff.1.globals, fun _ q hq => heff.1.ids ▸ hq⟩
  | delCells p name => exact ⟨heff.1.globals, fun _ q hq => heff.1.ids ▸ hq⟩
  | renameCells p old new => exact ⟨heff.1.globals, fun _ q hq => heff.1.ids ▸ hq⟩
  | addBases p bs => exact ⟨heff.globals, fun _ q hq => heff.ids ▸ hq⟩
  | removeBases p bs => exact ⟨heff.globals, fun _ q hq => heff.ids ▸ hq⟩
  | setRef p name v => exact ⟨heff.1.globals, fun _ q hq => heff.1.ids ▸ hq⟩
  | delRef p name => exact ⟨heff.1.globals, fun _ q hq => heff.1.ids ▸ hq⟩
  | setGlobal name => cases hsup
  | delGlobal name => cases hsup

theorem covers_of_inv (kw : List String) (t : Tabs) {st st' : SM.St} (o : SM.Op) (hi : SM.Inv st)
    (hsup : supported o = true) (hop : st.apply kw o = some st') :
    Covers t st st' (clearing kw t st st' o) := by
  have hi' := inv_apply kw st st' o hi hop
  cases o with
  | newSpace parent name bases refs => exact covers_newSpace kw t hi hi' parent name bases refs hop
  | delSpace p => exact covers_delSpace kw t hi hi' p hop
  | newCells p name fname v => exact covers_newCells kw t hi hi' p name fname v hop
  | setFormula p name v => exact covers_setFormula kw t hi hi' p name v hop
  | delCells p name => exact covers_delCells kw t hi hi' p name hop
  | renameCells p old new => exact covers_renameCells kw t hi hi' p old new hop
  | addBases p bs => exact covers_addBases kw t hi hi' p bs hop
  | removeBases p bs => exact covers_removeBases kw t hi hi' p bs hop
  | setRef p name v => exact covers_setRef kw t hi hi' p name v hop
  | delRef p name => exact covers_delRef kw t hi hi' p name hop
  | setGlobal name => cases hsup
  | delGlobal name => cases hsup

def StepCovers (w : W) : Op → Prop
  | .struct o => supported o = true → ∀ st', w.sm.apply P.kw o = some st' →
      Covers (w.tabs.grow st') w.sm st' (clearing P.kw (w.tabs.grow st') w.sm st' o)
  | _ => True

theorem stepCovers_of_check (w : W) (op : Op) (hs : ∀ o, op = .struct o → supported o = true)
    (h : stepCovered P w op = true) : StepCovers P w op := by
  cases op with
  | struct o =>
    intro _ st' hop
    simp only [stepCovered, hs o rfl, if_true, hop] at h
    exact covered_sound _ _ _ _ h
  | _ => trivial

theorem stepCovers_of_inv (w : W) (op : Op) (hi : SM.Inv w.sm) : StepCovers P w op := by
  cases op with
  | struct o => exact fun hsup st' hop => covers_of_inv P.kw _ o hi hsup hop
  | _ => trivial

theorem alive_cid (w : W) (ha : AllocOK w.tabs w.sm) (q : Path) (n : String) :
    (w.env P).alive (w.tabs.cid q n) = (w.sm.mem .cells q n).isSome := by
  rw [Bool.eq_iff_iff, W.env, alive_iff, Option.isSome_iff_exists]
  constructor
  · rintro ⟨q', x', m', hd, hm', _⟩
    -- an identity that decodes is that of `(q, n)`
    have hmem : (q, n) ∈ w.tabs.ctab := List.idxOf_lt_length_iff.mp ((List.getElem?_eq_some_iff.mp hd).1)
    rw [cellOf_cid w.tabs q n hmem] at hd
    cases hd
    exact ⟨m', hm'⟩
  · rintro ⟨m, hm⟩
    exact ⟨q, n, m, cellOf_cid w.tabs q n (ha.cells q n (by rw [hm]; rfl)), hm, rfl⟩

/-- a value operation as an operation of the value-layer machine (`C02.step`), on the cells' identities;
`struct`: a dummy – `step_value` excludes it -/
def toC02 (w : W) : Op → C02.Op
  | .eval q n key => .eval (w.tabs.cid q n, key)
  | .setValue q n key v => .setValue (w.tabs.cid q n, key) v
  | .clearAt q n key => .clearAt (w.tabs.cid q n, key)
  | .clear q n => .clear (w.tabs.cid q n)
  | .clearAll q n => .clearAll (w.tabs.cid q n)
  | .struct _ => .admin .getError

theorem op_cases (op : Op) : (∃ o, op = .struct o) ∨ ∀ o, op ≠ .struct o := by
  cases op with
  | struct o => exact Or.inl ⟨o, rfl⟩
  | _ => exact Or.inr (fun _ e => nomatch e)

theorem step_value (w : W) (ha : AllocOK w.tabs w.sm) (op : Op) (hv : ∀ o, op ≠ .struct o) :
    (step P w op).sm = w.sm ∧ (step P w op).tabs = w.tabs ∧
    C02.step (w.env P, w.ex) (toC02 w op) = (w.env P, (step P w op).ex) := by
  cases op with
  | struct o => exact absurd rfl (hv o)
  | eval q n key =>
    simp only [step, toC02, C02.step, alive_cid P w ha]
    split <;> exact ⟨rfl, rfl, rfl⟩
  | setValue q n key v =>
    simp only [step, toC02, C02.step, alive_cid P w ha]
    rw [Bool.and_comm]
    split <;> exact ⟨rfl, rfl, rfl⟩
  | clearAt q n key => exact ⟨rfl, rfl, rfl⟩
  | clear q n => exact ⟨rfl, rfl, rfl⟩
  | clearAll q n => exact ⟨rfl, rfl, rfl⟩

theorem env_of_eq {w w' : W} (h1 : w'.sm = w.sm) (h2 : w'.tabs = w.tabs) : w'.env P = w.env P := by
  unfold W.env; rw [h1, h2]

/-! The shape of an operation `op` of a machine `stp` that is no value operation, at the states `w2` with the
structure and the identities of `w` (the run without the evaluations is at such a state, and takes the same branch): -/

section shape
variable {O : Type} (stp : W → O → W) (op : O) (w : W)

/-- `op` is refused -/
def Refused : Prop := ∀ w2 : W, w2.sm = w.sm → w2.tabs = w.tabs → stp w2 op = w2

/-- `op` puts the structure `st'` and the identities `t2`, and clears `cl` under the definitions in force, read with
the identities `tc` -/
def ClearsTo (st' : SM.St) (tc : Tabs) (cl : List Clear) (t2 : Tabs) : Prop :=
  ∀ w2 : W, w2.sm = w.sm → w2.tabs = w.tabs → stp w2 op = ⟨st', doClears (envOf P tc w.sm) w2.ex cl, t2⟩

/-- one of the two, with identities `tc` that extend those of `w` -/
def ClearStep : Prop := Refused stp op w ∨ ∃ st' t2 tc cl, Ext w.tabs tc ∧ ClearsTo P stp op w st' tc cl t2

end shape

theorem step_struct (w : W) (o : SM.Op) :
    Refused (step P) (.struct o) w ∨
    ∃ st', supported o = true ∧ w.sm.apply P.kw o = some st' ∧
      ClearsTo P (step P) (.struct o) w st' (w.tabs.grow st') (clearing P.kw (w.tabs.grow st') w.sm st' o)
        (w.tabs.grow st') := by
  by_cases hsup : supported o = true
  · cases hop : w.sm.apply P.kw o with
    | none => exact Or.inl (fun w2 h1 _ => by simp only [step, hsup, if_true, h1, hop])
    | some st' =>
      exact Or.inr ⟨st', hsup, rfl, fun w2 h1 h2 => by simp only [step, hsup, if_true, h1, h2, hop]⟩
  · exact Or.inl (fun w2 _ _ => by simp only [step, hsup, Bool.false_eq_true, if_false])

theorem tabs_step (w : W) (op : Op) (h : AllocOK w.tabs w.sm) :
    AllocOK (step P w op).tabs (step P w op).sm ∧ (step P w op).tabs.slots = w.tabs.slots := by
  rcases op_cases op with ⟨o, rfl⟩ | hv
  · rcases step_struct P w o with href | ⟨st', _, _, heq⟩
    · rw [href w rfl rfl]; exact ⟨h, rfl⟩
    · rw [heq w rfl rfl]; exact ⟨allocOK_grow w.tabs st' h.slots, rfl⟩
  · obtain ⟨e1, e2, _⟩ := step_value P w h op hv
    rw [e1, e2]; exact ⟨h, rfl⟩

theorem tabs_run : ∀ (ops : List Op) (w : W), AllocOK w.tabs w.sm →
    AllocOK (run P w ops).tabs (run P w ops).sm ∧ (run P w ops).tabs.slots = w.tabs.slots :=
  fun ops w h => List.foldlRecOn (motive := fun w' => AllocOK w'.tabs w'.sm ∧ w'.tabs.slots = w.tabs.slots)
    ops (step P) ⟨h, rfl⟩ (fun w' hw' op _ => ⟨(tabs_step P w' op hw'.1).1, (tabs_step P w' op hw'.1).2.trans hw'.2⟩)

variable {P lt}

theorem grow_regime {w : W} (hw : WF (w.env P) lt) (h : CIG P lt w) (st' : SM.St) :
    WF (envOf P (w.tabs.grow st') w.sm) lt ∧ CI (envOf P (w.tabs.grow st') w.sm) lt w.ex :=
  ⟨wf_ext P (ext_grow w.tabs st') h.alloc hw, ci_ext P (ext_grow w.tabs st') h.alloc hw h.ci⟩

theorem gslots_grow {w : W} (ha : AllocOK w.tabs w.sm) (st' : SM.St) (q : Path) (x : String) (hq : q ∈ w.sm.ids)
    (hx : x ∈ w.sm.globals) : (q, x) ∈ (w.tabs.grow st').rtab := by
  obtain ⟨l, hl, _⟩ := (ext_grow w.tabs st').refs
  rw [hl]
  exact List.mem_append_left _ (ha.gslots q x hq hx)

theorem cig_cleared {w : W} (hw : WF (w.env P) lt) (h : CIG P lt w) {o : SM.Op} {st' : SM.St}
    (hop : w.sm.apply P.kw o = some st') {cl : List Clear} (hcov : CoversG (w.tabs.grow st') w.sm st' cl) :
    CIG P lt ⟨st', doClears (envOf P (w.tabs.grow st') w.sm) w.ex cl, w.tabs.grow st'⟩ :=
  ⟨inv_apply P.kw w.sm st' o h.inv hop, allocOK_grow w.tabs st' h.alloc.slots,
    struct_ci P (grow_regime hw h st').1 (grow_regime hw h st').2 hcov⟩

theorem step_value_cig (ho : StrictOrder lt) (w : W) (op : Op) (hv : ∀ o, op ≠ .struct o) (hw : WF (w.env P) lt)
    (h : CIG P lt w) : CIG P lt (step P w op) := by
  obtain ⟨e1, e2, e3⟩ := step_value P w h.alloc op hv
  have hci := step_ci lt ho (w.env P, w.ex) (toC02 w op) hw h.ci
  rw [e3] at hci
  exact ⟨e1 ▸ h.inv, by rw [e1, e2]; exact h.alloc, by rw [env_of_eq P e1 e2]; exact hci⟩

theorem step_ciw (ho : StrictOrder lt) (w : W) (op : Op) (hw : WF (w.env P) lt) (h : CIW P lt w)
    (hc : StepCovers P w op) : CIW P lt (step P w op) := by
  rcases op_cases op with ⟨o, rfl⟩ | hv
  · rcases step_struct P w o with href | ⟨st', hsup, hop, heq⟩
    · rw [href w rfl rfl]; exact h
    · rw [heq w rfl rfl]
      have hg' : st'.globals = [] := (apply_keeps P.kw w.sm st' h.inv o hsup hop).1.trans h.noglob
      have c := cig_cleared hw h.toCIG hop (coversG_of_covers (hc hsup st' hop) h.noglob hg')
      exact ⟨c.inv, c.alloc, c.ci, hg'⟩
  · have c := step_value_cig ho w op hv hw h.toCIG
    exact ⟨c.inv, c.alloc, c.ci, by rw [(step_value P w h.alloc op hv).1]; exact h.noglob⟩

variable (P lt)

/-- the hypothesis of every history theorem: the definitions are in the regime after every operation
(`EditMachineWF`: what of it follows from the sources) -/
def Admissible : W → List Op → Prop
  | _, [] => True
  | w, op :: ops => WF ((step P w op).env P) lt ∧ Admissible (step P w op) ops

theorem wf_init (slots : List (Path × String)) : WF ((W.init slots).env P) lt := by
  have hf : ∀ n, ((W.init slots).env P).formula n = .raise errDead := fun n => rfl
  exact ⟨fun n => by rw [hf]; trivial, fun n => by rw [hf]; trivial, fun n => by rw [hf]; trivial⟩

theorem cig_init (slots : List (Path × String)) : CIG P lt (W.init slots) :=
  ⟨inv_empty, allocOK_init slots, CI.empty _ lt⟩

theorem ciw_empty : CIW P lt {} := ⟨inv_empty, allocOK_init [], CI.empty _ lt, rfl⟩

theorem wf_empty : WF (({} : W).env P) lt := wf_init P lt []

variable {P lt}

theorem run_ciw (ho : StrictOrder lt) : ∀ (ops : List Op) (w : W), WF (w.env P) lt → CIW P lt w →
    Admissible P lt w ops → CIW P lt (run P w ops) ∧ WF ((run P w ops).env P) lt :=
  foldl_inv (step P) (Admissible P lt) (fun w => WF (w.env P) lt) (CIW P lt) (fun _ _ _ h => h)
    (fun w op hw h => step_ciw ho w op hw h (stepCovers_of_inv P w op h.inv))

end MxModel.Edit
