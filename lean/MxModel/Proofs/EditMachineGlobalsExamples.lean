import MxModel.Proofs.EditMachineGlobalsRun
import MxModel.Proofs.EditMachineExamples
/-!
# The machine with model-level references: the example histories

The sources read references only through attribute paths (`readAttr`, `NsAttrOnly`), so every history is
admissible (`admissibleG_of_sources`).
`gOps`: `m.x = 1`; `B.x = 5`; `T.c` reads `S.x`; `T.c()` (1); `S.add_bases(B)`; `T.c()` (5).
-/
namespace MxModel.Edit
open MxModel.Exec MxModel.C02 MxModel.SM

/-- the value of the attribute path `x` (a declared slot): read by attribute -/
def readAttr (x : String) : SProg :=
  .name x (fun b => match b with
    | some (.ref r) => .read true r (fun o => match o with
      | some v => .ret v
      | none => .raise (.user 4))
    | _ => .raise (.user 3))

/-- every cells is `def c(): return S.x`; reference payloads are their values -/
def gP : Params where
  srcOf := fun _ _ => readAttr "S.x"
  valOf := fun v => .int v
  flagOf := fun _ => true
  anOf := fun _ => false
  maxdepth := 50
  kw := []

def gSlots : List (Path × String) := [(["S"], "x")]

/-- `m.x = 1`; `B.x = 5`; `T.c = lambda: S.x`; `T.c()`; `S.add_bases(B)`; `T.c()` -/
def gOps : List OpG := [
  .setGlobal "x" 1,
  .op (.struct (.newSpace [] "B" [] [])),
  .op (.struct (.setRef ["B"] "x" 5)),
  .op (.struct (.newSpace [] "S" [] [])),
  .op (.struct (.newSpace [] "T" [] [])),
  .op (.struct (.newCells ["T"] "c" "c" 0)),
  .op (.eval ["T"] "c" []),
  .op (.struct (.addBases ["S"] [["B"]])),
  .op (.eval ["T"] "c" [])]

theorem readAttr_ok (x : String) : NsNoCatch (readAttr x) ∧ NsAttrOnly (readAttr x) ∧ NsNoCalls (readAttr x) := by
  refine ⟨?_, ?_, ?_⟩
  · intro ns
    simp only [readAttr, resolve]
    cases ns x with
    | none => trivial
    | some b =>
      cases b with
      | cell c => trivial
      | ref r =>
        refine ⟨fun _ => ?_, fun o => ?_⟩
        · trivial
        · cases o <;> trivial
  · intro ns
    simp only [readAttr, resolve]
    cases ns x with
    | none => trivial
    | some b =>
      cases b with
      | cell c => trivial
      | ref r =>
        refine ⟨(fun h => nomatch h), fun o => ?_⟩
        cases o <;> trivial
  · intro ns lt n
    simp only [readAttr, resolve]
    cases ns x with
    | none => trivial
    | some b =>
      cases b with
      | cell c => trivial
      | ref r =>
        intro o
        cases o <;> trivial

theorem gOps_admissible : AdmissibleG gP idLt (W.init gSlots) gOps :=
  admissibleG_of_sources gP idLt (fun _ _ => (readAttr_ok _).1) (fun _ _ => (readAttr_ok _).2.1)
    (fun _ _ => (readAttr_ok _).2.2) gOps _

/-! ## the code before /repo 5b95fbf -/

/-- the clearing of the code BEFORE 5b95fbf: `on_create_ref` (every `space.x = v`) clears the readers of the
model-level reference the new reference shadows; `UserSpaceImpl.on_inherit` (a member derived through a
change of bases) does not -/
def clearingPre (kw : List String) (t : Tabs) (st st' : SM.St) (o : SM.Op) : List Clear :=
  clearing kw t st st' o ++
    (match o with
     | .setRef _ name _ => if st.globals.contains name then globalAttr t st name else []
     | _ => [])

def stepCoveredPre (P : Params) (w : W) (o : SM.Op) : Bool :=
  match w.sm.apply P.kw o with
  | none => true
  | some st' => covered (w.tabs.grow st') w.sm st' (clearingPre P.kw (w.tabs.grow st') w.sm st' o)

def stepPre (P : Params) (w : W) (o : SM.Op) : W :=
  match w.sm.apply P.kw o with
  | none => w
  | some st' =>
    let t' := w.tabs.grow st'
    { sm := st', tabs := t', ex := doClears (envOf P t' w.sm) w.ex (clearingPre P.kw t' w.sm st' o) }

/-! ## the code before /repo 40cbe69 -/

/-- `m.x = 1`; `T.c = lambda: S.x`; `T.c()`; `del m.S`; `T.c()` -/
def hOps : List OpG := [
  .setGlobal "x" 1,
  .op (.struct (.newSpace [] "S" [] [])),
  .op (.struct (.newSpace [] "T" [] [])),
  .op (.struct (.newCells ["T"] "c" "c" 0)),
  .op (.eval ["T"] "c" []),
  .op (.struct (.delSpace ["S"])),
  .op (.eval ["T"] "c" [])]

theorem hOps_admissible : AdmissibleG gP idLt (W.init gSlots) hOps :=
  admissibleG_of_sources gP idLt (fun _ _ => (readAttr_ok _).1) (fun _ _ => (readAttr_ok _).2.1)
    (fun _ _ => (readAttr_ok _).2.2) hOps _

/-- the clearing of the code BEFORE 40cbe69: `BaseSpaceImpl.on_delete` clears the attribute readers of the
deleted space's own references only -/
def clearingPre40 (kw : List String) (t : Tabs) (st st' : SM.St) (o : SM.Op) : List Clear :=
  clearing kw t st st' o ++
    (match o with
     | .delSpace _ => (shadowed st st' false ++ shadowedCells st st').flatMap (globalAttr t st)
     | o => shadowClears t st st' o)

def stepCoveredPre40 (P : Params) (w : W) (o : SM.Op) : Bool :=
  match w.sm.apply P.kw o with
  | none => true
  | some st' => covered (w.tabs.grow st') w.sm st' (clearingPre40 P.kw (w.tabs.grow st') w.sm st' o)

def stepPre40 (P : Params) (w : W) (o : SM.Op) : W :=
  match w.sm.apply P.kw o with
  | none => w
  | some st' =>
    let t' := w.tabs.grow st'
    { sm := st', tabs := t', ex := doClears (envOf P t' w.sm) w.ex (clearingPre40 P.kw t' w.sm st' o) }

end MxModel.Edit
