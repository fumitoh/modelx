import MxModel.Proofs.ExecGhost
import MxModel.Proofs.ExecCertRunOps
/-!
# The ghost flag over histories of the thirteen-operation language

`C02.step` / `C02.run` commute with raising the flag: the definitions, every result and every state
reached by a history are the same whether or not an earlier evaluation hit the depth limit.
-/
namespace MxModel.C02
open MxModel.Exec

theorem step_orHit (env : Env) (s : St) (b : Bool) (op : Op) :
    step (env, s.orHit b) op = ((step (env, s) op).1, (step (env, s) op).2.orHit b) := by
  cases op with
  | eval n =>
    simp only [step]
    split
    · rw [evalTop_orHit]
    · rfl
  | setValue n v =>
    simp only [step]
    split
    · rw [setValue_orHit]
    · rfl
  | clearAt n => simp only [step, clearValueAt_orHit]
  | clear c => simp only [step, clearAllValues_orHit]
  | clearAll c => simp only [step, clearAllValues_orHit]
  | setRef r v => simp only [step, setRef_orHit]
  | delRef r =>
    simp only [step]
    split
    · simp only [delRef_orHit]
    · rfl
  | setFormula c f =>
    simp only [step]
    split <;> rfl
  | setCached c b' =>
    simp only [step]
    split <;> rfl
  | delCell c =>
    simp only [step]
    split
    · simp only [delCell_orHit]
    · rfl
  | newCell c f b' an =>
    simp only [step]
    split
    · rfl
    · simp only [newCell_orHit]
  | maxdepth k => rfl
  | admin a => rfl

theorem run_orHit (ops : List Op) : ∀ (env : Env) (s : St) (b : Bool),
    run (env, s.orHit b) ops = ((run (env, s) ops).1, (run (env, s) ops).2.orHit b) := by
  induction ops with
  | nil => intro env s b; rfl
  | cons op rest ih =>
    intro env s b
    simp only [run, List.foldl]
    rw [step_orHit]
    exact ih _ _ b

end MxModel.C02
