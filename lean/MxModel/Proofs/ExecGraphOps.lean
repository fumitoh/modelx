import MxModel.Proofs.ExecEdits
import MxModel.Proofs.ExecCertTop
import MxModel.Proofs.ExecObj
/-!
# The operation languages of C08 and: every operation keeps the graph invariant

Definitions and step lemmas behind `C08.reachable_inv`, `C08.reachable_inv_edits`,
`C08.object_nodes_only_for_uncached` (statements in `Props/C08.lean`): the six-operation value
layer (`Op`, `step`, `run`, `step_inv`) and the nine-operation language with edits of the
definitions (`EOp`, `estep`, `erun`, `StaysRanked`, `estep_inv`, `estep_obj`).
-/
namespace MxModel.C08
open MxModel.Exec

inductive Op
  | eval (n : Node)
  | set (n : Node) (v : Val)
  | clearAt (n : Node)
  | clear (c : CellId)
  | clearAll (c : CellId)
  | clearObj (c : CellId)

def step (env : Env) (s : St) : Op → St
  | .eval n => (evalTop env n s).2
  | .set n v => if env.cached n.1 then (s.setValue env n v).1 else s   -- uncached: ValueError
  | .clearAt n => s.clearValueAt n true
  | .clear c => s.clearAllValues c false
  | .clearAll c => s.clearAllValues c true
  | .clearObj c => s.clearObj c

def run (env : Env) (s : St) (ops : List Op) : St := ops.foldl (step env) s

def Idle (s : St) : Prop := s.stack = [] ∧ s.idx = []

theorem _root_.MxModel.Exec.Quiet.idle {s : St} (q : Quiet s) : Idle s := ⟨q.stack, q.idx⟩

/-- the order `GI.edgesOrd` puts on the two ends of an edge, and any composite of it, relates no node to itself -/
theorem below_irrefl {lt : Node → Node → Prop} (ho : StrictOrder lt) {a : GNode} :
    ¬ ∃ u, a = .elem u ∧ ((∃ m, a = .elem m ∧ lt m u) ∨ (∃ c', a = .obj c')) := by
  rintro ⟨u, rfl, ⟨m, hm, hlt⟩ | ⟨c, hc⟩⟩
  · cases hm; exact ho.irrefl _ hlt
  · cases hc

theorem Idle.of_clr {s s' : St} {R : List GNode} {D : RefId × Node → Prop} (hi : Idle s)
    (hc : Clr s R D s') : Idle s' := ⟨hc.stack.trans hi.1, hc.idx.trans hi.2⟩

theorem Idle.setValue {s : St} (hi : Idle s) (he : EdgeOK s) (env : Env) (n : Node) (v : Val) :
    Idle (s.setValue env n v).1 := by
  obtain ⟨R, hc, _⟩ := (clears_clearValueAt s (fun _ => False) he n true).clr
  rcases setValue_cases env s n v with ⟨_, heq⟩ | ⟨_, _, ha⟩
  · rw [heq]; exact hi
  · exact ⟨ha.stack.trans (hi.of_clr hc).1, ha.idx.trans (hi.of_clr hc).2⟩

theorem step_inv (env : Env) (lt : Node → Node → Prop) (ho : StrictOrder lt) (hr : Ranked env lt)
    (s : St) (op : Op) (g : GI env lt s) (hi : Idle s) :
    GI env lt (step env s op) ∧ Idle (step env s op) := by
  have clr : ∀ {s' : St} {R : List GNode} {D : RefId × Node → Prop}, Clr s R D s' →
      GI env lt s' ∧ Idle s' := fun hc => ⟨g.of_clr hi.1 hc (fun _ _ => rfl), hi.of_clr hc⟩
  cases op with
  | eval n =>
    obtain ⟨g', h1, h2, _⟩ := g.topCall ho hr hi.1 hi.2 n
    exact ⟨g', h1, h2⟩
  | set n v =>
    simp only [step]
    split
    · rename_i hc
      exact ⟨(g.setValue hi.1 n v hc).1, hi.setValue g.edgeOK env n v⟩
    · exact ⟨g, hi⟩
  | clearAt n => obtain ⟨R, hc, _⟩ := (clears_clearValueAt s (fun _ => False) g.edgeOK n true).clr; exact clr hc
  | clear c => obtain ⟨R, hc, _⟩ := (clears_clearAllValues s (fun _ => False) g.edgeOK c false).clr; exact clr hc
  | clearAll c => obtain ⟨R, hc, _⟩ := (clears_clearAllValues s (fun _ => False) g.edgeOK c true).clr; exact clr hc
  | clearObj c => obtain ⟨R, hc, _⟩ := (clears_clearObj s (fun _ => False) g.edgeOK c).clr; exact clr hc

inductive EOp
  | eval (n : Node)
  | set (n : Node) (v : Val)
  | clearAt (n : Node)
  | clear (c : CellId)
  | clearAll (c : CellId)
  | setRef (r : RefId) (v : Val)
  | delRef (r : RefId)
  | setFormula (c : CellId) (f : Key → Prog)
  | setCached (c : CellId) (b : Bool)

def withRef (env : Env) (r : RefId) (x : Option Val) : Env :=
  { env with refs := fun r' => if r' = r then x else env.refs r' }

def withFormula (env : Env) (c : CellId) (f : Key → Prog) : Env :=
  { env with formula := fun n => if n.1 = c then f n.2 else env.formula n }

def withCached (env : Env) (c : CellId) (b : Bool) : Env :=
  { env with cached := fun c' => if c' = c then b else env.cached c' }

/-- one operation on the definitions and the mechanism state, in modelx's order: the clearing
happens while the old definitions are in force, then the definition changes -/
def estep : Env × St → EOp → Env × St
  | (env, s), .eval n => (env, (evalTop env n s).2)
  | (env, s), .set n v => (env, if env.cached n.1 then (s.setValue env n v).1 else s)
  | (env, s), .clearAt n => (env, s.clearValueAt n true)
  | (env, s), .clear c => (env, s.clearAllValues c false)
  | (env, s), .clearAll c => (env, s.clearAllValues c true)
  | (env, s), .setRef r v => (withRef env r (some v), s.setRef env r)
  | (env, s), .delRef r => if (env.refs r).isSome then (withRef env r none, s.delRef env r) else (env, s)
  | (env, s), .setFormula c f => (withFormula env c f, s.setFormula c)
  | (env, s), .setCached c b => if env.cached c = b then (env, s) else (withCached env c b, s.setFormula c)

def erun (st : Env × St) (ops : List EOp) : Env × St := ops.foldl estep st

/-- the definitions stay terminating after every operation (automatic for everything except
formula edits: `ranked_withRef`, `ranked_withCached`) -/
def StaysRanked (lt : Node → Node → Prop) : Env × St → List EOp → Prop
  | _, [] => True
  | st, op :: ops => Ranked (estep st op).1 lt ∧ StaysRanked lt (estep st op) ops

theorem ranked_withRef {env : Env} {lt : Node → Node → Prop} (h : Ranked env lt) (r : RefId)
    (x : Option Val) : Ranked (withRef env r x) lt := h

theorem ranked_withCached {env : Env} {lt : Node → Node → Prop} (h : Ranked env lt) (c : CellId)
    (b : Bool) : Ranked (withCached env c b) lt := h

theorem estep_inv (lt : Node → Node → Prop) (ho : StrictOrder lt) (st : Env × St) (op : EOp)
    (hr : Ranked st.1 lt) (g : GI st.1 lt st.2) (hi : Idle st.2) :
    GI (estep st op).1 lt (estep st op).2 ∧ Idle (estep st op).2 := by
  obtain ⟨env, s⟩ := st
  cases op with
  | eval n => exact step_inv env lt ho hr s (.eval n) g hi
  | set n v => exact step_inv env lt ho hr s (.set n v) g hi
  | clearAt n => exact step_inv env lt ho hr s (.clearAt n) g hi
  | clear c => exact step_inv env lt ho hr s (.clear c) g hi
  | clearAll c => exact step_inv env lt ho hr s (.clearAll c) g hi
  | setRef r v =>
    obtain ⟨R, hc, _⟩ := clr_setRef env s g.edgeOK r
    have hed : RefEdit env (withRef env r (some v)) r := ⟨rfl, rfl, rfl, fun r' h => by simp [withRef, h], rfl⟩
    exact ⟨refEdit_gi g hi.1 hed hc, hi.of_clr hc⟩
  | delRef r =>
    simp only [estep]
    split
    · obtain ⟨R, hc, _⟩ := clr_delRef env s g.edgeOK r
      have hed : RefEdit env (withRef env r none) r := ⟨rfl, rfl, rfl, fun r' h => by simp [withRef, h], rfl⟩
      exact ⟨refEdit_gi g hi.1 hed hc, hi.of_clr hc⟩
    · exact ⟨g, hi⟩
  | setFormula c f =>
    simp only [estep, St.setFormula]
    obtain ⟨R, hc, _⟩ := (clears_clearObj s (fun _ => False) g.edgeOK c).clr
    refine ⟨g.of_clr hi.1 hc ?_, hi.of_clr hc⟩
    intro m _; rfl
  | setCached c b =>
    simp only [estep]
    split
    · exact ⟨g, hi⟩
    · simp only [St.setFormula]
      obtain ⟨R, hc, hR⟩ := (clears_clearObj s (fun _ => False) g.edgeOK c).clr
      refine ⟨g.of_clr hi.1 hc ?_, hi.of_clr hc⟩
      intro m hm
      obtain ⟨h1, h2⟩ := (hc.mem_gn _).mp hm
      have : m.1 ≠ c := fun h => h2 (hR (.elem m) h h1)
      simp [withCached, this]

theorem estep_obj (lt : Node → Node → Prop) (st : Env × St) (op : EOp)
    (g : GI st.1 lt st.2) (hi : Idle st.2) (hobj : ObjOK st.1 st.2) :
    ObjOK (estep st op).1 (estep st op).2 := by
  obtain ⟨env, s⟩ := st
  have clrSub : ∀ {s' : St} {R : List GNode} {D : RefId × Node → Prop}, Clr s R D s' → ObjGrow env s s' :=
    fun hc => ObjGrow.of_sub (fun x hx => ((hc.mem_gn x).mp hx).1)
  cases op with
  | eval n => exact hobj.grow (evalTop_obj n s)
  | set n v =>
    simp only [estep]
    split
    · obtain ⟨R, hc, _⟩ := (clears_clearValueAt s (fun _ => False) g.edgeOK n true).clr
      rcases setValue_cases env s n v with ⟨_, heq⟩ | ⟨_, _, ha⟩
      · rw [heq]; exact hobj
      · refine hobj.grow ((clrSub hc).trans ?_)
        intro c hc'
        rcases (ha.gn _).mp hc' with h | h
        · exact Or.inl h
        · cases h
    · exact hobj
  | clearAt n =>
    obtain ⟨R, hc, _⟩ := (clears_clearValueAt s (fun _ => False) g.edgeOK n true).clr
    exact hobj.grow (clrSub hc)
  | clear c =>
    obtain ⟨R, hc, _⟩ := (clears_clearAllValues s (fun _ => False) g.edgeOK c false).clr
    exact hobj.grow (clrSub hc)
  | clearAll c =>
    obtain ⟨R, hc, _⟩ := (clears_clearAllValues s (fun _ => False) g.edgeOK c true).clr
    exact hobj.grow (clrSub hc)
  | setRef r v =>
    obtain ⟨R, hc, _⟩ := clr_setRef env s g.edgeOK r
    exact hobj.grow (clrSub hc)
  | delRef r =>
    simp only [estep]
    split
    · obtain ⟨R, hc, _⟩ := clr_delRef env s g.edgeOK r
      exact hobj.grow (clrSub hc)
    · exact hobj
  | setFormula c f =>
    simp only [estep, St.setFormula]
    obtain ⟨R, hc, _⟩ := (clears_clearObj s (fun _ => False) g.edgeOK c).clr
    exact hobj.grow (clrSub hc)
  | setCached c b =>
    simp only [estep]
    split
    · exact hobj
    · simp only [St.setFormula]
      obtain ⟨R, hc, hR⟩ := (clears_clearObj s (fun _ => False) g.edgeOK c).clr
      intro c' hc'
      obtain ⟨h1, h2⟩ := (hc.mem_gn _).mp hc'
      have hne : c' ≠ c := fun h => h2 (hR (.obj c') h h1)
      simp only [withCached, hne, if_false]
      exact hobj c' h1

end MxModel.C08
