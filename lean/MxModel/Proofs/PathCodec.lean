import MxModel.Kernels.PathCodec
/-! `rel_to_abs ∘ abs_to_rel = id`, both forms.  The writer stores `nslen - shared + 1` dots, from which the reader
recovers `shared`; target and namespace agree on their first `shared` names (`take_sharedLen`), so cutting the
namespace back and appending the stored names gives the target.  The string form goes through `split` / `join` and
needs the first stored name to be non-empty (`relToAbs_dots`). -/
namespace MxModel.PathCodec

theorem sharedLen_le {α : Type} [DecidableEq α] (tg ns : List α) :
    sharedLen tg ns ≤ tg.length ∧ sharedLen tg ns ≤ ns.length := by
  induction tg generalizing ns with
  | nil => simp [sharedLen]
  | cons t ts ih =>
    cases ns with
    | nil => simp [sharedLen]
    | cons n ns =>
      simp only [sharedLen]
      split
      · have := ih ns; simp; omega
      · simp

theorem take_sharedLen {α : Type} [DecidableEq α] (tg ns : List α) :
    ns.take (sharedLen tg ns) = tg.take (sharedLen tg ns) := by
  induction tg generalizing ns with
  | nil => simp [sharedLen]
  | cons t ts ih =>
    cases ns with
    | nil => simp [sharedLen]
    | cons n ns =>
      simp only [sharedLen]
      split
      · rename_i h; subst h; simp [ih ns]
      · simp

theorem sharedLen_maximal {α : Type} [DecidableEq α] (tg ns : List α) (a b : α)
    (ha : tg[sharedLen tg ns]? = some a) (hb : ns[sharedLen tg ns]? = some b) : a ≠ b := by
  induction tg generalizing ns with
  | nil => simp at ha
  | cons t ts ih =>
    cases ns with
    | nil => simp at hb
    | cons n ns =>
      simp only [sharedLen] at ha hb
      split at ha
      · rename_i h
        rw [if_pos h] at hb
        simp at ha hb
        exact ih ns ha hb
      · rename_i h
        rw [if_neg h] at hb
        simp at ha hb
        subst ha; subst hb; exact h

theorem pySliceTo_natCast {α : Type} (xs : List α) (k : Nat) : pySliceTo xs (k : Int) = xs.take k := by
  unfold pySliceTo
  have : ¬ ((k : Int) < 0) := by omega
  simp [this]

/-- `ns[: nslen - (nslen - shared + 1) + 1] = ns[:shared]` for `shared ≤ nslen` -/
theorem pySliceTo_shared {α : Type} (ns : List α) (s : Nat) (h : s ≤ ns.length) :
    pySliceTo ns ((ns.length : Int) - ((ns.length - s + 1 : Nat) : Int) + 1) = ns.take s := by
  have : (ns.length : Int) - ((ns.length - s + 1 : Nat) : Int) + 1 = (s : Int) := by omega
  rw [this, pySliceTo_natCast]

theorem splitDot_ne_nil (s : List Char) : splitDot s ≠ [] := by
  cases s with
  | nil => simp [splitDot]
  | cons c cs =>
    simp only [splitDot]
    split
    · simp
    · split <;> simp

theorem splitDot_length_pos (s : List Char) : 0 < (splitDot s).length :=
  List.length_pos_iff.mpr (splitDot_ne_nil s)

theorem splitDot_dotfree (s : List Char) : ∀ w ∈ splitDot s, '.' ∉ w := by
  induction s with
  | nil => simp [splitDot]
  | cons c cs ih =>
    simp only [splitDot]
    split
    · intro w hw
      simp only [List.mem_cons] at hw
      rcases hw with rfl | hw
      · simp
      · exact ih w hw
    · rename_i hc
      split
      · intro w hw; simp at hw; subst hw; simp; exact fun h => hc h.symm
      · rename_i w0 ws heq
        intro w hw
        simp only [List.mem_cons] at hw
        rcases hw with rfl | hw
        · have := ih w0 (by rw [heq]; simp)
          simp only [List.mem_cons, not_or]
          exact ⟨fun h => hc h.symm, this⟩
        · exact ih w (by rw [heq]; simp [hw])

theorem joinDot_cons_cons (w w' : List Char) (ws : List (List Char)) :
    joinDot (w :: w' :: ws) = w ++ '.' :: joinDot (w' :: ws) := rfl

theorem joinDot_splitDot (s : List Char) : joinDot (splitDot s) = s := by
  induction s with
  | nil => simp [splitDot, joinDot]
  | cons c cs ih =>
    simp only [splitDot]
    split
    · rename_i hc
      have hne := splitDot_ne_nil cs
      cases hsp : splitDot cs with
      | nil => exact absurd hsp hne
      | cons w ws =>
        rw [hsp] at ih
        rw [joinDot_cons_cons, ih, hc]; simp
    · have hne := splitDot_ne_nil cs
      cases hsp : splitDot cs with
      | nil => exact absurd hsp hne
      | cons w ws =>
        rw [hsp] at ih
        simp only
        cases ws with
        | nil => simp [joinDot] at ih ⊢; exact ih
        | cons w' ws' =>
          rw [joinDot_cons_cons] at ih ⊢
          simp [ih]

theorem splitDot_dotfree_word (w : List Char) (h : '.' ∉ w) : splitDot w = [w] := by
  induction w with
  | nil => simp [splitDot]
  | cons c cs ih =>
    simp only [List.mem_cons, not_or] at h
    have hc : ¬ c = '.' := fun e => h.1 e.symm
    simp [splitDot, hc, ih h.2]

theorem splitDot_append_dot (w rest : List Char) (h : '.' ∉ w) :
    splitDot (w ++ '.' :: rest) = w :: splitDot rest := by
  induction w with
  | nil => simp [splitDot]
  | cons c cs ih =>
    simp only [List.mem_cons, not_or] at h
    have hc : ¬ c = '.' := fun e => h.1 e.symm
    simp [splitDot, hc, ih h.2]

theorem splitDot_joinDot (ws : List (List Char)) (hne : ws ≠ []) (hfree : ∀ w ∈ ws, '.' ∉ w) :
    splitDot (joinDot ws) = ws := by
  induction ws with
  | nil => exact absurd rfl hne
  | cons w rest ih =>
    cases rest with
    | nil => simpa [joinDot] using splitDot_dotfree_word w (hfree w (by simp))
    | cons w' ws' =>
      rw [joinDot_cons_cons, splitDot_append_dot w _ (hfree w (by simp))]
      rw [ih (by simp) (fun x hx => hfree x (by simp [hx]))]

theorem leadingDots_dotsStr_append (n : Nat) (rest : List Char) :
    leadingDots (dotsStr n ++ rest) = n + leadingDots rest := by
  induction n with
  | zero => simp [dotsStr]
  | succ k ih =>
    simp only [dotsStr] at ih ⊢
    simp [List.replicate_succ, leadingDots, ih]; omega

theorem leadingDots_nil : leadingDots [] = 0 := rfl

theorem leadingDots_joinDot (w : List Char) (ws : List (List Char)) (hw : w ≠ []) (hf : '.' ∉ w) :
    leadingDots (joinDot (w :: ws)) = 0 := by
  cases w with
  | nil => exact absurd rfl hw
  | cons c cs =>
    simp only [List.mem_cons, not_or] at hf
    have hc : ¬ c = '.' := fun e => hf.1 e.symm
    cases ws with
    | nil => simp [joinDot, leadingDots, hc]
    | cons w' ws' => simp [joinDot_cons_cons, leadingDots, hc]

theorem joinDot_cons_ne_nil (w : List Char) (ws : List (List Char)) (hw : w ≠ []) :
    joinDot (w :: ws) ≠ [] := by
  cases ws with
  | nil => simpa [joinDot] using hw
  | cons w' ws' => simp [joinDot_cons_cons]

theorem drop_dotsStr_append (n : Nat) (rest : List Char) : (dotsStr n ++ rest).drop n = rest := by
  have : (dotsStr n).length = n := by simp [dotsStr]
  rw [List.drop_append_of_le_length (by omega)]
  simp [List.drop_eq_nil_of_le, this]

theorem allDots_dotsStr (n : Nat) : allDots (dotsStr n) = true := by
  simp [allDots, dotsStr]

/-- what the reader makes of a run of dots followed by names: the namespace cut back to its first `s` names,
then the names (`s` is recovered from the number of dots; the first name must not be empty, or its dot would be
counted with the run) -/
theorem relToAbs_dots (ns : List Char) (s : Nat) (ws : List (List Char)) (hs : s ≤ (splitDot ns).length)
    (hfree : ∀ w ∈ ws, '.' ∉ w) (hfresh : ∀ w, ws.head? = some w → w ≠ []) :
    relToAbs (dotsStr ((splitDot ns).length - s + 1) ++ joinDot ws) ns = joinDot ((splitDot ns).take s ++ ws) := by
  simp only [relToAbs]
  generalize hn : (splitDot ns).length - s + 1 = n
  have hslice : pySliceTo (splitDot ns) (((splitDot ns).length : Int) - (n : Int) + 1) = (splitDot ns).take s :=
    hn ▸ pySliceTo_shared _ _ hs
  cases ws with
  | nil =>
    have hl : leadingDots (dotsStr n ++ joinDot []) = n := by
      simpa [joinDot, leadingDots] using leadingDots_dotsStr_append n []
    have hlen : (dotsStr n ++ joinDot []).length = n := by simp [joinDot, dotsStr]
    rw [hl, hlen, if_neg (by omega), hslice]
  | cons w ws =>
    have hw : w ≠ [] := hfresh w rfl
    have hl : leadingDots (dotsStr n ++ joinDot (w :: ws)) = n := by
      rw [leadingDots_dotsStr_append, leadingDots_joinDot w ws hw (hfree w (by simp)), Nat.add_zero]
    have hpos : 0 < (joinDot (w :: ws)).length := List.length_pos_iff.mpr (joinDot_cons_ne_nil w ws hw)
    have hlen : n < (dotsStr n ++ joinDot (w :: ws)).length := by simp [dotsStr]; omega
    rw [hl, if_pos hlen, drop_dotsStr_append, hslice, splitDot_joinDot _ (by simp) hfree]

theorem relToAbsTuple_absToRelTuple (t ns : List Elem) : relToAbsTuple (absToRelTuple t ns) ns = .ok t := by
  obtain ⟨h1, h2⟩ := sharedLen_le t ns
  simp only [absToRelTuple, relToAbsTuple, allDots_dotsStr, if_true]
  have hlen : (dotsStr (ns.length - sharedLen t ns + 1)).length = ns.length - sharedLen t ns + 1 := by
    simp [dotsStr]
  rw [hlen, pySliceTo_shared ns _ h2, take_sharedLen]
  have : t.length - (t.length - sharedLen t ns) = sharedLen t ns := by omega
  rw [this, List.take_append_drop]

/-- the string form, for a target whose first name not shared with the namespace is non-empty (the reader counts
the leading dots of the stored text; an empty name right after them would be swallowed) -/
theorem relToAbs_absToRel_of_fresh (t ns : List Char)
    (h : ∀ w, ((splitDot t).drop (sharedLen (splitDot t) (splitDot ns))).head? = some w → w ≠ []) :
    relToAbs (absToRel t ns) ns = t := by
  have hs := sharedLen_le (splitDot t) (splitDot ns)
  simp only [absToRel]
  rw [show (splitDot t).length - ((splitDot t).length - sharedLen (splitDot t) (splitDot ns)) =
      sharedLen (splitDot t) (splitDot ns) by omega,
    relToAbs_dots ns _ _ hs.2 (fun w hw => splitDot_dotfree t w (List.mem_of_mem_drop hw)) h, take_sharedLen,
    List.take_append_drop, joinDot_splitDot]

theorem relToAbs_absToRel (t ns : List Char) (h : ValidDotted t) : relToAbs (absToRel t ns) ns = t :=
  relToAbs_absToRel_of_fresh t ns (fun w hw => h w (List.mem_of_mem_drop (List.mem_of_mem_head? hw)))

end MxModel.PathCodec
