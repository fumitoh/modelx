import MxModel.Proofs.IOSpecInv
/-! `ReferenceManager.update_value`: the loop in closed form, and preservation of the invariant. -/
namespace MxModel.IOSpec

/-- the references the loop of `update_value` creates for the entry `todo` -/
def newRefs (rid : Nat) (new : Val) : List Ref → List Ref
  | [] => []
  | r :: rest => ⟨rid, r.owner, r.name, new⟩ :: newRefs (rid + 1) new rest

def updResult (st : St) (m : Nat) (old new : Val) (todo acc : List Ref) : St :=
  { st with refs := st.refs.filter (fun r => decide (r ∉ todo)) ++ newRefs st.nextRid new todo,
            nextRid := st.nextRid + todo.length,
            v2r := ainsert (aerase st.v2r (m, old)) (m, new) (acc ++ newRefs st.nextRid new todo) }

theorem mem_newRefs {new : Val} : ∀ {todo : List Ref} {rid : Nat} {x : Ref}, x ∈ newRefs rid new todo →
    x.val = new ∧ rid ≤ x.rid ∧ x.rid < rid + todo.length ∧
    ∃ r ∈ todo, x.owner = r.owner ∧ x.name = r.name := by
  intro todo
  induction todo with
  | nil => intro rid x hx; cases hx
  | cons r rest ih =>
    intro rid x hx
    simp only [newRefs, List.mem_cons] at hx
    rcases hx with rfl | hx
    · exact ⟨rfl, Nat.le_refl _, by simp, r, by simp, rfl, rfl⟩
    · obtain ⟨h1, h2, h3, r', hr', h4⟩ := ih hx
      exact ⟨h1, by omega, by simp only [List.length_cons]; omega, r', by simp [hr'], h4⟩

theorem newRefs_nodup {new : Val} : ∀ (todo : List Ref) (rid : Nat), (newRefs rid new todo).Nodup := by
  intro todo
  induction todo with
  | nil => intro rid; simp [newRefs]
  | cons r rest ih =>
    intro rid
    simp only [newRefs, List.nodup_cons]
    refine ⟨fun hx => ?_, ih _⟩
    have := (mem_newRefs hx).2.1
    simp only at this
    omega

theorem newRefs_cover {new : Val} : ∀ (todo : List Ref) (rid : Nat), ∀ r ∈ todo,
    ∃ x ∈ newRefs rid new todo, x.owner = r.owner ∧ x.name = r.name := by
  intro todo
  induction todo with
  | nil => intro rid r hr; cases hr
  | cons a rest ih =>
    intro rid r hr
    simp only [List.mem_cons] at hr
    rcases hr with rfl | hr
    · exact ⟨⟨rid, r.owner, r.name, new⟩, List.mem_cons_self, rfl, rfl⟩
    · obtain ⟨x, hx, h⟩ := ih (rid + 1) r hr
      exact ⟨x, List.mem_cons_of_mem _ hx, h⟩

theorem newRefs_eq_nil {new : Val} {todo : List Ref} {rid : Nat} : newRefs rid new todo = [] ↔ todo = [] := by
  cases todo <;> simp [newRefs]

theorem updLoop_closed (m : Nat) (old new : Val) : ∀ (todo : List Ref) (st : St) (acc : List Ref),
    (∀ r ∈ st.refs, r.rid < st.nextRid) → RefKey st.refs → (∀ r ∈ todo, r ∈ st.refs) → todo.Nodup →
    updLoop st m old new todo acc = (updResult st m old new todo acc, .ok ()) := by
  intro todo
  induction todo with
  | nil =>
    intro st acc _ _ _ _
    have : List.filter (fun _ => true) st.refs = st.refs := List.filter_eq_self.mpr (fun _ _ => rfl)
    simp [updLoop, updResult, newRefs, this]
  | cons r rest ih =>
    intro st acc hlt hkey hsub hnd
    have hr : r ∈ st.refs := hsub r (by simp)
    obtain ⟨r0, hr0⟩ := refLookup_of_mem hr
    simp only [List.nodup_cons] at hnd
    have herase : ∀ a ∈ st.refs, (a.owner = r.owner ∧ a.name = r.name) ↔ a = r := by
      intro a ha
      constructor
      · rintro ⟨h1, h2⟩; exact hkey a ha r hr h1 h2
      · rintro rfl; exact ⟨rfl, rfl⟩
    unfold updLoop
    simp only [hr0]
    rw [ih]
    · have hx : (⟨st.nextRid, r.owner, r.name, new⟩ : Ref) ∉ rest := by
        intro hx
        have := hlt _ (hsub _ (List.mem_cons_of_mem _ hx))
        simp at this
      have hf1 : List.filter (fun a => decide (a ∉ rest)) (refErase st.refs r.owner r.name) =
          List.filter (fun a => decide (a ∉ r :: rest)) st.refs := by
        unfold refErase
        rw [List.filter_filter]
        apply List.filter_congr
        intro a ha
        have := herase a ha
        simp only [List.mem_cons, not_or, Bool.decide_and]
        by_cases hc : a = r
        · subst hc; simp
        · have : ¬ (a.owner = r.owner ∧ a.name = r.name) := fun hh => hc (this.mp hh)
          simp [hc, this]
      simp only [updResult, implChangeRef, implNewRef, implDelRef, mkRef, newRefs, List.filter_append,
        List.length_cons, hf1]
      have hf2 : List.filter (fun a => decide (a ∉ rest)) [(⟨st.nextRid, r.owner, r.name, new⟩ : Ref)] =
          [⟨st.nextRid, r.owner, r.name, new⟩] := by
        simp [hx]
      rw [hf2]
      simp only [List.append_assoc, List.singleton_append, Nat.add_assoc, Nat.add_comm 1]
    · intro a ha
      simp only [implChangeRef, implNewRef, implDelRef, List.mem_append, List.mem_singleton] at ha ⊢
      rcases ha with ha | rfl
      · have := hlt a (mem_refErase.mp ha).1; omega
      · simp [mkRef]
    · exact refKey_snoc (refKey_sub hkey fun a ha => (mem_refErase.mp ha).1) (refErase_free st.refs r.owner r.name)
    · intro a ha
      simp only [implChangeRef, implNewRef, implDelRef, List.mem_append, List.mem_singleton]
      left
      have ha' := hsub a (by simp [ha])
      refine mem_refErase.mpr ⟨ha', fun hh => ?_⟩
      have := (herase a ha').mp hh
      subst this
      exact hnd.1 ha
    · exact hnd.2

theorem newRefs_key_inj {new : Val} : ∀ (todo : List Ref) (rid : Nat),
    RefKey todo → todo.Nodup → RefKey (newRefs rid new todo) := by
  intro todo
  induction todo with
  | nil => intro rid _ _ x hx; cases hx
  | cons r rest ih =>
    intro rid hkey hnd x hx y hy ho hn
    simp only [List.nodup_cons] at hnd
    simp only [newRefs, List.mem_cons] at hx hy
    have hrest : RefKey rest := refKey_sub hkey fun a ha => List.mem_cons_of_mem _ ha
    rcases hx with rfl | hx <;> rcases hy with rfl | hy
    · rfl
    · obtain ⟨_, _, _, r', hr', h1, h2⟩ := mem_newRefs hy
      have := hkey r List.mem_cons_self r' (List.mem_cons_of_mem _ hr')
        (by simpa using ho.trans h1) (by simpa using hn.trans h2)
      subst this; exact absurd hr' hnd.1
    · obtain ⟨_, _, _, r', hr', h1, h2⟩ := mem_newRefs hx
      have := hkey r List.mem_cons_self r' (List.mem_cons_of_mem _ hr')
        (by simpa using ho.symm.trans h1) (by simpa using hn.symm.trans h2)
      subst this; exact absurd hr' hnd.1
    · exact ih (rid + 1) hrest hnd.2 x hx y hy ho hn

/-- the state after `update_value(old, new)` (loop in closed form) has the invariant; `S` are the specs after
`update_spec_value`, if there is a spec for `old` -/
theorem rinv_after_update {st : St} (h : RInv st) {m : Nat} {old new : Val} {l : List Ref}
    (hl : alookup st.v2r (m, old) = some l)
    (hnew : new.tracked = true)
    (hOnto : old = new ∨ alookup st.v2r (m, new) = none)
    {S : List Spec}
    (hspecs : (getSpecFromValue st m old = none ∧ S = st.specs) ∨
              (∃ σ0, getSpecFromValue st m old = some σ0 ∧ new.isPandas = true ∧
                 S = st.specs.map (setValMap σ0.sid new)))
    (hsid : SidOK (sp (updResult { st with specs := S } m old new l.reverse []))) :
    RInv (updResult { st with specs := S } m old new l.reverse []) := by
  have hE := h.entry m old
  rw [hl] at hE
  obtain ⟨e1, e2, e3, e4⟩ := hE
  have hrefs : ∀ x, x ∈ (updResult { st with specs := S } m old new l.reverse []).refs ↔
      (x ∈ st.refs ∧ x ∉ l) ∨ x ∈ newRefs st.nextRid new l.reverse := by
    intro x
    simp [updResult]
  have hN : ∀ x ∈ newRefs st.nextRid new l.reverse, x.val = new ∧ st.nextRid ≤ x.rid ∧
      x.rid < st.nextRid + l.length ∧ x.owner.model = m ∧
      ∃ r ∈ l, x.owner = r.owner ∧ x.name = r.name := by
    intro x hx
    obtain ⟨a, b, c, r, hr, d1, d2⟩ := mem_newRefs hx
    rw [List.mem_reverse] at hr
    refine ⟨a, b, by simpa using c, ?_, r, hr, d1, d2⟩
    rw [d1]; exact ((e4 r).mp hr).2.1
  have hNne : newRefs st.nextRid new l.reverse ≠ [] := by
    rw [Ne, newRefs_eq_nil]; simpa using e1
  have hv2r : (updResult { st with specs := S } m old new l.reverse []).v2r =
      setEntry (setEntry st.v2r (m, old) []) (m, new) (newRefs st.nextRid new l.reverse) := by
    show ainsert (aerase st.v2r (m, old)) (m, new) ([] ++ newRefs st.nextRid new l.reverse) = _
    rw [List.nil_append, setEntry, setEntry, if_pos rfl, if_neg hNne]
  have hlkeys : RefKey l.reverse := refKey_sub h.refKey fun a ha => ((e4 a).mp (List.mem_reverse.1 ha)).1
  have hlnd : l.reverse.Nodup := (List.reverse_perm l).nodup_iff.2 e2
  -- the one use of `hOnto`, the negation of `trigUpdateOnto` (C18-update-onto-referenced)
  have hnonew : ∀ x ∈ st.refs, x ∉ l → ¬ (x.owner.model = m ∧ x.val = new) := by
    intro x hx hxl ⟨hm, hv⟩
    rcases hOnto with rfl | hnone
    · exact hxl ((e4 x).mpr ⟨hx, hm, hv⟩)
    · have := h.entry m new
      rw [hnone] at this
      have := this x hx hm hv
      rw [hnew] at this; cases this
  refine RCore.withKey {
    ridLt := by
      intro x hx
      have : (updResult { st with specs := S } m old new l.reverse []).nextRid = st.nextRid + l.length := by
        simp [updResult]
      rw [this]
      rcases (hrefs x).mp hx with ⟨hx, _⟩ | hx
      · have := h.ridLt x hx; omega
      · exact (hN x hx).2.2.1
    noEmpty := by rw [hv2r]; exact setEntry_noEmpty (setEntry_noEmpty h.core.noEmpty _ _) _ _
    entNodup := by
      intro k
      rw [hv2r, ent_setEntry, ent_setEntry]
      by_cases hk : (m, new) = k
      · rw [if_pos hk]; exact newRefs_nodup _ _
      · rw [if_neg hk]
        by_cases hk2 : (m, old) = k
        · rw [if_pos hk2]; exact .nil
        · rw [if_neg hk2]; exact h.core.entNodup k
    entMem := by
      intro m' v' x
      rw [hv2r, ent_setEntry, ent_setEntry, hrefs x]
      by_cases hk : (m, new) = (m', v')
      · rw [if_pos hk]
        obtain ⟨rfl, rfl⟩ := Prod.mk.inj hk
        constructor
        · intro hx; exact ⟨Or.inr hx, (hN x hx).2.2.2.1, (hN x hx).1, hnew⟩
        · rintro ⟨⟨hx, hxl⟩ | hx, hm, hv, _⟩
          · exact absurd ⟨hm, hv⟩ (hnonew x hx hxl)
          · exact hx
      · rw [if_neg hk]
        by_cases hk2 : (m, old) = (m', v')
        · rw [if_pos hk2]
          obtain ⟨rfl, rfl⟩ := Prod.mk.inj hk2
          refine ⟨fun hx => (List.not_mem_nil hx).elim, ?_⟩
          rintro ⟨⟨hx, hxl⟩ | hx, hm, hv, _⟩
          · exact absurd ((e4 x).mpr ⟨hx, hm, hv⟩) hxl
          · exact absurd (by rw [← hv, (hN x hx).1]) hk
        · rw [if_neg hk2, h.core.entMem]
          constructor
          · rintro ⟨hx, hm, hv, ht⟩
            refine ⟨Or.inl ⟨hx, fun hxl => hk2 ?_⟩, hm, hv, ht⟩
            have := (e4 x).mp hxl
            rw [← hm, ← hv, this.2.1, this.2.2]
          · rintro ⟨⟨hx, _⟩ | hx, hm, hv, ht⟩
            · exact ⟨hx, hm, hv, ht⟩
            · exact absurd (by rw [← hm, ← hv, (hN x hx).1, (hN x hx).2.2.2.1]) hk
    keys := by rw [hv2r]; exact setEntry_keys_nodup (setEntry_keys_nodup h.keys _ _) _ _
    specRef := by
      obtain ⟨x0, hx0⟩ := List.exists_mem_of_ne_nil _ hNne
      have keep : ∀ τ ∈ st.specs, ¬ (τ.group = m ∧ τ.val = old) →
          ∃ r ∈ (updResult { st with specs := S } m old new l.reverse []).refs, r.owner.model = τ.group ∧ r.val = τ.val := by
        intro τ hτ hne
        obtain ⟨r, hr, hm, hv⟩ := h.specRef τ hτ id
        refine ⟨r, (hrefs r).mpr (Or.inl ⟨hr, fun hrl => hne ?_⟩), hm, hv⟩
        have := (e4 r).mp hrl
        exact ⟨hm.symm.trans this.2.1, hv.symm.trans this.2.2⟩
      intro σ hσ _
      have hσ' : σ ∈ S := hσ
      rcases hspecs with ⟨hnone, hs⟩ | ⟨σ0, hsome, _, hs⟩
      · rw [hs] at hσ'
        exact keep σ hσ' (getSpec_none hnone σ hσ')
      · rw [hs, List.mem_map] at hσ'
        obtain ⟨τ, hτ, rfl⟩ := hσ'
        obtain ⟨g1, g2, g3⟩ := getSpec_some hsome
        by_cases hsd : τ.sid = σ0.sid
        · refine ⟨x0, (hrefs x0).mpr (Or.inr hx0), ?_, ?_⟩
          · have := h.sid.sidUnique τ hτ σ0 g1 hsd
            simp only [setValMap_group]; rw [this, g2]; exact (hN x0 hx0).2.2.2.1
          · rw [setValMap_val]; simp only [hsd, if_true]; exact (hN x0 hx0).1
        · have hne : ¬ (τ.group = m ∧ τ.val = old) := by
            rintro ⟨a, b⟩
            exact hsd (by rw [h.specVal τ hτ σ0 g1 (a.trans g2.symm) (b.trans g3.symm)])
          have : setValMap σ0.sid new τ = τ := by unfold setValMap; simp [hsd]
          rw [this]; exact keep τ hτ hne
    specVal := by
      show ∀ σ ∈ S, ∀ τ ∈ S, _
      rcases hspecs with ⟨_, hs⟩ | ⟨σ0, hsome, _, hs⟩
      · rw [hs]; exact h.specVal
      · obtain ⟨g1, g2, g3⟩ := getSpec_some hsome
        have hother : ∀ τ ∈ st.specs, τ.sid ≠ σ0.sid → ¬ (τ.group = m ∧ τ.val = new) := by
          intro τ hτ hsd ⟨a, b⟩
          obtain ⟨r, hr, hm, hv⟩ := h.specRef τ hτ id
          by_cases hrl : r ∈ l
          · have := (e4 r).mp hrl
            exact hsd (by rw [h.specVal τ hτ σ0 g1 (a.trans g2.symm) ((hv.symm.trans this.2.2).trans g3.symm)])
          · exact hnonew r hr hrl ⟨hm.trans a, hv.trans b⟩
        rw [hs]
        intro σ hσ τ hτ hg hv
        rw [List.mem_map] at hσ hτ
        obtain ⟨σ1, hσ1, rfl⟩ := hσ
        obtain ⟨τ1, hτ1, rfl⟩ := hτ
        simp only [setValMap_group] at hg
        rw [setValMap_val, setValMap_val] at hv
        by_cases c1 : σ1.sid = σ0.sid <;> by_cases c2 : τ1.sid = σ0.sid
        · rw [h.sid.sidUnique σ1 hσ1 τ1 hτ1 (c1.trans c2.symm)]
        · simp only [c1, c2, if_true, if_false] at hv
          have e := h.sid.sidUnique σ1 hσ1 σ0 g1 c1
          exact absurd ⟨(hg.symm.trans (by rw [e])).trans g2, hv.symm⟩ (hother τ1 hτ1 c2)
        · simp only [c1, c2, if_true, if_false] at hv
          have e := h.sid.sidUnique τ1 hτ1 σ0 g1 c2
          exact absurd ⟨(hg.trans (by rw [e])).trans g2, hv⟩ (hother σ1 hσ1 c1)
        · simp only [c1, c2, if_false] at hv
          have := h.specVal σ1 hσ1 τ1 hτ1 hg hv
          rw [this]
    specPandas := by
      show ∀ σ ∈ S, _
      rcases hspecs with ⟨_, hs⟩ | ⟨σ0, _, hp, hs⟩
      · rw [hs]; exact h.specPandas
      · rw [hs]
        intro σ hσ
        rw [List.mem_map] at hσ
        obtain ⟨τ, hτ, rfl⟩ := hσ
        rw [setValMap_val]
        split
        · exact hp
        · exact h.specPandas τ hτ
    sid := hsid } ?_
  intro x hx y hy ho hn
  rcases (hrefs x).mp hx with ⟨hx, hxl⟩ | hx <;> rcases (hrefs y).mp hy with ⟨hy, hyl⟩ | hy
  · exact h.refKey x hx y hy ho hn
  · obtain ⟨_, _, _, _, r, hr, d1, d2⟩ := hN y hy
    have := h.refKey x hx r ((e4 r).mp hr).1 (ho.trans d1) (hn.trans d2)
    subst this; exact absurd hr hxl
  · obtain ⟨_, _, _, _, r, hr, d1, d2⟩ := hN x hx
    have := h.refKey y hy r ((e4 r).mp hr).1 (ho.symm.trans d1) (hn.symm.trans d2)
    subst this; exact absurd hr hyl
  · exact newRefs_key_inj _ _ hlkeys hlnd x hx y hy ho hn

end MxModel.IOSpec
