import MxModel.Proofs.ExecTrace
import MxModel.Proofs.ExprInduct
/-! Every formula of the concrete grammar compiles to a `Proper` behaviour, so `ProperEnv`
holds for every environment the driver builds. -/
namespace MxModel.Exec

/-- error continuations: a new exception in a formula that is `live` or not, and an exception
received from a callee (after which the formula is live) -/
def HOK (live : Bool) (h : Bool → Err → Prog) : Prop :=
  (∀ e, ProperL live (h true e)) ∧ (∀ e, ProperL true (h false e))

theorem HOK.of {live : Bool} {h : Bool → Err → Prog} (hh : HOK live h) : HOK true h :=
  ⟨fun e => ProperL.of live _ (hh.1 e), hh.2⟩

theorem read_proper (live byAttr : Bool) (r : RefId) (x : Nat) :
    StaysIn (ProperL live) (HOK live)
      (fun k h => .read byAttr r (fun o => match o with | some v => k v | none => h true (.user x))) := by
  intro k h hk hh o; cases o with
  | some v => exact hk v
  | none => exact hh.1 _

/-- after a failed call the formula is live -/
theorem call_proper (live : Bool) (n : Node) :
    StaysIn (ProperL live) (HOK live) (fun k h => .call n (retK k h)) :=
  fun _ _ hk hh => ⟨hk, hh.2⟩

theorem compile_proper (ar : CellId → Option Nat) (params : List Val) :
    (∀ (e : Expr) (live : Bool), StaysIn (ProperL live) (HOK live) (compile ar params e)) ∧
    ∀ (es : List Expr) (live : Bool), StaysIn (ProperL live) (HOK live) (compileArgs ar params es) := by
  have hnew : ∀ live h, HOK live h → ∀ e, ProperL live (h true e) := fun _ _ hh => hh.1
  apply Expr.induct
  case lit => exact fun i live k h hk _ => hk _
  case none | nil => exact fun live k h hk _ => hk _
  case param => exact fun i live => staysIn_param (hnew live) i
  case add | sub | mul | lt => exact fun a b iha ihb live => staysIn_binop (hnew live) _ (iha live) (ihb live)
  case ite => exact fun c a b ihc iha ihb live => staysIn_ite (ihc live) (iha live) (ihb live)
  case call =>
    intro c args ih live k h
    rw [compile_call_eq]
    exact staysIn_callWith (hnew live) _ (fun key => call_proper live (c, key)) (ih live) k h
  case callK =>
    exact fun c args npos kws dflt ih live =>
      staysIn_callWith (hnew live) _ (fun key => call_proper live (c, key)) (ih live)
  case readN => exact fun r live => read_proper live false r kName
  case readA => exact fun r live => read_proper live true r kAttr
  case raise => exact fun e live k h _ hh => hh.1 _
  case try_ =>
    intro a c b iha ihb live k h hk hh
    exact iha live k _ hk
      ⟨fun e => prop_ite (ProperL live) (ihb live k h hk hh) (hh.1 e),
        fun e => prop_ite (ProperL true) (ihb true k h (fun v => ProperL.of live _ (hk v)) hh.of) (hh.2 e)⟩
  case tryRe =>
    intro a c b iha ihb live k h hk hh
    -- an exception received from a callee: the block runs while the formula is live, and ends in the re-raise
    exact iha live k _ hk
      ⟨fun e => prop_ite (ProperL live) (ihb live _ h (fun _ => hh.1 e) hh) (hh.1 e),
        fun e => prop_ite (ProperL true) (ihb true _ h (fun _ => hh.2 e) hh.of) (hh.2 e)⟩
  case tryFin =>
    intro a b iha ihb live k h hk hh
    exact iha live _ _ (fun v => ihb live _ h (fun _ => hk v) hh)
      ⟨fun e => ihb live _ h (fun _ => hh.1 e) hh, fun e => ihb true _ h (fun _ => hh.2 e) hh.of⟩
  case cons => exact fun e es ihe ihes live => staysIn_cons (ihe live) (ihes live)

theorem compileArgs_proper (ar : CellId → Option Nat) (params : List Val) :
    ∀ (es : List Expr) (live : Bool) (k : List Val → Prog) (h : Bool → Err → Prog),
      (∀ vs, ProperL live (k vs)) → HOK live h → ProperL live (compileArgs ar params es k h) :=
  (compile_proper ar params).2

theorem formulaOf_proper (ar : CellId → Option Nat) (e : Expr) (key : Key) :
    Proper (formulaOf ar e key) := by
  unfold formulaOf Proper
  refine (compile_proper ar key).1 e false _ _ (fun v => by simp [ProperL]) ⟨fun e => ?_, fun e => ?_⟩
  · simp [ProperL]
  · simp [ProperL]

end MxModel.Exec
