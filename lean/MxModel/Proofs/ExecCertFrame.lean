import MxModel.Proofs.ExecCert
import MxModel.Proofs.Reach
import MxModel.Proofs.ExecFrame
/-!
# Certificates during an evaluation: what every step preserves, and what is pending

`PresH`: the part of the state certificates of *held* elements read is only extended by the
steps of an evaluation (values are added, never overwritten; ages keep their order; edges
between held elements and reference-graph edges are never removed – a roll-back removes only
the node of the failed, value-less element).  `PendEv`: what is known about an event recorded
in the trace of a formula that is still running – its callee is held, the edge to the nearest
cached caller `T` is in the graph already, an attribute-path read is on the reference stack at
the level of the frame that will receive it.
-/
namespace MxModel.Exec

/-- the fields certificates read -/
structure SameC (s s' : St) : Prop where
  data : s'.data = s.data
  inputs : s'.inputs = s.inputs
  ge : s'.ge = s.ge
  rg : s'.rg = s.rg

def Held (s : St) (m : Node) : Prop := (lookup s.data m).isSome = true

def SrcOK (s : St) : GNode → Prop
  | .obj _ => True
  | .elem m => Held s m

structure PresH (s s' : St) : Prop where
  ext : Ext s s'
  rank : ∀ a b, Held s a → Held s b → rank s.data a < rank s.data b → rank s'.data a < rank s'.data b
  edges : ∀ a n, (a, GNode.elem n) ∈ s.ge → SrcOK s a → Held s n → (a, GNode.elem n) ∈ s'.ge
  rg : ∀ e ∈ s.rg, e ∈ s'.rg
  noNewIn : ∀ a n, Held s n → (a, GNode.elem n) ∈ s'.ge → (a, GNode.elem n) ∈ s.ge

theorem Held.ext {s s' : St} (h : Ext s s') {m : Node} (hm : Held s m) : Held s' m := by
  unfold Held at hm ⊢
  cases hl : lookup s.data m with
  | none => rw [hl] at hm; cases hm
  | some v => rw [h m v hl]; rfl

theorem PresH.refl (s : St) : PresH s s :=
  ⟨Ext.refl s, fun _ _ _ _ h => h, fun _ _ h _ _ => h, fun _ h => h, fun _ _ _ h => h⟩

theorem PresH.trans {a b c : St} (h1 : PresH a b) (h2 : PresH b c) : PresH a c := by
  refine ⟨h1.ext.trans h2.ext, ?_, ?_, fun e he => h2.rg e (h1.rg e he),
    fun x n hn hx => h1.noNewIn x n hn (h2.noNewIn x n (hn.ext h1.ext) hx)⟩
  · intro x y hx hy hlt
    exact h2.rank x y (hx.ext h1.ext) (hy.ext h1.ext) (h1.rank x y hx hy hlt)
  · intro x n hxn hx hn
    refine h2.edges x n (h1.edges x n hxn hx hn) ?_ (hn.ext h1.ext)
    cases x with
    | obj c => trivial
    | elem m => exact Held.ext h1.ext hx

theorem PresH.of_sameC {s s' : St} (h : SameC s s') : PresH s s' :=
  ⟨Ext.of_data h.data, fun _ _ _ _ hlt => by rw [h.data]; exact hlt,
   fun _ _ he _ _ => by rw [h.ge]; exact he, fun _ he => by rw [h.rg]; exact he,
   fun _ _ _ he => h.ge ▸ he⟩

theorem Cert.presH {env : Env} {s s' : St} (h : PresH s s') {n : Node} {v : Val} {tr : Tr}
    (hn : Held s n) (c : Cert env s n v tr) : Cert env s' n v tr := by
  refine ⟨c.replay, c.noneOK, ?_, fun a ha => c.just a (h.noNewIn a n hn ha)⟩
  intro ev hm
  have hok := c.events ev hm
  cases ev with
  | read c' a r x => exact ⟨hok.1, fun ha hx => h.rg _ (hok.2 ha hx)⟩
  | call m w =>
    have hm' : Held s m := by unfold Held; rw [hok.1]; rfl
    exact ⟨h.ext m w hok.1, h.rank m n hm' hn hok.2.1, h.edges _ n hok.2.2 hm' hn⟩
  | ucall m => exact h.edges _ n hok trivial hn

theorem CInv.presH {env : Env} {s s' : St} (h : PresH s s') (hinp : s'.inputs = s.inputs) (c : CInv env s)
    (hnew : ∀ n v, lookup s'.data n = some v → lookup s.data n = none → n ∉ s'.inputs →
      ∃ tr, Cert env s' n v tr) : CInv env s' := by
  intro n v hl hin
  cases hl0 : lookup s.data n with
  | none => exact hnew n v hl hl0 hin
  | some v0 =>
    have : v0 = v := by have := h.ext n v0 hl0; rw [hl] at this; cases this; rfl
    subst this
    obtain ⟨tr, hc⟩ := c n v0 hl0 (by rw [← hinp]; exact hin)
    exact ⟨tr, hc.presH h (by unfold Held; rw [hl0]; rfl)⟩

theorem CInv.of_sameC {env : Env} {s s' : St} (h : SameC s s') (c : CInv env s) : CInv env s' :=
  c.presH (PresH.of_sameC h) h.inputs (fun n v hl hn _ => by rw [h.data, hn] at hl; cases hl)

def PendEv (env : Env) (s : St) (T : Option Node) (lvl : Option Nat) : FEv → Prop
  | .read _ a r x => env.refs r = x ∧
      (a = true → x.isSome = true → ∀ l, lvl = some l → (l, r) ∈ s.refstack)
  | .call m w => lookup s.data m = some w ∧ ∀ t, T = some t → (GNode.elem m, GNode.elem t) ∈ s.ge
  | .ucall m => ∀ t, T = some t → (GNode.obj m.1, GNode.elem t) ∈ s.ge

/-- steps inside the running frame keep what is pending: values stay, edges into executing
elements stay, the reference stack only grows -/
structure PresP (s s' : St) : Prop where
  ext : Ext s s'
  stack : s'.stack = s.stack
  edgesS : ∀ a t, t ∈ s.stack → (a, GNode.elem t) ∈ s.ge → SrcOK s a → (a, GNode.elem t) ∈ s'.ge
  refstack : ∀ e ∈ s.refstack, e ∈ s'.refstack

theorem SrcOK.ext {s s' : St} (h : Ext s s') {a : GNode} (ha : SrcOK s a) : SrcOK s' a := by
  cases a with
  | obj c => trivial
  | elem m => exact Held.ext h ha

theorem PresP.refl (s : St) : PresP s s := ⟨Ext.refl s, rfl, fun _ _ _ h _ => h, fun _ h => h⟩

theorem PresP.trans {a b c : St} (h1 : PresP a b) (h2 : PresP b c) : PresP a c := by
  refine ⟨h1.ext.trans h2.ext, h2.stack.trans h1.stack, ?_, fun e he => h2.refstack e (h1.refstack e he)⟩
  intro x t ht hxt hx
  exact h2.edgesS x t (by rw [h1.stack]; exact ht) (h1.edgesS x t ht hxt hx) (hx.ext h1.ext)

theorem PendEv.pres {env : Env} {s s' : St} {T : Option Node} {lvl : Option Nat} (h : PresP s s')
    (hT : ∀ t, T = some t → t ∈ s.stack)
    {ev : FEv} (p : PendEv env s T lvl ev) : PendEv env s' T lvl ev := by
  cases ev with
  | read c a r x => exact ⟨p.1, fun ha hx l hl => h.refstack _ (p.2 ha hx l hl)⟩
  | call m w =>
    refine ⟨h.ext m w p.1, fun t ht => h.edgesS _ t (hT t ht) (p.2 t ht) ?_⟩
    show Held s m; unfold Held; rw [p.1]; rfl
  | ucall m => exact fun t ht => h.edgesS _ t (hT t ht) (p t ht) trivial

theorem edgeTarget_push_cached (env : Env) (s : St) (n : Node) (hc : env.cached n.1 = true) : (s.push env n).edgeTarget = some n := by
  unfold St.edgeTarget St.push
  simp only [hc, if_true, List.getLast?_append, List.getLast?_singleton, Option.some_or]
  have : (0 : Int) ≤ (s.stack.length : Int) := Int.natCast_nonneg _
  simp [this]

theorem edgeTarget_push_uncached (env : Env) (s : St) (n : Node) (hidx : IdxOK env s.stack s.idx) (hc : env.cached n.1 = false) :
    (s.push env n).edgeTarget = s.edgeTarget := by
  unfold St.edgeTarget St.push
  simp only [hc, Bool.false_eq_true, if_false, List.getLast?_append, List.getLast?_singleton, Option.some_or]
  cases hl : s.idx.getLast? with
  | none => simp
  | some j =>
    simp only []
    split
    · rename_i hj
      have hget : s.idx[s.idx.length - 1]? = some j := by
        rw [List.getLast?_eq_getElem?] at hl; exact hl
      obtain ⟨h1, h2, _⟩ := hidx _ j hget hj
      rw [List.getElem?_append_left (by omega)]
    · rfl

theorem mem_takeRefs_fst (rs new : List (Nat × RefId)) (L : Nat) (r : RefId)
    (h1 : ∀ e ∈ rs, e.1 < L) (h2 : ∀ e ∈ new, e.1 = L) (hm : (L, r) ∈ rs ++ new) :
    r ∈ (takeRefs (rs ++ new) L).1 := by
  rw [takeRefs_append_eq rs new L h1 h2]
  simp only [List.mem_append] at hm
  rcases hm with hm | hm
  · have := h1 _ hm; simp at this
  · simp only [List.mem_map, List.mem_reverse]
    exact ⟨(L, r), hm, rfl⟩

theorem drainRefs_cached_rg (env : Env) (s : St) (n : Node) (hc : env.cached n.1 = true) (r : RefId)
    (hr : r ∈ (takeRefs s.refstack s.stack.length).1) : (r, n) ∈ (s.drainRefs env n).rg := by
  unfold St.drainRefs
  simp only [hc, if_true, List.mem_append, List.mem_filter]
  by_cases h : (r, n) ∈ s.rg
  · exact Or.inl h
  · right
    refine ⟨?_, by simpa using h⟩
    rw [mem_eraseDups]
    exact List.mem_map.mpr ⟨r, hr, rfl⟩

theorem drainRefs_rg_mono (env : Env) (s : St) (n : Node) : ∀ e ∈ s.rg, e ∈ (s.drainRefs env n).rg := by
  intro e he
  unfold St.drainRefs
  split
  · simp only [List.mem_append]; exact Or.inl he
  · split <;> exact he

theorem drainRefs_uncached_refstack (env : Env) (s : St) (n : Node) (hc : env.cached n.1 = false)
    (hne : s.stack ≠ []) (r : RefId) (hr : r ∈ (takeRefs s.refstack s.stack.length).1) :
    (s.stack.length - 1, r) ∈ (s.drainRefs env n).refstack := by
  unfold St.drainRefs
  have hpos : s.stack.length > 0 := by
    cases hs : s.stack with
    | nil => exact absurd hs hne
    | cons a l => simp
  simp only [hc, Bool.false_eq_true, if_false, hpos, if_true, List.mem_append, List.mem_map,
    List.mem_reverse]
  exact Or.inr ⟨r, hr, rfl⟩

end MxModel.Exec
