import MxModel.Proofs.Registry
/-! The registered identities, exactly: what every operation does to the SET of registered models
(`ids`), in both directions, and the run-level statement "registered = handed out and not closed
since" (`Props/C19.registered_iff_open_handle`). -/
namespace MxModel.Registry
open MxModel.Names

/-- the right-hand side has the shape of `newModel`'s answer: each accepting branch of `newModel` is an instance -/
theorem register_ids_handed {r r' : Reg} (hi : ∀ i, i ∈ ids r'.models ↔ i ∈ ids r.models) (nm : String) (i : Nat) :
    i ∈ ids (register r' nm).1.models ↔
      i ∈ ids r.models ∨ (Except.ok (register r' nm).2 : Except Rej Nat) = .ok i := by
  rw [register_ids_iff, hi]
  exact or_congr Iff.rfl ⟨fun h => by rw [h]; rfl, fun h => by cases h; rfl⟩

theorem newModel_ids_iff (kw : List String) {r : Reg} (h : RegInv r) (name : Option String) (i : Nat) :
    i ∈ ids (newModel kw r name).1.models ↔ i ∈ ids r.models ∨ (newModel kw r name).2 = .ok i := by
  unfold newModel
  cases name with
  | none => exact register_ids_handed (r' := (autoName r).1) (fun _ => Iff.rfl) _ i
  | some n =>
    dsimp only
    split
    · exact register_ids_handed (r' := (autoName (freeName r n)).1) (freeName_renames r n h).2 _ i
    · split
      · exact register_ids_handed (freeName_renames r n h).2 n i
      · rw [(freeName_renames r n h).2]
        exact ⟨Or.inl, fun h => h.elim id (fun h => nomatch h)⟩

theorem newModel_ok_id (kw : List String) (r : Reg) (name : Option String) (i : Nat)
    (h : (newModel kw r name).2 = .ok i) : i = r.nextId := by
  unfold newModel at h
  cases name with
  | none => simp [register, autoName] at h; exact h.symm
  | some n =>
    simp only [] at h
    split at h
    · simp [register, autoName, freeName_nextId] at h; exact h.symm
    · split at h
      · simp [register, freeName_nextId] at h; exact h.symm
      · cases h

theorem readModel_ids_iff (kw : List String) {r : Reg} (h : RegInv r) (name : String) (f : Bool)
    (j : Nat) : j ∈ ids (readModel kw r name f).1.models ↔
      j ∈ ids r.models ∨ (readModel kw r name f).2 = .ok j := by
  have hlt : ∀ x, x ∈ ids r.models → x < r.nextId := by
    intro x hx
    simp only [ids, List.mem_map] at hx
    obtain ⟨e, he, rfl⟩ := hx
    exact h.idsLt e he
  unfold readModel
  have h1 := newModel_inv kw h none
  have hi1 := newModel_ids_iff kw h none
  have hid := newModel_ok_id kw r none
  generalize newModel kw r none = p at h1 hi1 hid
  obtain ⟨r1, res⟩ := p
  cases res with
  | error e =>
    simp only [] at hi1 ⊢
    rw [hi1 j]
  | ok i =>
    simp only [] at hi1 hid ⊢
    have hi := hid i rfl
    have h2 := rename_inv kw h1 i name true
    have hi2 := (rename_renames kw r1 i name true h1).2
    generalize rename kw r1 i name true = q at h2 hi2
    obtain ⟨r2, res2⟩ := q
    have closed_case : ∀ e, (j ∈ ids (close r2 i).1.models ↔
        j ∈ ids r.models ∨ (Except.error e : Except Rej Nat) = .ok j) := by
      intro e
      rw [close_ids h2 i j, hi2 j, hi1 j]
      constructor
      · rintro ⟨h3 | h3, hne⟩
        · exact Or.inl h3
        · exact absurd (by injection h3 with h4; exact h4.symm) hne
      · rintro (h3 | h3)
        · exact ⟨Or.inl h3, by have := hlt j h3; omega⟩
        · cases h3
    cases res2 with
    | error e => exact closed_case e
    | ok u =>
      simp only []
      split
      · exact closed_case _
      · rw [hi2 j, hi1 j]

/-- what the caller is handed by an operation: the identity of the model created, if any -/
def handed (kw : List String) (r : Reg) : Op → Option Nat
  | .new n => match (newModel kw r n).2 with
    | .ok i => some i
    | .error _ => none
  | .read n f => match (readModel kw r n f).2 with
    | .ok i => some i
    | .error _ => none
  | _ => none

def closes : Op → Nat → Bool
  | .close i, j => i == j
  | _, _ => false

theorem step_ids_iff (kw : List String) {r : Reg} (h : RegInv r) (op : Op) (j : Nat) :
    j ∈ ids (step kw r op).models ↔
      (j ∈ ids r.models ∧ closes op j = false) ∨ handed kw r op = some j := by
  cases op with
  | new n =>
    simp only [step, closes, handed, and_true]
    rw [newModel_ids_iff kw h n j]
    cases hres : (newModel kw r n).2 with
    | ok i => simp
    | error e => simp
  | rename i n ro =>
    simp only [step, closes, handed, and_true]
    rw [(rename_renames kw r i n ro h).2 j]
    simp
  | close i =>
    simp only [step, closes, handed, beq_eq_false_iff_ne, ne_eq]
    rw [close_ids h i j]
    constructor
    · rintro ⟨a, b⟩; exact Or.inl ⟨a, fun e => b e.symm⟩
    · rintro (⟨a, b⟩ | a)
      · exact ⟨a, fun e => b e.symm⟩
      · cases a
  | read n f =>
    simp only [step, closes, handed, and_true]
    rw [readModel_ids_iff kw h n f j]
    cases hres : (readModel kw r n f).2 with
    | ok i => simp
    | error e => simp

/-- the models a caller holds open after a history, computed from the caller's side alone (the
handles it was given, minus those it closed afterwards); `acc`: held at the start -/
def openHandles (kw : List String) : Reg → List Op → List Nat → List Nat
  | _, [], acc => acc
  | r, op :: rest, acc =>
    openHandles kw (step kw r op) rest
      ((acc.filter (fun j => !closes op j)) ++ (match handed kw r op with
        | some i => [i]
        | none => []))

theorem run_ids_iff (kw : List String) : ∀ (ops : List Op) (r : Reg) (acc : List Nat), RegInv r →
    (∀ j, j ∈ ids r.models ↔ j ∈ acc) →
    ∀ j, j ∈ ids (run kw r ops).models ↔ j ∈ openHandles kw r ops acc := by
  intro ops
  induction ops with
  | nil => intro r acc _ hacc j; exact hacc j
  | cons op rest ih =>
    intro r acc h hacc j
    show j ∈ ids (run kw (step kw r op) rest).models ↔ _
    apply ih (step kw r op) _ (step_inv kw h op)
    intro x
    rw [step_ids_iff kw h op x, hacc x]
    simp only [List.mem_append, List.mem_filter, Bool.not_eq_true']
    cases handed kw r op with
    | none => simp
    | some i =>
      simp only [List.mem_singleton]
      constructor
      · rintro (a | a)
        · exact Or.inl a
        · injection a with a; exact Or.inr a.symm
      · rintro (a | a)
        · exact Or.inl a
        · exact Or.inr (by rw [a])

theorem renameSamename_entry {r : Reg} (name : String) (m : Model) (hk : lookupName r.models name = some m) :
    ∃ k : Nat, (name ++ "_BAK" ++ toString k, { id := m.id, name := name ++ "_BAK" ++ toString k }) ∈
      (renameSamename r name).models := by
  refine ⟨(getNext (keys r) name "_BAK" r.backupnamer).1, ?_⟩
  rw [(renameSamename_models hk).2, getNext_is_cand]
  exact List.mem_append_right _ (List.mem_singleton.2 rfl)

theorem newModel_displaced (kw : List String) (r : Reg) (n : String) (m : Model)
    (hk : lookupName r.models n = some m) :
    ∃ k : Nat, (n ++ "_BAK" ++ toString k, { id := m.id, name := n ++ "_BAK" ++ toString k }) ∈
      (newModel kw r (some n)).1.models := by
  have hin : (keys r).contains n = true := by
    have : n ∈ keys r := List.mem_map.2 ⟨(n, m), lookupName_some hk, rfl⟩
    simpa using this
  obtain ⟨k, hmem⟩ := renameSamename_entry n m hk
  refine ⟨k, ?_⟩
  have hfree : freeName r n = renameSamename r n := by unfold freeName; rw [if_pos hin]
  unfold newModel
  simp only [hfree]
  split
  · simp only [register, autoName]; exact List.mem_append_left _ hmem
  · split
    · simp only [register]; exact List.mem_append_left _ hmem
    · exact hmem

end MxModel.Registry
