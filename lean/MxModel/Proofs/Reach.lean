import MxModel.Exec.Mech
/-!
# `descsWith` is graph reachability (`nx.descendants` ∪ {source})

`Reach ge a x`: reflexive-transitive closure of the edge relation.
* `descs_sound`: everything `descsWith` returns is reachable;
* `descs_complete`: everything reachable is returned – the fuel (number of nodes) is
  always enough, given that edges only connect nodes of the graph.
-/
namespace MxModel.Exec

inductive Reach (ge : List (GNode × GNode)) (a : GNode) : GNode → Prop
  | refl : Reach ge a a
  | step {x y} : Reach ge a x → (x, y) ∈ ge → Reach ge a y

theorem Reach.mono {ge ge' : List (GNode × GNode)} (hsub : ∀ e ∈ ge', e ∈ ge) {a y : GNode}
    (h : Reach ge' a y) : Reach ge a y := by
  induction h with
  | refl => exact Reach.refl
  | step _ he ih => exact Reach.step ih (hsub _ he)

theorem mem_succsOf (ge : List (GNode × GNode)) (x y : GNode) : y ∈ succsOf ge x ↔ (x, y) ∈ ge := by
  unfold succsOf
  simp only [List.mem_map, List.mem_filter, beq_iff_eq]
  constructor
  · rintro ⟨e, ⟨he, h1⟩, h2⟩; obtain ⟨e1, e2⟩ := e; simp only [] at h1 h2; subst h1; subst h2; exact he
  · intro h; exact ⟨(x, y), ⟨h, rfl⟩, rfl⟩

theorem mem_eraseDups {α} [BEq α] [LawfulBEq α] (l : List α) (x : α) : x ∈ l.eraseDups ↔ x ∈ l := by
  exact List.mem_eraseDups

theorem mem_reachFrom_seen (ge : List (GNode × GNode)) :
    ∀ (fuel : Nat) (fr seen : List GNode) (a : GNode), a ∈ seen → a ∈ reachFrom ge fuel fr seen := by
  intro fuel
  induction fuel with
  | zero => intro fr seen a h; exact h
  | succ f ih =>
    intro fr seen a h
    simp only [reachFrom]
    split
    · exact h
    · exact ih _ _ a (List.mem_append_left _ h)

theorem reachFrom_sound (ge : List (GNode × GNode)) (a : GNode) :
    ∀ (fuel : Nat) (fr seen : List GNode),
      (∀ x ∈ fr, Reach ge a x) → (∀ x ∈ seen, Reach ge a x) →
      ∀ x ∈ reachFrom ge fuel fr seen, Reach ge a x := by
  intro fuel
  induction fuel with
  | zero => intro fr seen _ hs x hx; exact hs x hx
  | succ f ih =>
    intro fr seen hf hs x hx
    simp only [reachFrom] at hx
    split at hx
    · exact hs x hx
    · refine ih _ _ ?_ ?_ x hx
      · intro y hy
        simp only [List.mem_filter, mem_eraseDups, List.mem_flatMap] at hy
        obtain ⟨⟨z, hz, hzy⟩, _⟩ := hy
        exact Reach.step (hf z hz) ((mem_succsOf ge z y).mp hzy)
      · intro y hy
        simp only [List.mem_append, List.mem_filter, mem_eraseDups, List.mem_flatMap] at hy
        rcases hy with hy | ⟨⟨z, hz, hzy⟩, _⟩
        · exact hs y hy
        · exact Reach.step (hf z hz) ((mem_succsOf ge z y).mp hzy)

theorem descs_sound (s : St) (a x : GNode) (h : x ∈ s.descsWith a) : Reach s.ge a x := by
  unfold St.descsWith at h
  exact reachFrom_sound s.ge a _ _ _ (by intro y hy; simp at hy; subst hy; exact Reach.refl)
    (by intro y hy; simp at hy; subst hy; exact Reach.refl) x h

theorem Reach.pred {ge : List (GNode × GNode)} {a x : GNode} (h : Reach ge a x) (hne : x ≠ a) :
    ∃ y, (y, x) ∈ ge := by
  cases h with
  | refl => exact absurd rfl hne
  | step _ he => exact ⟨_, he⟩

theorem filter_length_le {α} (l : List α) (p q : α → Bool) (hpq : ∀ x, q x = true → p x = true) :
    (l.filter q).length ≤ (l.filter p).length := by
  induction l with
  | nil => simp
  | cons a l ih =>
    simp only [List.filter]
    cases hq : q a with
    | true => simp only [hpq a hq, List.length_cons]; omega
    | false => cases hp : p a <;> simp only [List.length_cons] <;> omega

theorem filter_length_lt {α} (l : List α) (p q : α → Bool) (hpq : ∀ x, q x = true → p x = true)
    (y : α) (hy : y ∈ l) (hp : p y = true) (hq : q y = false) :
    (l.filter q).length < (l.filter p).length := by
  induction l with
  | nil => cases hy
  | cons a l ih =>
    simp only [List.mem_cons] at hy
    simp only [List.filter]
    rcases hy with rfl | hy
    · simp only [hp, hq, List.length_cons]
      have := filter_length_le l p q hpq
      omega
    · have := ih hy
      cases hq' : q a with
      | true => simp only [hpq a hq', List.length_cons]; omega
      | false => cases hp' : p a <;> simp only [List.length_cons] <;> omega

def unseen (gn seen : List GNode) : Nat := (gn.filter (fun x => !seen.contains x)).length

theorem reachFrom_complete (ge : List (GNode × GNode)) (gn : List GNode)
    (hedge : ∀ x y, (x, y) ∈ ge → y ∈ gn) (a : GNode) :
    ∀ (fuel : Nat) (fr seen : List GNode),
      (∀ x ∈ fr, x ∈ seen) →
      (∀ x ∈ seen, x ∉ fr → ∀ y, (x, y) ∈ ge → y ∈ seen) →
      a ∈ seen → unseen gn seen < fuel →
      ∀ x, Reach ge a x → x ∈ reachFrom ge fuel fr seen := by
  intro fuel
  induction fuel with
  | zero => intro fr seen _ _ _ h; omega
  | succ f ih =>
    intro fr seen hfs hclosed ha hfuel x hx
    simp only [reachFrom]
    have hnext : ∀ y, y ∈ ((fr.flatMap (succsOf ge)).eraseDups.filter (fun x => !seen.contains x)) ↔
        (∃ z ∈ fr, (z, y) ∈ ge) ∧ y ∉ seen := by
      intro y
      simp only [List.mem_filter, mem_eraseDups, List.mem_flatMap, mem_succsOf, Bool.not_eq_true',
        List.contains_eq_mem, decide_eq_false_iff_not]
    split
    · rename_i hempty
      -- `seen` is closed under successors
      have hcl : ∀ u ∈ seen, ∀ y, (u, y) ∈ ge → y ∈ seen := by
        intro u hu y huy
        by_cases huf : u ∈ fr
        · by_cases hys : y ∈ seen
          · exact hys
          · have : y ∈ ((fr.flatMap (succsOf ge)).eraseDups.filter (fun x => !seen.contains x)) :=
              (hnext y).mpr ⟨⟨u, huf, huy⟩, hys⟩
            rw [List.isEmpty_iff.mp hempty] at this; cases this
        · exact hclosed u hu huf y huy
      induction hx with
      | refl => exact ha
      | step _ he ih' => exact hcl _ ih' _ he
    · rename_i hne
      refine ih _ _ ?_ ?_ ?_ ?_ x hx
      · intro y hy; exact List.mem_append_right _ hy
      · intro u hu hunot y huy
        simp only [List.mem_append] at hu ⊢
        rcases hu with hu | hu
        · by_cases huf : u ∈ fr
          · by_cases hys : y ∈ seen
            · exact Or.inl hys
            · exact Or.inr ((hnext y).mpr ⟨⟨u, huf, huy⟩, hys⟩)
          · exact Or.inl (hclosed u hu huf y huy)
        · exact absurd hu hunot
      · simp [ha]
      · -- a new node of the graph became seen
        obtain ⟨y, hy⟩ : ∃ y, y ∈ ((fr.flatMap (succsOf ge)).eraseDups.filter (fun x => !seen.contains x)) := by
          cases hl : ((fr.flatMap (succsOf ge)).eraseDups.filter (fun x => !seen.contains x)) with
          | nil => rw [hl] at hne; simp at hne
          | cons y _ => exact ⟨y, by simp⟩
        obtain ⟨⟨z, _, hzy⟩, hys⟩ := (hnext y).mp hy
        have hlt : unseen gn (seen ++ ((fr.flatMap (succsOf ge)).eraseDups.filter (fun x => !seen.contains x))) <
            unseen gn seen := by
          unfold unseen
          refine filter_length_lt gn _ _ ?_ y (hedge z y hzy) (by simpa using hys) (by
            have : y ∈ seen ++ ((fr.flatMap (succsOf ge)).eraseDups.filter (fun x => !seen.contains x)) :=
              List.mem_append_right _ hy
            simp only [Bool.not_eq_false', List.contains_eq_mem, decide_eq_true_eq]
            simpa using this)
          intro w hw
          simp only [Bool.not_eq_true', List.contains_eq_mem, decide_eq_false_iff_not, List.mem_append,
            not_or] at hw ⊢
          exact hw.1
        omega

theorem descs_complete (s : St) (hedge : ∀ x y, (x, y) ∈ s.ge → y ∈ s.gn) (a x : GNode)
    (ha : a ∈ s.gn) (h : Reach s.ge a x) : x ∈ s.descsWith a := by
  unfold St.descsWith
  refine reachFrom_complete s.ge s.gn hedge a _ _ _ (by simp) (by intro u hu hn; simp at hu; subst hu; simp at hn)
    (by simp) ?_ x h
  -- at least the source is already seen
  unfold unseen
  have h1 : (s.gn.filter (fun x => !([a] : List GNode).contains x)).length < (s.gn.filter (fun _ => true)).length :=
    filter_length_lt s.gn _ _ (by intro _ _; rfl) a ha rfl (by simp)
  have h2 : (s.gn.filter (fun _ => true)).length = s.gn.length := by simp
  omega

theorem descs_iff (s : St) (hedge : ∀ x y, (x, y) ∈ s.ge → y ∈ s.gn) (a x : GNode) (ha : a ∈ s.gn) :
    x ∈ s.descsWith a ↔ Reach s.ge a x :=
  ⟨descs_sound s a x, descs_complete s hedge a x ha⟩

end MxModel.Exec
