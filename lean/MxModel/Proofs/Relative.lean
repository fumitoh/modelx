import MxModel.Kernels.Relative
/-!
Helper lemmas for `Kernels/Relative.lean`: the Python slicing loops compute the longest
common prefix / suffix, the lengthening loop finds the outermost related pair of roots, and
the final test of `get_relative` is "the base root is a prefix of the value".  Then `on_inherit` and the
reference operations built on it, one step at a time: `get_relative` reads the linearisation function only at
the roots its loop visits, which for clean names are non-empty prefixes of the sub space (`getRelative_congr`).
-/
namespace MxModel.Relative

/-! ### longest common prefix / suffix (the declarative counterpart of `_get_shared_part`) -/

def lcp : List String → List String → List String
  | a :: as, b :: bs => if a = b then a :: lcp as bs else []
  | _, _ => []

def lcs (a b : List String) : List String := (lcp a.reverse b.reverse).reverse

theorem prefix_lcp_iff : ∀ (p a b : List String), p <+: lcp a b ↔ p <+: a ∧ p <+: b
  | [], _, _ => by simp
  | x :: p, [], _ => by simp [lcp]
  | x :: p, _ :: _, [] => by simp [lcp]
  | x :: p, a :: as, b :: bs => by
    by_cases h : a = b
    · subst h
      simp only [lcp, if_true, List.cons_prefix_cons, prefix_lcp_iff p as bs]
      exact ⟨fun h => ⟨⟨h.1, h.2.1⟩, h.1, h.2.2⟩, fun h => ⟨h.1.1, h.1.2, h.2.2⟩⟩
    · simp only [lcp, if_neg h, List.cons_prefix_cons]
      exact ⟨fun hp => (nomatch List.prefix_nil.mp hp), fun hp => absurd (hp.1.1.symm.trans hp.2.1) h⟩

theorem lcp_prefix_left (a b : List String) : lcp a b <+: a :=
  ((prefix_lcp_iff _ a b).mp (List.prefix_refl _)).1

theorem lcp_prefix_right (a b : List String) : lcp a b <+: b :=
  ((prefix_lcp_iff _ a b).mp (List.prefix_refl _)).2

theorem prefix_lcp (p a b : List String) (ha : p <+: a) (hb : p <+: b) : p <+: lcp a b :=
  (prefix_lcp_iff p a b).mpr ⟨ha, hb⟩

theorem lcs_suffix_left (a b : List String) : lcs a b <:+ a := by
  have h := List.reverse_suffix.mpr (lcp_prefix_left a.reverse b.reverse)
  rw [List.reverse_reverse] at h
  exact h

theorem lcs_suffix_right (a b : List String) : lcs a b <:+ b := by
  have h := List.reverse_suffix.mpr (lcp_prefix_right a.reverse b.reverse)
  rw [List.reverse_reverse] at h
  exact h

theorem suffix_lcs (t a b : List String) (ha : t <:+ a) (hb : t <:+ b) : t <:+ lcs a b := by
  have h := prefix_lcp t.reverse a.reverse b.reverse (List.reverse_prefix.mpr ha) (List.reverse_prefix.mpr hb)
  have h2 := List.reverse_suffix.mpr h
  rw [List.reverse_reverse] at h2
  exact h2

theorem take_of_prefix {α : Type} {p l : List α} {n : Nat} (h : p <+: l) (hn : n ≤ p.length) :
    l.take n = p.take n := by
  obtain ⟨t, rfl⟩ := h
  exact List.take_append_of_le_length hn

theorem take_eq_take_iff (a b : List String) (n : Nat) (ha : n ≤ a.length) :
    a.take n = b.take n ↔ n ≤ (lcp a b).length := by
  constructor
  · intro h
    have h2 : a.take n <+: b := h ▸ List.take_prefix n b
    have := (prefix_lcp _ _ _ (List.take_prefix n a) h2).length_le
    rwa [List.length_take, Nat.min_eq_left ha] at this
  · intro h
    rw [take_of_prefix (lcp_prefix_left a b) h, take_of_prefix (lcp_prefix_right a b) h]

theorem sharedLoop_left (a b : List String) : ∀ n, n ≤ a.length →
    sharedLoop true a b n =
      if min n (lcp a b).length = 0 then none else some (a.take (min n (lcp a b).length)) := by
  intro n
  induction n with
  | zero => intro _; simp [sharedLoop]
  | succ n ih =>
    intro ha
    simp only [sharedLoop, part, if_true]
    by_cases hk : n + 1 ≤ (lcp a b).length
    · rw [if_pos ((take_eq_take_iff a b (n + 1) ha).mpr hk), Nat.min_eq_left hk, if_neg (Nat.succ_ne_zero n)]
    · rw [if_neg (fun h => hk ((take_eq_take_iff a b (n + 1) ha).mp h)), ih (Nat.le_of_succ_le ha)]
      have e : min n (lcp a b).length = min (n + 1) (lcp a b).length := by omega
      rw [e]

theorem sharedLoop_left_min (a b : List String) :
    sharedLoop true a b (min a.length b.length) = if lcp a b = [] then none else some (lcp a b) := by
  have h1 := (lcp_prefix_left a b).length_le
  have h2 := (lcp_prefix_right a b).length_le
  rw [sharedLoop_left a b _ (Nat.min_le_left _ _), Nat.min_eq_right (Nat.le_min.mpr ⟨h1, h2⟩),
    ← List.prefix_iff_eq_take.mp (lcp_prefix_left a b)]
  simp only [List.length_eq_zero_iff]

theorem part_right (l : List String) (n : Nat) : part false l n = (part true l.reverse n).reverse := by
  simp [part, List.reverse_take]

theorem sharedLoop_right (a b : List String) : ∀ n,
    sharedLoop false a b n = (sharedLoop true a.reverse b.reverse n).map List.reverse := by
  intro n
  induction n with
  | zero => simp [sharedLoop]
  | succ n ih =>
    simp only [sharedLoop]
    rw [part_right a, part_right b, ih]
    by_cases h : part true a.reverse (n + 1) = part true b.reverse (n + 1)
    · simp [h]
    · have h' : ¬ (part true a.reverse (n + 1)).reverse = (part true b.reverse (n + 1)).reverse := by
        intro hh; exact h (List.reverse_inj.mp hh)
      simp [h, h']

theorem sharedLoop_right_min (a b : List String) :
    sharedLoop false a b (min a.length b.length) = if lcs a b = [] then none else some (lcs a b) := by
  rw [sharedLoop_right]
  have := sharedLoop_left_min a.reverse b.reverse
  simp only [List.length_reverse] at this
  rw [this]
  by_cases h : lcp a.reverse b.reverse = []
  · simp [h, lcs]
  · simp [h, lcs]

/-! ### clean paths: non-empty, no empty component (every `idstr` of a space or cells) -/

def Clean (p : Path) : Prop := p ≠ [] ∧ "" ∉ p

instance (p : Path) : Decidable (Clean p) := by unfold Clean; exact inferInstance

theorem splitP_of_ne {p : Path} (h : p ≠ []) : splitP p = p := by simp [splitP, h]

theorem joinP_of_not_mem {l : List String} (h : "" ∉ l) : joinP l = l := by
  unfold joinP
  split
  · rename_i e; subst e; simp at h
  · rfl

theorem not_mem_of_sublist {l l' : List String} (h : l'.Sublist l) (hm : "" ∉ l) : "" ∉ l' :=
  fun hx => hm (h.mem hx)

theorem lenNode_of_ne {p : Path} (h : p ≠ []) : lenNode p = p.length := by simp [lenNode, splitP_of_ne h]

theorem trimRight_clean {p : Path} (h : Clean p) (n : Nat) : trimRight p n = p.take (p.length - n) := by
  unfold trimRight
  split
  · rename_i e; subst e; simp
  · rw [splitP_of_ne h.1]
    exact joinP_of_not_mem (not_mem_of_sublist (List.take_sublist _ _) h.2)

theorem trimLeft_clean {p : Path} (h : Clean p) (n : Nat) : trimLeft p n = p.drop n := by
  unfold trimLeft
  rw [splitP_of_ne h.1]
  exact joinP_of_not_mem (not_mem_of_sublist (List.drop_sublist _ _) h.2)

theorem sharedAsc_clean {a b : Path} (ha : Clean a) (hb : Clean b) :
    sharedAsc a b = if lcp a b = [] then none else some (lcp a b) := by
  unfold sharedAsc sharedPart
  rw [splitP_of_ne ha.1, splitP_of_ne hb.1, sharedLoop_left_min]
  split
  · rfl
  · simp [joinP_of_not_mem (not_mem_of_sublist (lcp_prefix_left a b).sublist ha.2)]

theorem sharedDesc_clean {a b : Path} (ha : Clean a) (hb : Clean b) :
    sharedDesc a b = if lcs a b = [] then none else some (lcs a b) := by
  unfold sharedDesc sharedPart
  rw [splitP_of_ne ha.1, splitP_of_ne hb.1, sharedLoop_right_min]
  split
  · rfl
  · simp [joinP_of_not_mem (not_mem_of_sublist (lcs_suffix_left a b).sublist ha.2)]

/-- the shared trailing part as `get_relative` uses it: the longest common suffix, cut so that
a root is left to each name -/
def desc (a b : List String) : List String :=
  (lcs a b).drop ((lcs a b).length - (min a.length b.length - 1))

theorem desc_suffix_lcs (a b : List String) : desc a b <:+ lcs a b := List.drop_suffix _ _

theorem desc_suffix_left (a b : List String) : desc a b <:+ a :=
  (desc_suffix_lcs a b).trans (lcs_suffix_left a b)

theorem desc_suffix_right (a b : List String) : desc a b <:+ b :=
  (desc_suffix_lcs a b).trans (lcs_suffix_right a b)

theorem desc_length (a b : List String) :
    (desc a b).length = min (lcs a b).length (min a.length b.length - 1) := by
  rw [desc, List.length_drop, Nat.sub_sub_eq_min]

theorem desc_length_lt {a b : List String} (ha : a ≠ []) (hb : b ≠ []) :
    (desc a b).length < a.length ∧ (desc a b).length < b.length := by
  have h : (desc a b).length ≤ min a.length b.length - 1 := by
    rw [desc_length]; exact Nat.min_le_right _ _
  have hm : 0 < min a.length b.length := Nat.lt_min.mpr ⟨List.length_pos_iff.mpr ha, List.length_pos_iff.mpr hb⟩
  exact Nat.lt_min.mp (Nat.lt_of_le_of_lt h (Nat.sub_one_lt (Nat.ne_of_gt hm)))

theorem suffix_desc {t a b : List String} (ha : t <:+ a) (hb : t <:+ b) (hla : t.length < a.length)
    (hlb : t.length < b.length) : t <:+ desc a b := by
  have ht := suffix_lcs t a b ha hb
  refine List.suffix_of_suffix_length_le ht (desc_suffix_lcs a b) ?_
  rw [desc_length]
  exact Nat.le_min.mpr ⟨ht.length_le, Nat.le_sub_one_of_lt (Nat.lt_min.mpr ⟨hla, hlb⟩)⟩

theorem descList_clean {a b : Path} (ha : Clean a) (hb : Clean b) : descList a b = desc a b := by
  unfold descList desc
  rw [sharedDesc_clean ha hb]
  by_cases h : lcs a b = []
  · simp [h]
  · simp [h, splitP_of_ne h, lenNode_of_ne ha.1, lenNode_of_ne hb.1]

/-- the roots that `get_relative` starts its loop at -/
theorem exists_roots {sub base : Path} (hs : sub ≠ []) (hb : base ≠ []) :
    ∃ sr br, sr ≠ [] ∧ br ≠ [] ∧ sr ++ desc sub base = sub ∧ br ++ desc sub base = base := by
  obtain ⟨sr, hsr⟩ := desc_suffix_left sub base
  obtain ⟨br, hbr⟩ := desc_suffix_right sub base
  obtain ⟨h1, h2⟩ := desc_length_lt hs hb
  refine ⟨sr, br, ?_, ?_, hsr, hbr⟩
  · rintro rfl
    rw [List.nil_append] at hsr
    rw [hsr] at h1
    exact Nat.lt_irrefl _ h1
  · rintro rfl
    rw [List.nil_append] at hbr
    rw [hbr] at h2
    exact Nat.lt_irrefl _ h2

theorem extP_of_ne {r : Path} (h : r ≠ []) (n : String) : extP r n = r ++ [n] := by
  unfold extP
  rw [splitP_of_ne h]
  unfold joinP
  split
  · rename_i e
    have := congrArg List.length e
    cases r with
    | nil => exact absurd rfl h
    | cons x xs => simp at this
  · rfl

theorem relLoop_of_mem {mroOf : Path → List Path} {sr br : Path} (h : br ∈ mroOf sr) (t : List String) :
    relLoop mroOf sr br t = some (sr, br) := by
  cases t <;> simp [relLoop, h]

theorem relLoop_nil_of_not_mem {mroOf : Path → List Path} {sr br : Path} (h : br ∉ mroOf sr) :
    relLoop mroOf sr br [] = none := by
  simp [relLoop, h]

theorem relLoop_cons_of_not_mem {mroOf : Path → List Path} {sr br : Path} (h : br ∉ mroOf sr) (n : String)
    (rest : List String) : relLoop mroOf sr br (n :: rest) = relLoop mroOf (extP sr n) (extP br n) rest := by
  simp [relLoop, h]

/-- the loop stops at the first split `T = pre ++ t` with `br ++ pre ∈ mroOf (sr ++ pre)` ("first" is said as:
no such split has a longer `t`), and gives `none` only when there is no such split -/
theorem relLoop_first (mroOf : Path → List Path) : ∀ (T : List String) (sr br : Path), sr ≠ [] → br ≠ [] →
    (∀ rs rb, relLoop mroOf sr br T = some (rs, rb) →
      ∃ pre t, T = pre ++ t ∧ rs = sr ++ pre ∧ rb = br ++ pre ∧ rb ∈ mroOf rs ∧
        ∀ pre' t', T = pre' ++ t' → br ++ pre' ∈ mroOf (sr ++ pre') → t'.length ≤ t.length) ∧
    (relLoop mroOf sr br T = none → ∀ pre t, T = pre ++ t → br ++ pre ∉ mroOf (sr ++ pre)) := by
  intro T sr br hsr hbr
  by_cases hit : br ∈ mroOf sr
  · rw [relLoop_of_mem hit]
    refine ⟨fun rs rb h => ?_, fun h => nomatch h⟩
    obtain ⟨rfl, rfl⟩ := Prod.mk.inj (Option.some.inj h)
    refine ⟨[], T, rfl, (List.append_nil _).symm, (List.append_nil _).symm, hit, fun pre' t' e _ => ?_⟩
    rw [e, List.length_append]
    exact Nat.le_add_left _ _
  · cases T with
    | nil =>
      rw [relLoop_nil_of_not_mem hit]
      refine ⟨fun rs rb h => (nomatch h), fun _ pre t e => ?_⟩
      rw [(List.append_eq_nil_iff.mp e.symm).1, List.append_nil, List.append_nil]
      exact hit
    | cons n rest =>
      rw [relLoop_cons_of_not_mem hit, extP_of_ne hsr, extP_of_ne hbr]
      obtain ⟨ih1, ih2⟩ := relLoop_first mroOf rest (sr ++ [n]) (br ++ [n]) (by simp) (by simp)
      constructor
      · intro rs rb h
        obtain ⟨pre, t, e, hrs, hrb, hin, hmin⟩ := ih1 rs rb h
        refine ⟨n :: pre, t, by rw [e]; rfl, by rw [hrs]; simp, by rw [hrb]; simp, hin, fun pre' t' e' hit' => ?_⟩
        cases pre' with
        | nil => exact absurd (by simpa using hit') hit
        | cons x pre'' =>
          obtain ⟨rfl, e''⟩ := List.cons.inj e'
          exact hmin pre'' t' e'' (by simpa using hit')
      · intro h pre t e
        cases pre with
        | nil => simpa using hit
        | cons x pre' =>
          obtain ⟨rfl, e'⟩ := List.cons.inj e
          simpa using ih2 h pre' t e'

theorem hasParent_clean {sp rb : Path} (hsp : Clean sp) (hrb : rb ≠ []) :
    (rb == sp || hasParent sp rb) = true ↔ rb <+: sp := by
  rw [Bool.or_eq_true, beq_iff_eq, hasParent, lenNode_of_ne hsp.1, lenNode_of_ne hrb, trimRight_clean hsp]
  by_cases hlen : sp.length ≤ rb.length
  · rw [if_pos hlen]
    simp only [Bool.false_eq_true, or_false]
    exact ⟨fun h => h ▸ List.prefix_refl _, fun h => h.eq_of_length (Nat.le_antisymm h.length_le hlen)⟩
  · rw [if_neg hlen, Nat.sub_sub_self (Nat.le_of_not_le hlen), beq_iff_eq, List.prefix_iff_eq_take]
    exact ⟨fun h => h.elim (fun e => by rw [e, List.take_length]) Eq.symm, fun h => Or.inr h.symm⟩

theorem relFinish_clean {base value rs rb : Path} (hb : Clean base) (hv : Clean value)
    (hrs : Clean rs) (hrb : rb ≠ []) (hpre : rb <+: base) (hsp : lcp base value ≠ []) :
    relFinish (lcp base value) value (rs, rb) =
      if rb <+: value then .some (rs ++ value.drop rb.length) else .none := by
  have hcl : Clean (lcp base value) :=
    ⟨hsp, not_mem_of_sublist (lcp_prefix_left base value).sublist hb.2⟩
  have hiff : rb <+: value ↔ rb <+: lcp base value :=
    ⟨fun h => prefix_lcp _ _ _ hpre h, fun h => h.trans (lcp_prefix_right base value)⟩
  unfold relFinish
  simp only [hasParent_clean hcl hrb, ← hiff]
  split
  · rw [trimLeft_clean hv, lenNode_of_ne hrb]
    split
    · rename_i e; rw [e, List.append_nil]
    · rw [splitP_of_ne hrs.1]
      congr 1
      apply joinP_of_not_mem
      intro hm
      rcases List.mem_append.mp hm with hm | hm
      · exact hrs.2 hm
      · exact hv.2 ((List.drop_sublist _ _).mem hm)
  · rfl

theorem trimRight_root {p sr : Path} {T : List String} (hp : Clean p) (h : sr ++ T = p) :
    trimRight p T.length = sr := by
  rw [trimRight_clean hp, ← h]
  simp

theorem getRelative_clean (mroOf : Path → List Path) {sub base value sr br : Path}
    (hs : Clean sub) (hb : Clean base) (hv : Clean value)
    (hsr : sr ++ desc sub base = sub) (hbr : br ++ desc sub base = base) :
    getRelative mroOf sub base value =
      if lcp base value = [] then .none else
        match relLoop mroOf sr br (desc sub base) with
        | none => .mustNotHappen
        | some roots => relFinish (lcp base value) value roots := by
  unfold getRelative
  rw [sharedAsc_clean hb hv, descList_clean hs hb, trimRight_root hs hsr, trimRight_root hb hbr]
  by_cases h : lcp base value = []
  · simp [h]
  · simp only [h, if_false]
    cases relLoop mroOf sr br (desc sub base) <;> rfl

/-- the two spaces sit at the same relative position `t` below `rs` and `rb`, and `rs`
derives from `rb` (or is `rb`) -/
def Related (mroOf : Path → List Path) (sub base rs rb : Path) (t : List String) : Prop :=
  sub = rs ++ t ∧ base = rb ++ t ∧ rs ≠ [] ∧ rb ≠ [] ∧ rb ∈ mroOf rs

/-- the outermost such pair (the longest stripped suffix) -/
def Outermost (mroOf : Path → List Path) (sub base rs rb : Path) (t : List String) : Prop :=
  Related mroOf sub base rs rb t ∧
    ∀ rs' rb' t', Related mroOf sub base rs' rb' t' → t'.length ≤ t.length

section
variable {mroOf : Path → List Path} {sub base rs rb rs' rb' sr br : Path} {t t' : List String}

theorem Related.sub_eq (h : Related mroOf sub base rs rb t) : sub = rs ++ t := h.1
theorem Related.base_eq (h : Related mroOf sub base rs rb t) : base = rb ++ t := h.2.1
theorem Related.rs_ne (h : Related mroOf sub base rs rb t) : rs ≠ [] := h.2.2.1
theorem Related.rb_ne (h : Related mroOf sub base rs rb t) : rb ≠ [] := h.2.2.2.1
theorem Related.mem (h : Related mroOf sub base rs rb t) : rb ∈ mroOf rs := h.2.2.2.2

theorem Outermost.unique (h : Outermost mroOf sub base rs rb t) (h' : Outermost mroOf sub base rs' rb' t') :
    rs = rs' ∧ rb = rb' := by
  have hl : t.length = t'.length := Nat.le_antisymm (h'.2 _ _ _ h.1) (h.2 _ _ _ h'.1)
  exact ⟨(List.append_inj' (h.1.sub_eq.symm.trans h'.1.sub_eq) hl).1,
    (List.append_inj' (h.1.base_eq.symm.trans h'.1.base_eq) hl).1⟩

theorem related_split (hsr : sr ++ desc sub base = sub) (hbr : br ++ desc sub base = base)
    (h : Related mroOf sub base rs rb t) :
    ∃ pre, desc sub base = pre ++ t ∧ rs = sr ++ pre ∧ rb = br ++ pre := by
  have hlen : ∀ {x r : Path}, x = r ++ t → r ≠ [] → t.length < x.length := by
    intro x r e hr
    have := List.length_pos_iff.mpr hr
    rw [e, List.length_append]
    omega
  obtain ⟨pre, hpre⟩ := suffix_desc ⟨rs, h.sub_eq.symm⟩ ⟨rb, h.base_eq.symm⟩ (hlen h.sub_eq h.rs_ne)
    (hlen h.base_eq h.rb_ne)
  refine ⟨pre, hpre.symm, List.append_cancel_right (bs := t) ?_, List.append_cancel_right (bs := t) ?_⟩
  · rw [← h.sub_eq, List.append_assoc, hpre, hsr]
  · rw [← h.base_eq, List.append_assoc, hpre, hbr]

theorem related_of_split (hsrne : sr ≠ []) (hbrne : br ≠ []) (hsr : sr ++ desc sub base = sub)
    (hbr : br ++ desc sub base = base) {pre : List String} (hT : desc sub base = pre ++ t)
    (hin : br ++ pre ∈ mroOf (sr ++ pre)) : Related mroOf sub base (sr ++ pre) (br ++ pre) t :=
  ⟨by rw [List.append_assoc, ← hT, hsr], by rw [List.append_assoc, ← hT, hbr],
    by simp [hsrne], by simp [hbrne], hin⟩

theorem relLoop_roots (mroOf : Path → List Path) (hsrne : sr ≠ []) (hbrne : br ≠ [])
    (hsr : sr ++ desc sub base = sub) (hbr : br ++ desc sub base = base) :
    (∃ rs rb t, relLoop mroOf sr br (desc sub base) = some (rs, rb) ∧ Outermost mroOf sub base rs rb t) ∨
    (relLoop mroOf sr br (desc sub base) = none ∧ ∀ rs rb t, ¬ Related mroOf sub base rs rb t) := by
  obtain ⟨h1, h2⟩ := relLoop_first mroOf (desc sub base) sr br hsrne hbrne
  cases hl : relLoop mroOf sr br (desc sub base) with
  | some r =>
    obtain ⟨rs, rb⟩ := r
    obtain ⟨pre, t, hT, rfl, rfl, hin, hmin⟩ := h1 _ _ hl
    refine Or.inl ⟨_, _, t, rfl, related_of_split hsrne hbrne hsr hbr hT hin, fun rs' rb' t' hrel => ?_⟩
    obtain ⟨pre', hT', rfl, rfl⟩ := related_split hsr hbr hrel
    exact hmin pre' t' hT' hrel.mem
  | none =>
    refine Or.inr ⟨rfl, fun rs rb t hrel => ?_⟩
    obtain ⟨pre, hT, rfl, rfl⟩ := related_split hsr hbr hrel
    exact h2 hl pre t hT hrel.mem

end

theorem exists_outermost (mroOf : Path → List Path) {sub base : Path} (hs : sub ≠ []) (hb : base ≠ [])
    (h : ∃ rs rb t, Related mroOf sub base rs rb t) : ∃ rs rb t, Outermost mroOf sub base rs rb t := by
  obtain ⟨sr, br, hsrne, hbrne, hsr, hbr⟩ := exists_roots hs hb
  rcases relLoop_roots mroOf hsrne hbrne hsr hbr with ⟨rs, rb, t, _, ho⟩ | ⟨_, hno⟩
  · exact ⟨rs, rb, t, ho⟩
  · obtain ⟨rs, rb, t, hrel⟩ := h
    exact absurd hrel (hno rs rb t)

theorem getRelative_cases (mroOf : Path → List Path) {sub base value : Path} (hs : Clean sub) (hb : Clean base)
    (hv : Clean value) :
    (∃ rs rb t, Outermost mroOf sub base rs rb t ∧ getRelative mroOf sub base value =
        if rb <+: value then .some (rs ++ value.drop rb.length) else .none) ∨
    ((∀ rs rb t, ¬ Related mroOf sub base rs rb t) ∧ getRelative mroOf sub base value =
        if lcp base value = [] then .none else .mustNotHappen) := by
  obtain ⟨sr, br, hsrne, hbrne, hsr, hbr⟩ := exists_roots hs.1 hb.1
  rw [getRelative_clean mroOf hs hb hv hsr hbr]
  rcases relLoop_roots mroOf hsrne hbrne hsr hbr with ⟨rs, rb, t, hl, ho⟩ | ⟨hl, hno⟩
  · refine Or.inl ⟨rs, rb, t, ho, ?_⟩
    rw [hl]
    have hrbpre : rb <+: base := ⟨t, ho.1.base_eq.symm⟩
    by_cases h : lcp base value = []
    · have : ¬ rb <+: value := fun hp => ho.1.rb_ne (List.prefix_nil.mp (h ▸ prefix_lcp _ _ _ hrbpre hp))
      rw [if_pos h, if_neg this]
    · rw [if_neg h]
      exact relFinish_clean hb hv
        ⟨ho.1.rs_ne, not_mem_of_sublist (ho.1.sub_eq ▸ List.sublist_append_left rs t) hs.2⟩ ho.1.rb_ne hrbpre h
  · exact Or.inr ⟨hno, by rw [hl]⟩

theorem lcp_eq_nil_iff {a b : Path} : lcp a b = [] ↔ a = [] ∨ a.head? ≠ b.head? := by
  cases a with
  | nil => simp [lcp]
  | cons x xs =>
    cases b with
    | nil => simp [lcp]
    | cons y ys =>
      by_cases h : x = y <;> simp [lcp, h]

theorem wrapLookup_eq_some : ∀ (root impl rel : Path),
    wrapLookup root impl = some rel ↔ impl = root ++ rel ∧ rel ≠ []
  | [], rest, rel => by
    by_cases h : rest = [] <;> simp [wrapLookup, h]
    rintro rfl; exact h
  | _ :: _, [], _ => by simp [wrapLookup]
  | r :: rs, i :: rest, rel => by
    by_cases h : r = i
    · simp [wrapLookup, h, wrapLookup_eq_some rs rest rel]
    · simp [wrapLookup, h, Ne.symm h]

theorem wrapLookup_inside (root rel : Path) (h : rel ≠ []) : wrapLookup root (root ++ rel) = some rel :=
  (wrapLookup_eq_some root (root ++ rel) rel).mpr ⟨rfl, h⟩

theorem wrapLookup_outside {root impl : Path} (h1 : ¬ root <+: impl) : wrapLookup root impl = none := by
  cases h : wrapLookup root impl with
  | none => rfl
  | some rel => exact absurd ⟨rel, ((wrapLookup_eq_some root impl rel).mp h).1.symm⟩ h1

theorem relLoop_congr (m1 m2 : Path → List Path) : ∀ (T : List String) (sr br : Path), sr ≠ [] →
    (∀ pre, pre <+: T → m1 (sr ++ pre) = m2 (sr ++ pre)) → relLoop m1 sr br T = relLoop m2 sr br T
  | [], sr, br, _, h => by
    have := h [] List.nil_prefix
    rw [List.append_nil] at this
    simp only [relLoop, this]
  | n :: rest, sr, br, hsr, h => by
    have := h [] List.nil_prefix
    rw [List.append_nil] at this
    simp only [relLoop, this, extP_of_ne hsr]
    rw [relLoop_congr m1 m2 rest (sr ++ [n]) _ (by simp) (fun pre hpre => by
      rw [List.append_assoc]
      exact h ([n] ++ pre) ((List.prefix_append_right_inj [n]).mpr hpre))]

theorem getRelative_congr (m1 m2 : Path → List Path) {q D : Path} (hq : Clean q) (hD : Clean D) (v : Path)
    (h : ∀ x, x ≠ [] → x <+: q → m1 x = m2 x) : getRelative m1 q D v = getRelative m2 q D v := by
  obtain ⟨sr, br, hsrne, _, hsr, hbr⟩ := exists_roots hq.1 hD.1
  unfold getRelative
  rw [descList_clean hq hD, trimRight_root hq hsr, trimRight_root hD hbr,
    relLoop_congr m1 m2 _ sr br hsrne (fun pre hpre =>
      h _ (by simp [hsrne]) (hsr ▸ (List.prefix_append_right_inj sr).mpr hpre))]

theorem reinherit_congr (m1 m2 : Path → List Path) (ex : Path → Bool) (r : DRef) (dm : Mode) {q D : Path}
    (hq : Clean q) (hD : Clean D) (t : Target) (h : ∀ x, x ≠ [] → x <+: q → m1 x = m2 x) :
    reinherit m1 ex r dm q D t = reinherit m2 ex r dm q D t := by
  cases t with
  | obj v => simp only [reinherit, onInherit, getRelativeInterface, getRelative_congr m1 m2 hq hD v h]
  | null => rfl
  | plain x => rfl

section
variable {mro : Path → List Path} {ex : Path → Bool} {S D v p : Path}

theorem getRelativeInterface_of_mustNotHappen (h : getRelative mro S D v = .mustNotHappen) :
    getRelativeInterface mro ex S D v = none := by
  unfold getRelativeInterface; rw [h]

theorem getRelativeInterface_of_none (h : getRelative mro S D v = .none) :
    getRelativeInterface mro ex S D v = some (false, .obj v) := by
  unfold getRelativeInterface; rw [h]

theorem getRelativeInterface_of_some (h : getRelative mro S D v = .some p) :
    getRelativeInterface mro ex S D v =
      if p = [] then some (false, .obj v) else if ex p then some (true, .obj p) else some (true, .null) := by
  unfold getRelativeInterface; rw [h]

theorem getRelativeInterface_upToNull {rel : Bool} {t : Target}
    (h : getRelativeInterface mro ex S D v = some (rel, t)) :
    ∃ t', getRelativeInterface mro (fun _ => true) S D v = some (rel, t') ∧
      (t = t' ∨ (rel = true ∧ t = .null ∧ ∃ p, t' = .obj p)) := by
  cases hg : getRelative mro S D v with
  | mustNotHappen => rw [getRelativeInterface_of_mustNotHappen hg] at h; cases h
  | none =>
    rw [getRelativeInterface_of_none hg] at h ⊢
    exact ⟨t, h, Or.inl rfl⟩
  | some p =>
    rw [getRelativeInterface_of_some hg] at h ⊢
    by_cases hp : p = []
    · rw [if_pos hp] at h ⊢
      exact ⟨t, h, Or.inl rfl⟩
    · rw [if_neg hp] at h ⊢
      by_cases he : ex p = true
      · rw [if_pos he] at h
        exact ⟨t, h, Or.inl rfl⟩
      · rw [if_neg he] at h
        obtain ⟨rfl, rfl⟩ := Prod.mk.inj (Option.some.inj h)
        exact ⟨.obj p, rfl, Or.inr ⟨rfl, rfl, p, rfl⟩⟩

/-- the reference `r` that was there plays no role -/
theorem reinherit_obj (r : DRef) {dm : Mode} (hm : dm ≠ .absolute) :
    reinherit mro ex r dm S D (.obj v) =
      (getRelativeInterface mro ex S D v).bind fun x =>
        if dm = .relative ∧ x.1 = false then none else some ⟨dm, ⟨x.2, x.1⟩⟩ := by
  cases dm with
  | absolute => exact absurd rfl hm
  | auto =>
    simp only [reinherit, onInherit]
    cases getRelativeInterface mro ex S D v <;> rfl
  | relative =>
    simp only [reinherit, onInherit]
    cases getRelativeInterface mro ex S D v with
    | none => rfl
    | some x => obtain ⟨rel, t⟩ := x; cases rel <;> rfl

theorem newRefSub_obj {m : Mode} (hm : m ≠ .absolute) :
    newRefSub mro ex m S D (.obj v) = (getRelativeInterface mro ex S D v).map fun x => ⟨m, ⟨x.2, x.1⟩⟩ := by
  cases m with
  | absolute => exact absurd rfl hm
  | auto => simp only [newRefSub]; cases getRelativeInterface mro ex S D v <;> rfl
  | relative => simp only [newRefSub]; cases getRelativeInterface mro ex S D v <;> rfl

/-- what `_check_subs_relrefs` checks: a `relative` reference gets a relative binding -/
theorem flag_of_checkSubRelref (h : checkSubRelref mro .relative S D (.obj v) = false) {x : Bool × Target}
    (hx : getRelativeInterface mro ex S D v = some x) : x.1 = true := by
  simp only [checkSubRelref] at h
  cases hg : getRelative mro S D v with
  | mustNotHappen => rw [getRelativeInterface_of_mustNotHappen hg] at hx; cases hx
  | none => rw [hg] at h; cases h
  | some p =>
    rw [hg] at h
    have hp : p ≠ [] := by simpa using h
    rw [getRelativeInterface_of_some hg, if_neg hp] at hx
    split at hx <;> (cases hx; rfl)

end

theorem reinherit_relative_flag {mro : Path → List Path} {ex : Path → Bool} {r b : DRef} {S D v : Path}
    (h : reinherit mro ex r .relative S D (.obj v) = some b) : b.binding.isRelative = true := by
  rw [reinherit_obj r (by decide)] at h
  obtain ⟨⟨rel, t⟩, _, hb⟩ := Option.bind_eq_some_iff.mp h
  cases rel with
  | false => cases hb
  | true => cases hb; rfl

/-- the statement of `C10.new_ref_agrees_with_inherit` -/
theorem newRefSub_eq_reinherit (mro : Path → List Path) (ex : Path → Bool) (m : Mode) (r : DRef) (S D v : Path)
    (hchk : checkSubRelref mro m S D (.obj v) = false) :
    newRefSub mro ex m S D (.obj v) = reinherit mro ex r m S D (.obj v) := by
  by_cases hm : m = .absolute
  · subst hm; rfl
  · rw [newRefSub_obj hm, reinherit_obj r hm]
    cases hx : getRelativeInterface mro ex S D v with
    | none => rfl
    | some x =>
      have : ¬ (m = .relative ∧ x.1 = false) := by
        rintro ⟨rfl, hf⟩
        rw [flag_of_checkSubRelref hchk hx] at hf
        cases hf
      rw [Option.bind_some, if_neg this]
      rfl

theorem setRefGuarded_some {mro : Path → List Path} {ex : Path → Bool} {change : Bool} {m : Mode} {D : Path}
    {v : Target} {subs : List Path} {out : List (Option DRef)}
    (h : setRefGuarded mro ex change m D v subs = some out) :
    (∀ S ∈ subs, checkSubRelref mro m S D v = false) ∧ out = refLoop mro ex change m D v subs := by
  simp only [setRefGuarded, Option.ite_none_left_eq_some, Option.some.injEq] at h
  refine ⟨fun S hS => ?_, h.2.symm⟩
  cases hc : checkSubRelref mro m S D v with
  | false => rfl
  | true => exact absurd (List.any_eq_true.mpr ⟨S, hS, hc⟩) h.1

end MxModel.Relative
