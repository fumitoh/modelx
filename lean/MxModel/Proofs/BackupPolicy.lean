import MxModel.Proofs.Backup
/-!
# Backup: fault policies (C14)

What `faultKind` gives for errors that persist and for the error class a retry handler absorbs;
what that means for `save`.
-/
namespace MxModel.Backup

theorem faultKind_ge (pol : Policy) (pl : List Prim) (k : Nat) (h : pl.length ≤ k) :
    faultKind pol pl k = .raises := by
  unfold faultKind
  rw [List.getElem?_eq_none h]

theorem save_at_length (maxB : Nat) (sv : Save) (fs : FS) :
    save maxB sv (plan maxB sv fs).length fs =
      run (plan maxB sv fs) (plan maxB sv fs).length fs := by
  unfold save
  rw [faultKind_ge _ _ _ (Nat.le_refl _)]

theorem faultKind_persist (pol : Policy) (hp : pol.persist = true) (pl : List Prim) (k : Nat) :
    faultKind pol pl k = .raises ∨
      (faultKind pol pl k = .retried ∧ ∃ g, pl[k]? = some (.move g)) := by
  unfold faultKind
  split
  · rw [if_pos hp]; exact .inl rfl
  · rw [if_pos hp]; exact .inl rfl
  · rw [if_neg (fun h => by rw [hp] at h; cases h.2)]; exact .inl rfl
  · rename_i g h; exact .inr ⟨rfl, g, h⟩
  · exact .inl rfl

theorem save_retried (maxB : Nat) (sv : Save) (k : Nat) (fs : FS)
    (h : faultKind sv.pol (plan maxB sv fs) k = .retried) :
    save maxB sv k fs = save maxB sv (plan maxB sv fs).length fs := by
  rw [save_at_length]
  unfold save
  rw [h]

theorem save_raises (maxB : Nat) (sv : Save) (k : Nat) (fs : FS)
    (h : faultKind sv.pol (plan maxB sv fs) k = .raises) (hk : k < (plan maxB sv fs).length) :
    (save maxB sv k fs).2 = false := by
  unfold save
  rw [h]
  exact run_short _ _ _ hk

theorem faultKind_guarded (pol : Policy) (pl : List Prim) (k : Nat)
    (hg : pl[k]? = some (.tmp .guarded)) :
    faultKind pol pl k = if pol.exc = .perm ∧ pol.persist = false then .retried else .raises := by
  unfold faultKind
  rw [hg]

theorem faultKind_truncates_iff (pol : Policy) (pl : List Prim) (k : Nat) :
    faultKind pol pl k = .truncates ↔ (pl[k]? = some (.tmp .reopen) ∧ pol.persist = false) := by
  unfold faultKind
  split
  · rename_i h; rw [h]; cases pol.persist <;> simp
  · rename_i h; rw [h]; cases pol.persist <;> simp
  · rename_i h; rw [h]; split <;> simp
  · rename_i h; rw [h]; simp
  · rename_i h1 h2 h3 h4
    constructor
    · intro hc; cases hc
    · intro hc; exact absurd hc.1 h2

theorem faultKind_persist_ne_truncates (pol : Policy) (hp : pol.persist = true) (pl : List Prim)
    (k : Nat) : faultKind pol pl k ≠ .truncates := by
  intro h
  rw [faultKind_truncates_iff, hp] at h
  cases h.2

theorem faultKind_plain (pol : Policy) (pl : List Prim) (k : Nat)
    (hg : pl[k]? = some (.tmp .plain)) : faultKind pol pl k = .raises := by
  unfold faultKind
  rw [hg]

theorem faultKindOld_eq (pol : Policy) (pl : List Prim) (k : Nat)
    (h : pl[k]? ≠ some (.tmp .guardedClose)) : faultKindOld pol pl k = faultKind pol pl k := by
  unfold faultKindOld
  split
  · rename_i hc; exact absurd hc h
  · rfl

theorem saveOld_eq (maxB : Nat) (sv : Save) (k : Nat) (fs : FS)
    (h : (plan maxB sv fs)[k]? ≠ some (.tmp .guardedClose)) :
    saveOld maxB sv k fs = save maxB sv k fs := by
  unfold saveOld save
  rw [faultKindOld_eq _ _ _ h]

end MxModel.Backup
