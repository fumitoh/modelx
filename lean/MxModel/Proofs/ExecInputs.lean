import MxModel.Proofs.ExecCertCellsDel
/-!
# User inputs and the reference graph

`RgNoInputs s`: no element that holds a user-assigned value is a reader in the reference graph.
An edge `(r, n)` enters the reference graph when the frame of the cached element `n` is popped – `n`
was executing, so it held nothing and was no input; assignments clear the element first.  The
invariant holds in every reachable state of the thirteen-operation language (`C02.run_rgNoInputs`,
in `ExecInputsRun`).

From it: `clear_attr_referrers(r)` – part of every reference edit – never removes an input, and
neither does the namespace notification (`clear_all_values(clear_input=False)`): `kept_input_*`.
(This is the defect class of the repair 87e96f6.)
-/
namespace MxModel.Exec

def RgNoInputs (s : St) : Prop := ∀ e ∈ s.rg, e.2 ∉ s.inputs

structure RN (s : St) : Prop where
  rg : RgNoInputs s
  held : ∀ m ∈ s.inputs, (lookup s.data m).isSome = true

theorem RN.of_same {s s' : St} (h : RN s) (hrg : s'.rg = s.rg) (hin : s'.inputs = s.inputs)
    (hk : ∀ m, (lookup s.data m).isSome = true → (lookup s'.data m).isSome = true) : RN s' :=
  ⟨fun e he => by rw [hin]; exact h.rg e (hrg ▸ he), fun m hm => hk m (h.held m (hin ▸ hm))⟩

theorem RN.of_data {s s' : St} (h : RN s) (hrg : s'.rg = s.rg) (hin : s'.inputs = s.inputs)
    (hd : s'.data = s.data) : RN s' :=
  h.of_same hrg hin (fun m hm => by rw [hd]; exact hm)

variable {env : Env}

/-- a frame whose element is no input is popped: the only new readers are edges of that element -/
theorem RN.pop {s : St} (h : RN s) (n : Node) (hn : env.cached n.1 = true → n ∉ s.inputs) :
    RN (s.pop env n) ∧ (s.pop env n).inputs = s.inputs := by
  have hsc := sameCache_pop env s n
  refine ⟨⟨?_, fun m hm => by rw [hsc.data]; exact h.held m (hsc.inputs ▸ hm)⟩, hsc.inputs⟩
  intro e he
  rw [hsc.inputs]
  rcases mem_pop_rg env s n e he with h1 | ⟨hc, h2⟩
  · exact h.rg e h1
  · rw [h2]; exact hn hc

/-- every step of an evaluation keeps `RN` and the input marks; `_eval_formula` is entered for
elements that hold nothing, hence for no input -/
theorem rn_steps (env : Env) : EvalSteps env (fun n s => env.cached n.1 = true → lookup s.data n = none)
    (fun s s' => RN s → RN s' ∧ s'.inputs = s.inputs) where
  refl _ h := ⟨h, rfl⟩
  trans h1 h2 h := ⟨(h2 (h1 h).1).1, (h2 (h1 h).1).2.trans (h1 h).2⟩
  newExc _ h := ⟨h.of_data rfl rfl rfl, rfl⟩
  noteRead s a r h := by obtain ⟨_, e⟩ := noteRead_eq s a r; rw [e]; exact ⟨h.of_data rfl rfl rfl, rfl⟩
  hitEdge s n _ _ _ h :=
    have hsc := sameCache_hitEdge s n
    ⟨h.of_data (graphOnly_hitEdge s n).rg hsc.inputs hsc.data, hsc.inputs⟩
  restore _ _ _ h := ⟨h.of_data rfl rfl rfl, rfl⟩
  hit _ h := ⟨h.of_data rfl rfl rfl, rfl⟩
  store s n v h := ⟨h.of_same rfl rfl (fun m hm => by
    show (lookup (insert s.data n v) m).isSome = true
    rw [lookup_insert]; split
    · rfl
    · exact hm), rfl⟩
  enter _ _ _ hu := hu
  rollback n s s1 _ hb h :=
    have h1 := hb (h.of_data rfl rfl rfl)
    ⟨h1.1.of_data rfl rfl rfl, (sameCache_rollback s1 n).inputs.trans h1.2⟩
  pop n s s1 hu _ hb h := by
    have h1 := hb (h.of_data rfl rfl rfl)
    obtain ⟨h3, h4⟩ := h1.1.pop n (fun hc hin => by
      have := h.held n (h1.2 ▸ hin); rw [hu hc] at this; cases this)
    exact ⟨h3, h4.trans h1.2⟩
  finish _ _ _ h := ⟨h.of_data rfl rfl rfl, rfl⟩

theorem evalTop_rgNoInputs (n : Node) (s : St) (h : RgNoInputs s)
    (hheld : ∀ m ∈ s.inputs, (lookup s.data m).isSome = true) : RgNoInputs (evalTop env n s).2 :=
  (evalTop_rel (rn_steps env) n s id ⟨h, hheld⟩).1.rg

theorem RgNoInputs.of_clr {s s' : St} {R : List GNode} {D : RefId × Node → Prop} (h : RgNoInputs s)
    (hc : Clr s R D s') : RgNoInputs s' :=
  fun e he hin => h e (hc.rgSub e he) ((hc.mem_inputs _).mp hin).1

/-- what the survival of inputs needs of a state -/
structure InpInv (env : Env) (s : St) : Prop where
  noPreds : ∀ a m, (a, GNode.elem m) ∈ s.ge → m ∉ s.inputs
  rgNo : RgNoInputs s
  edgeOK : EdgeOK s
  inpCached : ∀ m ∈ s.inputs, env.cached m.1 = true

theorem InpInv.of_clr {s s' : St} {R : List GNode} {D : RefId × Node → Prop} (h : InpInv env s)
    (hc : Clr s R D s') : InpInv env s' :=
  ⟨fun a m he hin => h.noPreds a m ((hc.mem_ge _).mp he).1 ((hc.mem_inputs _).mp hin).1,
   h.rgNo.of_clr hc, hc.edgeOK h.edgeOK, fun m hm => h.inpCached m ((hc.mem_inputs _).mp hm).1⟩

theorem InpInv.of_ci {lt : Node → Node → Prop} {s : St} (h : CI env lt s) (hr : RgNoInputs s) : InpInv env s :=
  ⟨h.gi.inputsNoPreds, hr, h.gi.edgeOK, fun m hm => (h.gi.heldNodes m (h.gi.inputsHeld m hm)).2⟩

/-- an input is a descendant of nothing but itself -/
theorem not_reach_input {s : St} (hnp : ∀ a m, (a, GNode.elem m) ∈ s.ge → m ∉ s.inputs) (a : GNode)
    (m : Node) (hin : m ∈ s.inputs) (hne : a ≠ .elem m) : ¬ Reach s.ge a (.elem m) := by
  intro hr
  obtain ⟨y, hy⟩ := hr.pred (fun h' => hne h'.symm)
  exact hnp y m hy hin

/-- …so a clearing keeps it unless it is a seed itself -/
theorem InpInv.kept {s s' : St} {Seed : GNode → Prop} {D : RefId × Node → Prop} (h : InpInv env s)
    (hcl : Clears s Seed D s') {m : Node} (hin : m ∈ s.inputs) (hs : ¬ Seed (.elem m)) : Kept s s' (.elem m) :=
  hcl.kept fun a ha => not_reach_input h.noPreds a m hin (fun e => hs (e ▸ ha))

/-- no input is a seed of the namespace notification: that of a cached cells drops computed values only,
and inputs belong to cached cells -/
theorem InpInv.not_nsSeed {s : St} (h : InpInv env s) {m : Node} (hin : m ∈ s.inputs) (c : CellId) :
    ¬ NsSeed env s c (.elem m) := by
  rintro (⟨_, n, hn, _, _, hni⟩ | ⟨hc, _, hcell⟩)
  · cases hn; exact hni hin
  · have := h.inpCached m hin
    simp only [GNode.cell] at hcell
    rw [hcell, hc] at this; cases this

theorem kept_input_notifyAll {s : St} (h : InpInv env s) (L : List CellId) (m : Node) (hin : m ∈ s.inputs) :
    Kept s (s.notifyAll env L) (.elem m) :=
  h.kept (clears_notifyAll env s (fun _ => False) h.edgeOK L) hin (fun ⟨c, _, ha⟩ => h.not_nsSeed hin c ha)

/-- no input is a recorded reader (`RgNoInputs`) -/
theorem kept_input_clearAttrReferrers {s : St} (h : InpInv env s) (r : RefId) (m : Node) (hin : m ∈ s.inputs) :
    Kept s (s.clearAttrReferrers r) (.elem m) :=
  h.kept (clears_clearAttrReferrers s h.edgeOK r) hin (fun ⟨_, hn, e⟩ => h.rgNo _ hn (GNode.elem.inj e ▸ hin))

theorem kept_input_delRef {s : St} (h : InpInv env s) (r : RefId) (m : Node) (hin : m ∈ s.inputs) :
    Kept s (s.delRef env r) (.elem m) := by
  unfold St.delRef
  have k1 : Kept s (s.notifyObservers env r) (.elem m) := kept_input_notifyAll h (env.observers r) m hin
  obtain ⟨R, hc, _⟩ := (clears_notifyObservers env s (fun _ => False) h.edgeOK r).clr
  exact k1.trans (kept_input_clearAttrReferrers (h.of_clr hc) r m (((k1.data m rfl).2).mpr hin))

theorem kept_input_setRef {s : St} (h : InpInv env s) (r : RefId) (m : Node) (hin : m ∈ s.inputs) :
    Kept s (s.setRef env r) (.elem m) := by
  unfold St.setRef
  split
  · unfold St.changeRef St.newRef
    have k1 := kept_input_delRef h r m hin
    obtain ⟨R1, c1, _⟩ := clr_delRef env s h.edgeOK r
    have h1 := h.of_clr c1
    have i1 := ((k1.data m rfl).2).mpr hin
    have k2 : Kept (s.delRef env r) ((s.delRef env r).notifyObservers env r) (.elem m) :=
      kept_input_notifyAll h1 (env.observers r) m i1
    obtain ⟨R2, c2, _⟩ := (clears_notifyObservers env (s.delRef env r) (fun _ => False) h1.edgeOK r).clr
    have h2 := h1.of_clr c2
    have i2 := ((k2.data m rfl).2).mpr i1
    exact (k1.trans k2).trans (kept_input_clearAttrReferrers h2 r m i2)
  · exact kept_input_notifyAll h (env.observers r) m hin

theorem kept_input_clearObj {s : St} (h : InpInv env s) (c : CellId) (m : Node) (hin : m ∈ s.inputs)
    (hne : m.1 ≠ c) : Kept s (s.clearObj c) (.elem m) :=
  h.kept (clears_clearObj s (fun _ => False) h.edgeOK c) hin hne

theorem kept_input_delCell {s : St} (h : InpInv env s) (c : CellId) (m : Node) (hin : m ∈ s.inputs)
    (hne : m.1 ≠ c) : Kept s (s.delCell env c) (.elem m) := by
  refine h.kept (clears_delCell s h.edgeOK c) hin ?_
  rintro (⟨_, hc⟩ | ⟨c', _, ha⟩)
  · exact hne hc
  · exact h.not_nsSeed hin c' ha

theorem kept_input_newCell {s : St} (h : InpInv env s) (c : CellId) (m : Node) (hin : m ∈ s.inputs) :
    Kept s (s.newCell env c) (.elem m) :=
  kept_input_notifyAll h (env.siblings c) m hin

end MxModel.Exec
