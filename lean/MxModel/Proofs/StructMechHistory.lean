import MxModel.Proofs.StructMechRename
/-!
# The definitions of a reachable state, read off the history

`apply_spec` says what one accepted operation does to the definitions.  Folded over a history: the
definitions of the state reached are exactly those the ACCEPTED operations of the history made and no
later accepted operation removed (`defd_run`) - computed by `specDefs`, which looks at the mechanism's
state only to decide acceptance (`St.accepts`) and the name an unnamed cells gets (`St.cellsName`), never
at its member tables - except for `renameCells`, whose targets (`St.renameTargets`: the cells of the space,
the copies derived from it, the overriding cells of sub spaces) and whose collisions with an existing cells
of the new name are read off the state (`renameCells_full`).
-/
namespace MxModel.SM
open MxModel.C3

abbrev Defs := Attr → Path → String → Option Nat

def updDefs (kw : List String) (st : St) (d : Defs) : Op → Defs
  | .newSpace parent name _ refs => fun a q n =>
      if q = parent ++ [name] ∧ a = .refs then refsDef none refs n else d a q n
  | .delSpace p => fun a q n => if isPrefix p q = true then none else d a q n
  | .newCells p name fname v => fun a q n =>
      if q = p ∧ a = .cells ∧ n = st.cellsName kw p name fname then some v else d a q n
  | .setFormula p name v => fun a q n => if q = p ∧ a = .cells ∧ n = name then some v else d a q n
  | .delCells p name => fun a q n => if q = p ∧ a = .cells ∧ n = name then none else d a q n
  | .setRef p name v => fun a q n => if q = p ∧ a = .refs ∧ n = name then some v else d a q n
  | .delRef p name => fun a q n => if q = p ∧ a = .refs ∧ n = name then none else d a q n
  | .renameCells p old new => fun a q n =>
      if a = .cells ∧ q ∈ st.renameTargets p old then
        (if n = old then none
         else if n = new then (if (st.mem .cells q new).isSome then d .cells q new else d .cells q old)
         else d .cells q n)
      else d a q n
  | _ => d

def specDefs (kw : List String) : St → Defs → List Op → Defs
  | _, d, [] => d
  | st, d, op :: ops =>
    if st.accepts kw op then specDefs kw (st.step kw op).1 (updDefs kw st d op) ops
    else specDefs kw st d ops

theorem defd_step (kw : List String) (st : St) (hi : Inv st) (op : Op) :
    (st.step kw op).1.defd = if st.accepts kw op then updDefs kw st st.defd op else st.defd := by
  rw [← apply_isSome]
  unfold St.step
  cases hop : st.apply kw op with
  | none => rfl
  | some st' =>
    funext a q n
    have E := apply_spec kw st st' hi.wf.keys op hop
    cases op with
    | newSpace parent name bases refs => exact E.2.2.2.2 a q n
    | delSpace p => exact E.defs a q n
    | newCells p name fname v => exact E.2 a q n
    | setFormula p name v => exact E.2 a q n
    | delCells p name => exact E.2 a q n
    | renameCells p old new => exact (renameCells_full kw st st' hi p old new hop).2 a q n
    | addBases p bs => exact E.defs a q n
    | removeBases p bs => exact E.defs a q n
    | setRef p name v => exact E.2 a q n
    | delRef p name => exact E.2 a q n
    | setGlobal name => show st'.defd a q n = st.defd a q n; unfold St.defd St.mem St.find; rw [E.1]
    | delGlobal name => show st'.defd a q n = st.defd a q n; unfold St.defd St.mem St.find; rw [E.1]

theorem defd_run_from (kw : List String) : ∀ (ops : List Op) (st : St), Inv st →
    (St.run kw st ops).defd = specDefs kw st st.defd ops := by
  intro ops
  induction ops with
  | nil => intro st _; rfl
  | cons op ops ih =>
    intro st hi
    rw [St.run_cons, ih _ (inv_step kw st op hi), defd_step kw st hi op, specDefs]
    cases hacc : st.accepts kw op with
    | true => rfl
    | false =>
      have hsame : (st.step kw op).1 = st := by
        unfold St.step
        cases hop : st.apply kw op with
        | none => rfl
        | some _ => rw [← apply_isSome, hop] at hacc; cases hacc
      rw [hsame]
      rfl

theorem defd_run (kw : List String) (ops : List Op) (a : Attr) (q : Path) (n : String) :
    (St.run kw {} ops).defd a q n = specDefs kw {} (fun _ _ _ => none) ops a q n := by
  rw [defd_run_from kw ops {} inv_empty]
  rfl

end MxModel.SM
