import MxModel.Proofs.ExecCert
import MxModel.Exec.Expr
import MxModel.Proofs.ExprRanked
/-!
# A syntactic class of programs meeting the hypotheses of the certificate theorems

Formulas of the concrete grammar in which every handler only raises (`noCatch`: the `try`-free
bodies, and what `deadExpr` makes of them) are `NoCatch`; formulas passed through
`scopeExpr` (which is what the driver does with the space of each cells and reference) read by
name only what is visible – so environments built the way `Driver.Exec.World.env` builds them
from `try`-free bodies satisfy `NoCatchEnv` and `Scoped`.
-/
namespace MxModel.Exec

mutual
def noTry : Expr → Bool
  | .lit _ => true
  | .none => true
  | .param _ => true
  | .add a b => noTry a && noTry b
  | .sub a b => noTry a && noTry b
  | .mul a b => noTry a && noTry b
  | .lt a b => noTry a && noTry b
  | .ite c a b => noTry c && noTry a && noTry b
  | .call _ args => noTryList args
  | .readN _ => true
  | .readA _ => true
  | .raise _ => true
  | .try_ _ _ _ => false
  | .tryRe _ _ _ => false
  | .tryFin _ _ => false
  | .callK _ args _ _ _ => noTryList args
def noTryList : List Expr → Bool
  | [] => true
  | e :: es => noTry e && noTryList es
end

/-! a handler that only raises: `try: … except X: raise Y` turns no failure into a value -/
def isRaise : Expr → Bool
  | .raise _ => true
  | _ => false

theorem isRaise_iff (b : Expr) : isRaise b = true ↔ ∃ k, b = .raise k := by
  constructor
  · intro h
    cases b with
    | raise k => exact ⟨k, rfl⟩
    | _ => cases h
  · rintro ⟨k, rfl⟩; rfl

/-! no handler returns a value (`try` only with a handler that raises): the class `NoCatch` as
syntax; contains the `try`-free bodies and what `deadExpr` makes of them -/
mutual
def noCatch : Expr → Bool
  | .lit _ => true
  | .none => true
  | .param _ => true
  | .add a b => noCatch a && noCatch b
  | .sub a b => noCatch a && noCatch b
  | .mul a b => noCatch a && noCatch b
  | .lt a b => noCatch a && noCatch b
  | .ite c a b => noCatch c && noCatch a && noCatch b
  | .call _ args => noCatchList args
  | .readN _ => true
  | .readA _ => true
  | .raise _ => true
  | .try_ a _ b => noCatch a && isRaise b
  | .tryRe _ _ _ => false
  | .tryFin _ _ => false
  | .callK _ args _ _ _ => noCatchList args
def noCatchList : List Expr → Bool
  | [] => true
  | e :: es => noCatch e && noCatchList es
end

theorem noCatch_of_noTry_both :
    (∀ e : Expr, noTry e = true → noCatch e = true) ∧ ∀ es : List Expr, noTryList es = true → noCatchList es = true := by
  apply Expr.induct
  case lit | param | readN | readA | raise => exact fun _ _ => rfl
  case none | nil => exact fun _ => rfl
  case add | sub | mul | lt | cons => exact fun _ _ => and_true_imp
  case ite => exact fun c a b ihc iha => and_true_imp (and_true_imp ihc iha)
  case call => exact fun c args ih => ih
  case callK => exact fun c args _ _ _ ih => ih
  case try_ | tryRe => exact fun a c b _ _ h => absurd h Bool.false_ne_true
  case tryFin => exact fun a b _ _ h => absurd h Bool.false_ne_true

theorem noCatch_of_noTry : ∀ e : Expr, noTry e = true → noCatch e = true :=
  noCatch_of_noTry_both.1

theorem noCatchList_of_noTry : ∀ es : List Expr, noTryList es = true → noCatchList es = true :=
  noCatch_of_noTry_both.2

mutual
def namesIn (vis : RefId → Bool) : Expr → Bool
  | .lit _ => true
  | .none => true
  | .param _ => true
  | .add a b => namesIn vis a && namesIn vis b
  | .sub a b => namesIn vis a && namesIn vis b
  | .mul a b => namesIn vis a && namesIn vis b
  | .lt a b => namesIn vis a && namesIn vis b
  | .ite c a b => namesIn vis c && namesIn vis a && namesIn vis b
  | .call _ args => namesInList vis args
  | .readN r => vis r
  | .readA _ => true
  | .raise _ => true
  | .try_ a _ b => namesIn vis a && namesIn vis b
  | .tryRe a _ b => namesIn vis a && namesIn vis b
  | .tryFin a b => namesIn vis a && namesIn vis b
  | .callK _ args _ _ _ => namesInList vis args
def namesInList (vis : RefId → Bool) : List Expr → Bool
  | [] => true
  | e :: es => namesIn vis e && namesInList vis es
end

/-- both hypotheses at once, for a continuation pair -/
def PW (R : RefId → Prop) (p : Prog) : Prop := NoCatch p ∧ NameReadsIn R p
def HW (R : RefId → Prop) (h : Bool → Err → Prog) : Prop := ∀ x e, PW R (h x e) ∧ Fails (h x e)

theorem read_pw {R : RefId → Prop} (byAttr : Bool) (r : RefId) (x : Nat) (hr : byAttr = false → R r) :
    StaysIn (PW R) (HW R)
      (fun k h => .read byAttr r (fun o => match o with | some v => k v | none => h true (.user x))) := by
  intro k h hk hh
  have hc : ∀ o : Option Val, PW R (match o with | some v => k v | none => h true (.user x)) := fun o => by
    cases o with
    | some v => exact hk v
    | none => exact (hh _ _).1
  exact ⟨⟨fun _ => (hh _ _).2, fun o => (hc o).1⟩, hr, fun o => (hc o).2⟩

/-- a call whose failure goes to the handler: the handler fails, so the callee's failure is not caught -/
theorem call_pw (R : RefId → Prop) (n : Node) :
    StaysIn (PW R) (HW R) (fun k h => .call n (retK k h)) := by
  intro k h hk hh
  have hc : ∀ r : Res, PW R (retK k h r) := fun r => by
    cases r with
    | ok v => exact hk v
    | err e => exact (hh _ _).1
  exact ⟨⟨fun e => (hh false e).2, fun r => (hc r).1⟩, fun r => (hc r).2⟩

theorem compile_pw (R : RefId → Prop) (vis : RefId → Bool) (hvis : ∀ r, vis r = true → R r)
    (ar : CellId → Option Nat) (params : List Val) :
    (∀ e : Expr, noCatch e = true → namesIn vis e = true → StaysIn (PW R) (HW R) (compile ar params e)) ∧
    ∀ es : List Expr, noCatchList es = true → namesInList vis es = true →
      StaysIn (PW R) (HW R) (compileArgs ar params es) := by
  have hnew : ∀ h, HW R h → ∀ e, PW R (h true e) := fun h hh e => (hh true e).1
  apply Expr.induct
  case lit => exact fun i _ _ k h hk _ => hk _
  case none | nil => exact fun _ _ k h hk _ => hk _
  case param => exact fun i _ _ => staysIn_param hnew i
  case add | sub | mul | lt =>
    exact fun a b iha ihb ht hn =>
      staysIn_binop hnew _ (iha (Bool.and_eq_true_iff.mp ht).1 (Bool.and_eq_true_iff.mp hn).1)
        (ihb (Bool.and_eq_true_iff.mp ht).2 (Bool.and_eq_true_iff.mp hn).2)
  case ite =>
    intro c a b ihc iha ihb ht hn
    simp only [noCatch, namesIn, Bool.and_eq_true] at ht hn
    exact staysIn_ite (ihc ht.1.1 hn.1.1) (iha ht.1.2 hn.1.2) (ihb ht.2 hn.2)
  case call =>
    intro c args ih ht hn k h
    rw [compile_call_eq]
    exact staysIn_callWith hnew _ (fun key => call_pw R (c, key)) (ih ht hn) k h
  case callK =>
    exact fun c args npos kws dflt ih ht hn => staysIn_callWith hnew _ (fun key => call_pw R (c, key)) (ih ht hn)
  case readN => exact fun r _ hn => read_pw false r kName (fun _ => hvis r hn)
  case readA => exact fun r _ _ => read_pw true r kAttr (fun hf => nomatch hf)
  case raise => exact fun e _ _ k h _ hh => (hh _ _).1
  case try_ =>
    -- the handler only raises: it turns the errors it catches into another error, and `HW` still holds
    intro a c b iha _ ht hn k h hk hh
    obtain ⟨hta, htb⟩ := Bool.and_eq_true_iff.mp ht
    obtain ⟨k', rfl⟩ := (isRaise_iff b).mp htb
    exact iha hta (Bool.and_eq_true_iff.mp hn).1 k _ hk
      (fun x e => prop_ite (fun p => PW R p ∧ Fails p) (hh true (.user k')) (hh x e))
  case tryRe => exact fun a c b _ _ ht => absurd ht Bool.false_ne_true
  case tryFin => exact fun a b _ _ ht => absurd ht Bool.false_ne_true
  case cons =>
    exact fun e es ihe ihes ht hn =>
      staysIn_cons (ihe (Bool.and_eq_true_iff.mp ht).1 (Bool.and_eq_true_iff.mp hn).1)
        (ihes (Bool.and_eq_true_iff.mp ht).2 (Bool.and_eq_true_iff.mp hn).2)

theorem compileArgs_pw (R : RefId → Prop) (vis : RefId → Bool) (hvis : ∀ r, vis r = true → R r)
    (ar : CellId → Option Nat) (params : List Val) :
    ∀ (es : List Expr) (k : List Val → Prog) (h : Bool → Err → Prog), noCatchList es = true →
      namesInList vis es = true → (∀ vs, PW R (k vs)) → HW R h → PW R (compileArgs ar params es k h) :=
  fun es k h ht hn => (compile_pw R vis hvis ar params).2 es ht hn k h

theorem isRaise_scope (vis : RefId → Bool) (b : Expr) (h : isRaise b = true) : isRaise (scopeExpr vis b) = true := by
  obtain ⟨k, rfl⟩ := (isRaise_iff b).mp h; rfl

/-- the class facts about `scopeExpr` at a node whose classes are the conjunctions of those of its parts -/
theorem scope_and {x₁ x₂ y₁ y₂ y₁' y₂' z₁ z₂ z₁' z₂' w₁ w₂ w₁' w₂' : Bool}
    (h₁ : x₁ = true ∧ y₁ = y₁' ∧ z₁ = z₁' ∧ (w₁ = true → w₁' = true))
    (h₂ : x₂ = true ∧ y₂ = y₂' ∧ z₂ = z₂' ∧ (w₂ = true → w₂' = true)) :
    (x₁ && x₂) = true ∧ (y₁ && y₂) = (y₁' && y₂') ∧ (z₁ && z₂) = (z₁' && z₂') ∧
      ((w₁ && w₂) = true → (w₁' && w₂') = true) := by
  rw [h₁.1, h₁.2.1, h₁.2.2.1, h₂.1, h₂.2.1, h₂.2.2.1]
  exact ⟨rfl, rfl, rfl, and_true_imp h₁.2.2.2 h₂.2.2.2⟩

theorem scope_all (vis : RefId → Bool) (i : CellId) :
    (∀ (e : Expr), namesIn vis (scopeExpr vis e) = true ∧ noTry (scopeExpr vis e) = noTry e ∧
      callsBelowId i (scopeExpr vis e) = callsBelowId i e ∧ (noCatch e = true → noCatch (scopeExpr vis e) = true)) ∧
    ∀ (es : List Expr), namesInList vis (scopeExprs vis es) = true ∧ noTryList (scopeExprs vis es) = noTryList es ∧
      callsBelowIdList i (scopeExprs vis es) = callsBelowIdList i es ∧
      (noCatchList es = true → noCatchList (scopeExprs vis es) = true) := by
  apply Expr.induct
  case lit | param | readA | raise => exact fun _ => ⟨rfl, rfl, rfl, id⟩
  case none | nil => exact ⟨rfl, rfl, rfl, id⟩
  case add | sub | mul | lt | cons => exact fun _ _ => scope_and
  case ite => exact fun c a b hc ha => scope_and (scope_and hc ha)
  case call => exact fun c args ih => ⟨ih.1, ih.2.1, congrArg (decide (c < i) && ·) ih.2.2.1, ih.2.2.2⟩
  case callK => exact fun c args _ _ _ ih => ⟨ih.1, ih.2.1, congrArg (decide (c < i) && ·) ih.2.2.1, ih.2.2.2⟩
  case readN =>
    -- a name that is not visible is replaced by `raise`
    intro r
    simp only [scopeExpr]
    split
    · rename_i h; exact ⟨h, rfl, rfl, id⟩
    · exact ⟨rfl, rfl, rfl, id⟩
  case try_ =>
    exact fun a c b ha hb =>
      ⟨(scope_and ha hb).1, rfl, (scope_and ha hb).2.2.1, and_true_imp ha.2.2.2 (isRaise_scope vis b)⟩
  case tryRe => exact fun a c b ha hb => ⟨(scope_and ha hb).1, rfl, (scope_and ha hb).2.2.1, id⟩
  case tryFin => exact fun a b ha hb => ⟨(scope_and ha hb).1, rfl, (scope_and ha hb).2.2.1, id⟩

theorem scope_facts (vis : RefId → Bool) (i : CellId) : ∀ (e : Expr),
    namesIn vis (scopeExpr vis e) = true ∧ noTry (scopeExpr vis e) = noTry e ∧
    callsBelowId i (scopeExpr vis e) = callsBelowId i e :=
  fun e => ⟨((scope_all vis i).1 e).1, ((scope_all vis i).1 e).2.1, ((scope_all vis i).1 e).2.2.1⟩

theorem scopes_facts (vis : RefId → Bool) (i : CellId) : ∀ (es : List Expr),
    namesInList vis (scopeExprs vis es) = true ∧ noTryList (scopeExprs vis es) = noTryList es ∧
    callsBelowIdList i (scopeExprs vis es) = callsBelowIdList i es :=
  fun es => ⟨((scope_all vis i).2 es).1, ((scope_all vis i).2 es).2.1, ((scope_all vis i).2 es).2.2.1⟩

theorem scope_noCatch (vis : RefId → Bool) : ∀ (e : Expr), noCatch e = true → noCatch (scopeExpr vis e) = true :=
  fun e => ((scope_all vis 0).1 e).2.2.2

theorem scopes_noCatch (vis : RefId → Bool) : ∀ (es : List Expr),
    noCatchList es = true → noCatchList (scopeExprs vis es) = true :=
  fun es => ((scope_all vis 0).2 es).2.2.2

/-! `deadExpr` keeps the classes: it introduces no read, no handler that returns, no call of a
higher cells -/
theorem isRaise_dead (dead : CellId → Option Bool) (b : Expr) (h : isRaise b = true) :
    isRaise (deadExpr dead b) = true := by
  obtain ⟨k, rfl⟩ := (isRaise_iff b).mp h; rfl

/-- what `deadExpr` makes of a call of `c` (`e'` is the call with its arguments rewritten): each class of the
call, which rests on that of its arguments (`x`, `y`, `z`), is kept -/
theorem dead_call (dead : CellId → Option Bool) (vis : RefId → Bool) (i c : CellId) {x y z : Bool} {e' : Expr}
    (h' : (x = true → namesIn vis e' = true) ∧ (y = true → noCatch e' = true) ∧
      ((decide (c < i) && z) = true → callsBelowId i e' = true)) :
    (x = true → namesIn vis (match dead c with
      | none => e' | some false => .call c [] | some true => .try_ (.call c []) (.user kName) (.raise kAttr)) = true) ∧
    (y = true → noCatch (match dead c with
      | none => e' | some false => .call c [] | some true => .try_ (.call c []) (.user kName) (.raise kAttr)) = true) ∧
    ((decide (c < i) && z) = true → callsBelowId i (match dead c with
      | none => e' | some false => .call c [] | some true => .try_ (.call c []) (.user kName) (.raise kAttr)) = true) := by
  split
  · exact h'
  · exact ⟨fun _ => rfl, fun _ => rfl, and_true_imp id (fun _ => rfl)⟩
  · exact ⟨fun _ => rfl, fun _ => rfl, fun h => and_true_imp (and_true_imp id (fun _ => rfl)) id (by rw [h]; rfl)⟩

theorem and_imps {x₁ x₂ x₁' x₂' y₁ y₂ y₁' y₂' z₁ z₂ z₁' z₂' : Bool}
    (h₁ : (x₁ = true → x₁' = true) ∧ (y₁ = true → y₁' = true) ∧ (z₁ = true → z₁' = true))
    (h₂ : (x₂ = true → x₂' = true) ∧ (y₂ = true → y₂' = true) ∧ (z₂ = true → z₂' = true)) :
    ((x₁ && x₂) = true → (x₁' && x₂') = true) ∧ ((y₁ && y₂) = true → (y₁' && y₂') = true) ∧
      ((z₁ && z₂) = true → (z₁' && z₂') = true) :=
  ⟨and_true_imp h₁.1 h₂.1, and_true_imp h₁.2.1 h₂.2.1, and_true_imp h₁.2.2 h₂.2.2⟩

theorem dead_facts_both (dead : CellId → Option Bool) (vis : RefId → Bool) (i : CellId) :
    (∀ (e : Expr), (namesIn vis e = true → namesIn vis (deadExpr dead e) = true) ∧
      (noCatch e = true → noCatch (deadExpr dead e) = true) ∧
      (callsBelowId i e = true → callsBelowId i (deadExpr dead e) = true)) ∧
    ∀ (es : List Expr), (namesInList vis es = true → namesInList vis (deadExprs dead es) = true) ∧
      (noCatchList es = true → noCatchList (deadExprs dead es) = true) ∧
      (callsBelowIdList i es = true → callsBelowIdList i (deadExprs dead es) = true) := by
  apply Expr.induct
  case lit | param | readN | readA | raise => exact fun _ => ⟨id, id, id⟩
  case none | nil => exact ⟨id, id, id⟩
  case add | sub | mul | lt | cons => exact fun _ _ => and_imps
  case ite => exact fun c a b hc ha => and_imps (and_imps hc ha)
  case call => exact fun c args ih => dead_call dead vis i c ⟨ih.1, ih.2.1, and_true_imp id ih.2.2⟩
  case callK => exact fun c args _ _ _ ih => dead_call dead vis i c ⟨ih.1, ih.2.1, and_true_imp id ih.2.2⟩
  case try_ =>
    exact fun a c b ha hb => ⟨and_true_imp ha.1 hb.1, and_true_imp ha.2.1 (isRaise_dead dead b), and_true_imp ha.2.2 hb.2.2⟩
  case tryRe => exact fun a c b ha hb => ⟨and_true_imp ha.1 hb.1, id, and_true_imp ha.2.2 hb.2.2⟩
  case tryFin => exact fun a b ha hb => ⟨and_true_imp ha.1 hb.1, id, and_true_imp ha.2.2 hb.2.2⟩

theorem dead_facts (dead : CellId → Option Bool) (vis : RefId → Bool) (i : CellId) : ∀ (e : Expr),
    (namesIn vis e = true → namesIn vis (deadExpr dead e) = true) ∧
    (noCatch e = true → noCatch (deadExpr dead e) = true) ∧
    (callsBelowId i e = true → callsBelowId i (deadExpr dead e) = true) :=
  (dead_facts_both dead vis i).1

theorem deads_facts (dead : CellId → Option Bool) (vis : RefId → Bool) (i : CellId) : ∀ (es : List Expr),
    (namesInList vis es = true → namesInList vis (deadExprs dead es) = true) ∧
    (noCatchList es = true → noCatchList (deadExprs dead es) = true) ∧
    (callsBelowIdList i es = true → callsBelowIdList i (deadExprs dead es) = true) :=
  (dead_facts_both dead vis i).2

theorem formulaOf_pw (R : RefId → Prop) (vis : RefId → Bool) (hvis : ∀ r, vis r = true → R r)
    (ar : CellId → Option Nat) (e : Expr) (key : Key) (ht : noCatch e = true) (hn : namesIn vis e = true) :
    NoCatch (formulaOf ar e key) ∧ NameReadsIn R (formulaOf ar e key) := by
  unfold formulaOf
  refine (compile_pw R vis hvis ar key).1 e ht hn _ _ (fun v => ⟨trivial, trivial⟩) ?_
  intro x e
  cases x
  · exact ⟨⟨trivial, trivial⟩, trivial⟩
  · exact ⟨⟨trivial, trivial⟩, trivial⟩

end MxModel.Exec
