import MxModel.Proofs.ItemSpaceFresh
/-!
# Values inside the world of dynamic spaces (C07): isolation and freshness of the store

`VWorld` = the world of `Kernels/ItemSpace.lean` plus one store of values keyed by the OWNER of the cells
(a static space, or the implementation of a dynamic space).  In every reachable `VWorld`:

* distinct addresses have distinct owners (`ownerAt_inj`), so an assignment made through one address is
  invisible through every other address - another instance, a replicated child, the static space;
* every value owned by a dynamic space is owned by an implementation that has been created
  (`VInv.storeLt`), so an implementation created later starts with no value, and none of the values that
  exist when an operation touches a static space is ever held by a dynamic space built from it afterwards.
-/
namespace MxModel.ItemSpace

theorem VStore.get_cons (s : VStore) (o o' : Owner) (c c' : String) (k k' : Key) (v : Val) :
    VStore.get (((o, c, k), v) :: s) o' c' k' = if o = o' ∧ c = c' ∧ k = k' then some v else VStore.get s o' c' k' := rfl

theorem VStore.get_mem {s : VStore} {o : Owner} {c : String} {k : Key} {v : Val} (h : VStore.get s o c k = some v) :
    ((o, c, k), v) ∈ s := by
  induction s with
  | nil => cases h
  | cons x rest ih =>
    obtain ⟨⟨o', c', k'⟩, v'⟩ := x
    rw [VStore.get_cons] at h
    split at h
    · rename_i hc
      obtain ⟨rfl, rfl, rfl⟩ := hc
      cases h
      exact List.mem_cons_self
    · exact List.mem_cons_of_mem _ (ih h)

structure VInv (vw : VWorld) : Prop where
  inv : Inv vw.w.tbl
  storeLt : ∀ x ∈ vw.store, ∀ i, x.1.1 = Owner.dyn i → i < vw.w.tbl.nextImpl

theorem vinv_empty : VInv {} := ⟨inv_empty, fun x hx => by cases hx⟩

theorem findId_id {defs : Defs} {i : SId} {d : SDef} (h : findId defs i = some d) : d.id = i := by
  unfold findId at h
  have := List.find?_some h
  simpa using this

theorem ownerAt_static {w : World} {a : Addr} {s : SId} (h : ownerAt w a = some (.static s)) :
    a = ⟨s, []⟩ := by
  unfold ownerAt at h
  split at h
  · rename_i hd
    cases hf : findId w.defs a.root with
    | none => rw [hf] at h; cases h
    | some d =>
      rw [hf] at h
      simp only [Option.map_some, Option.some.injEq, Owner.static.injEq] at h
      have := findId_id hf
      cases a
      simp_all
  · cases hf : findLive w.tbl a with
    | none => rw [hf] at h; cases h
    | some e => rw [hf] at h; cases h

theorem ownerAt_dyn {w : World} {a : Addr} {i : Nat} (h : ownerAt w a = some (.dyn i)) :
    ∃ e ∈ w.tbl.live, e.addr = a ∧ e.impl = i := by
  unfold ownerAt at h
  split at h
  · cases hf : findId w.defs a.root with
    | none => rw [hf] at h; cases h
    | some d => rw [hf] at h; cases h
  · cases hf : findLive w.tbl a with
    | none => rw [hf] at h; cases h
    | some e =>
      rw [hf] at h
      simp only [Option.map_some, Option.some.injEq, Owner.dyn.injEq] at h
      have := findLive_some hf
      exact ⟨e, this.1, this.2, h⟩

theorem ownerAt_inj {w : World} (hinv : Inv w.tbl) {a a' : Addr} {o : Owner}
    (h : ownerAt w a = some o) (h' : ownerAt w a' = some o) : a = a' := by
  cases o with
  | static s => rw [ownerAt_static h, ownerAt_static h']
  | dyn i =>
    obtain ⟨e, he, hea, hei⟩ := ownerAt_dyn h
    obtain ⟨e', he', hea', hei'⟩ := ownerAt_dyn h'
    have : e = e' := inv_impl_inj hinv he he' (by rw [hei, hei'])
    rw [← hea, ← hea', this]

/-- the address an assignment is made through -/
def VWorld.target (vw : VWorld) (root : Path) (chain : List ChainSeg) : Option Addr :=
  match startAddr vw.w root with
  | none => none
  | some a =>
    match walk vw.w.defs vw.w.tbl a chain with
    | (_, .at p) => some p
    | (_, _) => none

theorem vstep_store (vw : VWorld) (op : VOp) :
    (vw.step op).store = vw.store ∨
    ∃ root chain c k v p o, op = .assign root chain c k v ∧ vw.target root chain = some p ∧
      ownerAt (vw.step op).w p = some o ∧ (vw.step op).store = ((o, c, k), v) :: vw.store := by
  cases op with
  | op o => exact Or.inl rfl
  | assign root chain c k v =>
    cases hs : startAddr vw.w root with
    | none => left; simp only [VWorld.step, hs]
    | some a =>
      cases hw : walk vw.w.defs vw.w.tbl a chain with
      | mk t res =>
        cases res with
        | «at» p =>
          cases ho : ownerAt { vw.w with tbl := t } p with
          | none => left; simp only [VWorld.step, hs, hw, ho]
          | some o =>
            right
            refine ⟨root, chain, c, k, v, p, o, rfl, ?_, ?_, ?_⟩
            · simp only [VWorld.target, hs, hw]
            · simp only [VWorld.step, hs, hw, ho]
            · simp only [VWorld.step, hs, hw, ho]
        | typeError => left; simp only [VWorld.step, hs, hw]
        | keyError => left; simp only [VWorld.step, hs, hw]
        | formulaError => left; simp only [VWorld.step, hs, hw]
        | attributeError => left; simp only [VWorld.step, hs, hw]

theorem vinv_step (vw : VWorld) (op : VOp) (h : VInv vw) : VInv (vw.step op) := by
  have hev := evolves_steps.vstep vw op
  have hinv' := hev.inv h.inv
  refine ⟨hinv', ?_⟩
  rcases vstep_store vw op with hs | ⟨root, chain, c, k, v, p, o, _, _, ho, hs⟩
  · rw [hs]
    intro x hx i hi
    exact Nat.lt_of_lt_of_le (h.storeLt x hx i hi) hev.next
  · rw [hs]
    intro x hx i hi
    rcases List.mem_cons.mp hx with rfl | hx
    · simp only at hi
      subst hi
      obtain ⟨e, he, _, hei⟩ := ownerAt_dyn ho
      rw [← hei]
      exact hinv'.implLt e he
    · exact Nat.lt_of_lt_of_le (h.storeLt x hx i hi) hev.next

theorem vinv_run : ∀ (ops : List VOp) (vw : VWorld), VInv vw → VInv (vw.run ops)
  | [], _, h => h
  | op :: rest, vw, h => by
    simp only [VWorld.run, List.foldl_cons]
    exact vinv_run rest _ (vinv_step vw op h)

theorem store_none_of_new {vw : VWorld} (h : VInv vw) (i : Nat) (hi : vw.w.tbl.nextImpl ≤ i) (c : String) (k : Key) :
    vw.store.get (.dyn i) c k = none := by
  cases hg : vw.store.get (.dyn i) c k with
  | none => rfl
  | some v =>
    have := h.storeLt _ (VStore.get_mem hg) i rfl
    omega

theorem assign_isolated {vw : VWorld} (hv : VInv vw) {root : Path} {chain : List ChainSeg} {p : Addr}
    (hp : vw.target root chain = some p) (c : String) (k : Key) (v : Val) {a' : Addr} (hne : a' ≠ p)
    (c' : String) (k' : Key) :
    (vw.step (.assign root chain c k v)).valueAt a' c' k' =
      match ownerAt (vw.step (.assign root chain c k v)).w a' with
      | some o' => vw.store.get o' c' k'
      | none => none := by
  have hinv' := (vinv_step vw (.assign root chain c k v) hv).inv
  unfold VWorld.valueAt
  cases ho' : ownerAt (vw.step (.assign root chain c k v)).w a' with
  | none => rfl
  | some o' =>
    dsimp only
    rcases vstep_store vw (.assign root chain c k v) with hs | ⟨root', chain', c0, k0, v0, p0, o, heq, hp0, ho, hs⟩
    · rw [hs]
    · cases heq
      rw [hp] at hp0; cases hp0
      rw [hs, VStore.get_cons]
      have : o ≠ o' := fun e => hne (ownerAt_inj hinv' ho' (e ▸ ho))
      simp [this]

theorem new_entry_holds_no_value {vw : VWorld} (hv : VInv vw) (op : VOp) {e : Entry}
    (he : e ∈ (vw.step op).w.tbl.live) (hnew : e ∉ vw.w.tbl.live) (c : String) (k : Key) :
    vw.store.get (.dyn e.impl) c k = none :=
  store_none_of_new hv e.impl (((evolves_steps.vstep vw op).live e he).resolve_left hnew) c k

theorem vrun_append (vw : VWorld) (xs ys : List VOp) : vw.run (xs ++ ys) = (vw.run xs).run ys := by
  simp [VWorld.run, List.foldl_append]

end MxModel.ItemSpace
