import MxModel.Kernels.Names
import Std.Data.String.ToNat
/-! `AutoNamer.get_next` always returns a name that is not in `existing`. -/
namespace MxModel.Names

theorem cand_inj (pre base : String) {j k : Nat} (h : cand pre base j = cand pre base k) :
    j = k := by
  unfold cand at h
  have h2 : (toString j : String) = toString k := by
    have := congrArg String.toList h
    simp only [String.toList_append] at this
    have := List.append_cancel_left this
    exact String.toList_inj.mp this
  exact Nat.repr_inj.mp h2

theorem nextName_spec (existing : List String) (pre base : String) :
    ∀ (fuel last : Nat),
      (nextName existing pre base fuel last).2 =
          cand pre base (nextName existing pre base fuel last).1 ∧
      last < (nextName existing pre base fuel last).1 ∧
      (nextName existing pre base fuel last).1 ≤ last + fuel + 1 ∧
      (∀ j, last < j → j < (nextName existing pre base fuel last).1 →
          cand pre base j ∈ existing) ∧
      ((nextName existing pre base fuel last).1 ≤ last + fuel →
          (nextName existing pre base fuel last).2 ∉ existing) := by
  intro fuel
  induction fuel with
  | zero =>
    intro last
    exact ⟨rfl, Nat.lt_succ_self _, Nat.le_refl _, fun j h1 h2 => absurd (Nat.le_of_lt_succ h2) (Nat.not_le.2 h1),
      fun h => absurd h (Nat.not_succ_le_self _)⟩
  | succ f ih =>
    intro last
    simp only [nextName]
    split
    · rename_i hmem
      obtain ⟨h1, h2, h3, h4, h5⟩ := ih (last + 1)
      rw [Nat.add_right_comm last 1 f] at h3 h5
      refine ⟨h1, Nat.lt_of_succ_lt h2, h3, fun j hj1 hj2 => ?_, h5⟩
      by_cases hj : j = last + 1
      · subst hj; simpa using hmem
      · exact h4 j (Nat.lt_of_le_of_ne hj1 (Ne.symm hj)) hj2
    · rename_i hmem
      exact ⟨rfl, Nat.lt_succ_self _, Nat.succ_le_succ (Nat.le_add_right _ _),
        fun j h1 h2 => absurd (Nat.le_of_lt_succ h2) (Nat.not_le.2 h1), fun _ => by simpa using hmem⟩

/-- The fuel `existing.length` is enough: the returned name is fresh. -/
theorem getNext_fresh (existing : List String) (pre base : String) (last : Nat) :
    (getNext existing pre base last).2 ∉ existing := by
  unfold getNext
  obtain ⟨h1, h2, h3, h4, h5⟩ := nextName_spec existing pre base existing.length last
  by_cases hk : (nextName existing pre base existing.length last).1 ≤ last + existing.length
  · exact h5 hk
  · -- all `existing.length` earlier candidates are in `existing`; a further one cannot be
    intro hmem
    have hk' : (nextName existing pre base existing.length last).1 = last + existing.length + 1 :=
      Nat.le_antisymm h3 (Nat.lt_of_not_le hk)
    let l : List String := (List.range (existing.length + 1)).map (fun j => cand pre base (last + 1 + j))
    have hnd : l.Nodup := by
      simp only [l, List.Nodup, List.pairwise_map]
      refine List.Pairwise.imp ?_ (List.nodup_range (n := existing.length + 1))
      intro a b hne hab
      exact hne (Nat.add_left_cancel (cand_inj pre base hab))
    have hsub : l ⊆ existing := by
      intro x hx
      simp only [l, List.mem_map, List.mem_range] at hx
      obtain ⟨j, hj, rfl⟩ := hx
      by_cases hjl : j = existing.length
      · subst hjl
        rw [h1, hk'] at hmem
        rw [Nat.add_right_comm]; exact hmem
      · rw [hk'] at h4
        exact h4 (last + 1 + j) (Nat.lt_of_lt_of_le (Nat.lt_succ_self _) (Nat.le_add_right _ _))
          (Nat.add_right_comm last 1 j ▸ Nat.succ_lt_succ (Nat.add_lt_add_left
            (Nat.lt_of_le_of_ne (Nat.le_of_lt_succ hj) hjl) last))
    have := List.Nodup.length_le_of_subset hnd hsub
    simp only [l, List.length_map, List.length_range] at this
    exact Nat.not_succ_le_self _ this

theorem getNext_is_cand (existing : List String) (pre base : String) (last : Nat) :
    (getNext existing pre base last).2 = cand pre base (getNext existing pre base last).1 :=
  (nextName_spec existing pre base existing.length last).1

theorem getNext_gt (existing : List String) (pre base : String) (last : Nat) :
    last < (getNext existing pre base last).1 :=
  (nextName_spec existing pre base existing.length last).2.1

end MxModel.Names
