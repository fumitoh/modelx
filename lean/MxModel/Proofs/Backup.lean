import MxModel.Proofs.BackupSpec
/-! Helper lemmas for C14 (`Kernels/Backup.lean`): what each primitive does when it succeeds, running
plans, the shape of the rotation plan, where a slot's content can go when a save stops anywhere,
and the invariants every primitive keeps. -/
namespace MxModel.Backup

@[simp] theorem set_same (fs : FS) (i : Nat) (s : Slot) : (fs.set i s) i = s := by
  simp [FS.set]

theorem set_other (fs : FS) {i j : Nat} (s : Slot) (h : j ≠ i) : (fs.set i s) j = fs j := by
  simp [FS.set, h]

theorem set_set (fs : FS) (i : Nat) (s t : Slot) : (fs.set i s).set i t = fs.set i t := by
  funext j; simp only [FS.set]; split <;> rfl

theorem set_eq_self {fs : FS} {i : Nat} {s : Slot} (h : fs i = s) : fs.set i s = fs := by
  funext j; simp only [FS.set]; split
  · rename_i hj; rw [hj, h]
  · rfl

theorem damaged_gen (s : Slot) : s.damaged.gen = s.gen := by cases s <;> rfl

theorem isDir_damaged (s : Slot) : s.damaged.isDir = s.isDir := by
  cases s with
  | absent => rfl
  | good c g => cases c <;> rfl
  | part c g => cases c <;> rfl

theorem ne_absent_of_isDir {s : Slot} (h : s.isDir = true) : s ≠ .absent := by
  intro hc; rw [hc] at h; cases h

theorem step_rm (i : Nat) (l : Bool) (fs : FS) : step (.rm i l) fs =
    if fs i ≠ .absent ∧ (l = true ∨ (fs i).isDir = true)
    then some (fs.set i (if l then .absent else (fs i).damaged)) else none := by
  simp only [step]
  cases fs i with
  | absent => rfl
  | good c g => cases c <;> cases l <;> rfl
  | part c g => cases c <;> cases l <;> rfl

theorem step_rename (i : Nat) (fs : FS) : step (.rename i) fs =
    if fs i ≠ .absent ∧ fs (i + 1) = .absent then some ((fs.set (i + 1) (fs i)).set i .absent)
    else none := by
  simp only [step]
  by_cases h1 : fs i = .absent
  · simp [h1]
  · by_cases h2 : fs (i + 1) = .absent <;> simp [h1, h2]

theorem step_mkroot (g : Nat) (fs : FS) : step (.mkroot g) fs =
    if fs 0 = .absent then some (fs.set 0 (.part .dir g))
    else if (fs 0).isDir then some fs else none := by
  unfold step
  cases fs 0 with
  | absent => rfl
  | good c g => cases c <;> rfl
  | part c g => cases c <;> rfl

theorem step_write (g : Nat) (l : Bool) (fs : FS) : step (.write g l) fs =
    if (fs 0).isDir then some (fs.set 0 (if l then .good .dir g else .part .dir g)) else none := by
  unfold step
  cases fs 0 with
  | absent => rfl
  | good c g => cases c <;> rfl
  | part c g => cases c <;> rfl

theorem step_tmp (t : TmpKind) (fs : FS) : step (.tmp t) fs = some fs := rfl

theorem step_move (g : Nat) (fs : FS) : step (.move g) fs =
    if (fs 0).isDir then none else some (fs.set 0 (.good .zip g)) := by
  unfold step
  cases fs 0 with
  | absent => rfl
  | good c g => cases c <;> rfl
  | part c g => cases c <;> rfl

theorem step_moveBroken (g : Nat) (fs : FS) : step (.moveBroken g) fs =
    if (fs 0).isDir then none else some (fs.set 0 (.part .zip g)) := by
  unfold step
  cases fs 0 with
  | absent => rfl
  | good c g => cases c <;> rfl
  | part c g => cases c <;> rfl

theorem step_rm_some {i : Nat} {l : Bool} {fs fs' : FS} (h : step (.rm i l) fs = some fs') :
    (l = true ∨ (fs i).isDir = true) ∧ fs' = fs.set i (if l then .absent else (fs i).damaged) := by
  rw [step_rm] at h
  obtain ⟨hc, h⟩ := Option.ite_none_right_eq_some.mp h
  exact ⟨hc.2, (Option.some.inj h).symm⟩

theorem step_rename_some {i : Nat} {fs fs' : FS} (h : step (.rename i) fs = some fs') :
    fs i ≠ .absent ∧ fs (i + 1) = .absent ∧ fs' = (fs.set (i + 1) (fs i)).set i .absent := by
  rw [step_rename] at h
  obtain ⟨hc, h⟩ := Option.ite_none_right_eq_some.mp h
  exact ⟨hc.1, hc.2, (Option.some.inj h).symm⟩

/-- the primitives of a writer of generation `g` -/
def Prim.writes (g : Nat) : Prim → Prop
  | .mkroot g' => g' = g
  | .write g' _ => g' = g
  | .tmp _ => True
  | .move g' => g' = g
  | .moveBroken g' => g' = g
  | _ => False

/-- what a writer's primitive puts at the path, when it changes anything -/
def Prim.puts : Prim → Slot
  | .mkroot g => .part .dir g
  | .write g l => if l then .good .dir g else .part .dir g
  | .move g => .good .zip g
  | .moveBroken g => .part .zip g
  | _ => .absent

theorem step_puts {g : Nat} {p : Prim} {fs fs' : FS} (h : step p fs = some fs')
    (hp : p.writes g) : fs' = fs ∨ (fs' = fs.set 0 p.puts ∧ p.puts.gen = some g) := by
  cases p with
  | rm i l => exact hp.elim
  | rename i => exact hp.elim
  | tmp t => exact .inl (Option.some.inj h).symm
  | mkroot g' =>
    rw [step_mkroot] at h
    split at h
    · exact .inr ⟨(Option.some.inj h).symm, congrArg some hp⟩
    · exact .inl (Option.some.inj (Option.ite_none_right_eq_some.mp h).2).symm
  | write g' l =>
    rw [step_write] at h
    exact .inr ⟨(Option.some.inj (Option.ite_none_right_eq_some.mp h).2).symm,
      by cases l <;> exact congrArg some hp⟩
  | move g' =>
    rw [step_move] at h
    exact .inr ⟨(Option.some.inj (Option.ite_none_left_eq_some.mp h).2).symm, congrArg some hp⟩
  | moveBroken g' =>
    rw [step_moveBroken] at h
    exact .inr ⟨(Option.some.inj (Option.ite_none_left_eq_some.mp h).2).symm, congrArg some hp⟩

@[simp] theorem run_nil (k : Nat) (fs : FS) : run [] k fs = (fs, true) := by
  cases k <;> rfl

@[simp] theorem run_zero_cons (p : Prim) (ps : List Prim) (fs : FS) :
    run (p :: ps) 0 fs = (fs, false) := rfl

theorem run_succ_cons (p : Prim) (ps : List Prim) (k : Nat) (fs : FS) :
    run (p :: ps) (k + 1) fs =
      match step p fs with
      | none => (fs, false)
      | some fs' => run ps k fs' := rfl

theorem run_append (a b : List Prim) (k : Nat) (fs : FS) :
    run (a ++ b) k fs =
      if (run a k fs).2 then run b (k - a.length) (run a k fs).1 else run a k fs := by
  induction a generalizing k fs with
  | nil => simp
  | cons p ps ih =>
    cases k with
    | zero => rfl
    | succ k =>
      simp only [List.cons_append, run_succ_cons, List.length_cons, Nat.add_sub_add_right]
      cases step p fs with
      | none => rfl
      | some fs' => exact ih k fs'

theorem run_snoc (a : List Prim) (p : Prim) (k : Nat) (fs : FS) :
    run (a ++ [p]) k fs = ((run a k fs).1, false) ∨
      ∃ fs', step p (run a k fs).1 = some fs' ∧ run (a ++ [p]) k fs = (fs', true) := by
  rw [run_append]
  cases hd : (run a k fs).2 with
  | false => exact .inl (Prod.ext rfl hd)
  | true =>
    rw [if_pos rfl]
    cases k - a.length with
    | zero => exact .inl rfl
    | succ k' =>
      rw [run_succ_cons]
      cases step p (run a k fs).1 with
      | none => exact .inl rfl
      | some fs' => exact .inr ⟨fs', rfl, run_nil k' fs'⟩

theorem run_short (ps : List Prim) (k : Nat) (fs : FS) (h : k < ps.length) :
    (run ps k fs).2 = false := by
  induction ps generalizing k fs with
  | nil => simp at h
  | cons p ps ih =>
    cases k with
    | zero => rfl
    | succ k =>
      rw [run_succ_cons]
      cases step p fs with
      | none => rfl
      | some fs' => exact ih k fs' (by simpa using h)

theorem run_inv (I : FS → Prop) (ps : List Prim)
    (hI : ∀ p ∈ ps, ∀ fs fs', I fs → step p fs = some fs' → I fs')
    (k : Nat) (fs : FS) (h : I fs) : I (run ps k fs).1 := by
  induction ps generalizing k fs with
  | nil => simpa using h
  | cons p ps ih =>
    cases k with
    | zero => exact h
    | succ k =>
      rw [run_succ_cons]
      cases hs : step p fs with
      | none => exact h
      | some fs' =>
        exact ih (fun q hq => hI q (List.mem_cons_of_mem _ hq)) k fs'
          (hI p List.mem_cons_self fs fs' h hs)

theorem mem_rmSteps {p : Prim} {i n : Nat} (h : p ∈ rmSteps i n) : ∃ l, p = .rm i l := by
  simp only [rmSteps, List.mem_append, List.mem_replicate, List.mem_singleton] at h
  rcases h with ⟨_, rfl⟩ | rfl
  · exact ⟨false, rfl⟩
  · exact ⟨true, rfl⟩

theorem rot_zero (fs : FS) (nrm n : Nat) : rot fs nrm 0 n =
    if fs n = .absent then [] else if (fs n).isDir then rmSteps n nrm else [.rm n true] := by
  unfold rot
  cases fs n with
  | absent => rfl
  | good c g => cases c <;> rfl
  | part c g => cases c <;> rfl

theorem rot_succ (fs : FS) (nrm f n : Nat) : rot fs nrm (f + 1) n =
    if fs n = .absent then [] else rot fs nrm f (n + 1) ++ [.rename n] := rfl

theorem rot_nil_of_absent (fs : FS) (nrm f n : Nat) (h : fs n = .absent) :
    rot fs nrm f n = [] := by
  cases f with
  | zero => rw [rot_zero, if_pos h]
  | succ f => rw [rot_succ, if_pos h]

theorem mem_rot {fs : FS} {nrm : Nat} {p : Prim} {f : Nat} :
    ∀ {n : Nat}, p ∈ rot fs nrm f n → ∃ i, n ≤ i ∧ ((∃ l, p = .rm i l) ∨ p = .rename i) := by
  induction f with
  | zero =>
    intro n h
    refine ⟨n, Nat.le_refl n, .inl ?_⟩
    rw [rot_zero] at h
    split at h
    · cases h
    · split at h
      · exact mem_rmSteps h
      · exact ⟨true, List.mem_singleton.mp h⟩
  | succ f ih =>
    intro n h
    rw [rot_succ] at h
    split at h
    · cases h
    · rcases List.mem_append.mp h with h | h
      · obtain ⟨i, hi, hp⟩ := ih h
        exact ⟨i, Nat.le_of_succ_le hi, hp⟩
      · exact ⟨n, Nat.le_refl n, .inr (List.mem_singleton.mp h)⟩

theorem rot_below (fs : FS) (nrm f n k : Nat) {j : Nat} (hj : j < n) :
    (run (rot fs nrm f n) k fs).1 j = fs j := by
  refine run_inv (fun s => s j = fs j) _ ?_ k fs rfl
  intro p hp s s' hs hstep
  obtain ⟨i, hi, ⟨l, rfl⟩ | rfl⟩ := mem_rot hp
  · rw [(step_rm_some hstep).2, set_other _ _ (Nat.ne_of_lt (Nat.lt_of_lt_of_le hj hi))]
    exact hs
  · have hji : j < i := Nat.lt_of_lt_of_le hj hi
    rw [(step_rename_some hstep).2.2, set_other _ _ (Nat.ne_of_lt hji),
      set_other _ _ (Nat.ne_of_lt (Nat.lt_succ_of_lt hji))]
    exact hs

theorem mem_dirWriter {g : Nat} {body : List (Option TmpKind)} {p : Prim}
    (h : p ∈ dirWriter g body) :
    p = .mkroot g ∨ (∃ l, p = .write g l) ∨ (∃ t, p = .tmp t) := by
  simp only [dirWriter, List.mem_cons, List.mem_append, List.mem_map,
    List.not_mem_nil, or_false] at h
  rcases h with rfl | ⟨o, _, rfl⟩ | rfl
  · exact Or.inl rfl
  · cases o with
    | none => exact Or.inr (Or.inl ⟨false, rfl⟩)
    | some t => exact Or.inr (Or.inr ⟨t, rfl⟩)
  · exact Or.inr (Or.inl ⟨true, rfl⟩)

/-- `mv` is `.move g` or `.moveBroken g`: one statement for `zipWriter` and `zipWriterBroken` -/
theorem mem_zipWriter {mv p : Prim} {pre : List TmpKind} {b : Nat}
    (h : p ∈ pre.map .tmp ++ [mv] ++ List.replicate b (.tmp .guarded)) :
    p = mv ∨ ∃ t, p = .tmp t := by
  simp only [List.mem_append, List.mem_map, List.mem_singleton, List.mem_replicate] at h
  rcases h with (⟨t, _, rfl⟩ | rfl) | ⟨_, rfl⟩
  · exact .inr ⟨t, rfl⟩
  · exact .inl rfl
  · exact .inr ⟨_, rfl⟩

theorem dirWriter_writes (g : Nat) (body : List (Option TmpKind)) :
    ∀ p ∈ dirWriter g body, p.writes g := by
  intro p h
  rcases mem_dirWriter h with rfl | ⟨_, rfl⟩ | ⟨_, rfl⟩
  · exact rfl
  · exact rfl
  · trivial

theorem zipWriter_writes {g : Nat} {mv : Prim} (hmv : mv.writes g) (pre : List TmpKind) (b : Nat) :
    ∀ p ∈ pre.map .tmp ++ [mv] ++ List.replicate b (.tmp .guarded), p.writes g := by
  intro p h
  rcases mem_zipWriter h with rfl | ⟨_, rfl⟩
  · exact hmv
  · trivial

theorem writer_writes (sv : Save) : ∀ p ∈ writer sv, p.writes sv.g := by
  unfold writer
  split
  · exact dirWriter_writes sv.g sv.body
  · exact zipWriter_writes (mv := .move sv.g) rfl sv.pre sv.n2

theorem writerBroken_writes (sv : Save) : ∀ p ∈ writerBroken sv, p.writes sv.g := by
  unfold writerBroken
  split
  · exact dirWriter_writes sv.g sv.body
  · exact zipWriter_writes (mv := .moveBroken sv.g) rfl sv.pre sv.n2

theorem writer_run {g : Nat} {w : List Prim} (hw : ∀ p ∈ w, p.writes g) (k : Nat) (fs : FS) :
    ∃ s, (s = fs 0 ∨ s.gen = some g) ∧ (run w k fs).1 = fs.set 0 s := by
  refine run_inv (fun x => ∃ s, (s = fs 0 ∨ s.gen = some g) ∧ x = fs.set 0 s) w ?_ k fs
    ⟨fs 0, .inl rfl, (set_eq_self rfl).symm⟩
  rintro p hp x x' ⟨s, hs, rfl⟩ hstep
  rcases step_puts hstep (hw p hp) with rfl | ⟨rfl, ht⟩
  · exact ⟨s, hs, rfl⟩
  · exact ⟨_, .inr ht, set_set fs 0 s _⟩

theorem writer_untouched {g : Nat} {w : List Prim} (hw : ∀ p ∈ w, p.writes g) {j : Nat}
    (hj : j ≠ 0) (k : Nat) (fs : FS) : (run w k fs).1 j = fs j := by
  obtain ⟨s, _, h⟩ := writer_run hw k fs
  rw [h, set_other _ _ hj]

/-- the three ways a save can go (`save`): each is a run of the rotation followed by a writer's
primitives -/
theorem save_cases (maxB : Nat) (sv : Save) (k : Nat) (fs : FS) (P : FS × Bool → Prop)
    (h : ∀ w k', (∀ p ∈ w, p.writes sv.g) → P (run (rotation maxB sv.nrm fs ++ w) k' fs)) :
    P (save maxB sv k fs) := by
  unfold save
  split
  · exact h _ _ (writer_writes sv)
  · exact h _ _ (writer_writes sv)
  · exact h _ _ (writerBroken_writes sv)

theorem rot_moves_one (fs : FS) (nrm : Nat) (s : Slot) (hs : s ≠ .absent) :
    ∀ (f n i k : Nat), n ≤ i → i < n + f → fs i = s →
      (run (rot fs nrm f n) k fs).1 i = s ∨ (run (rot fs nrm f n) k fs).1 (i + 1) = s := by
  intro f
  induction f with
  | zero => intro n i k h1 h2; exact absurd h2 (Nat.not_lt.mpr h1)
  | succ f ih =>
    intro n i k h1 h2 hi
    rw [rot_succ]
    split
    · rw [run_nil]; exact .inl hi
    · -- before the rename of slot `n`: untouched if `i = n`, by induction otherwise
      have hA : (run (rot fs nrm f (n + 1)) k fs).1 i = s ∨
          (run (rot fs nrm f (n + 1)) k fs).1 (i + 1) = s := by
        by_cases hin : i = n
        · left; rw [rot_below fs nrm f (n + 1) k (Nat.lt_succ_of_le (Nat.le_of_eq hin))]; exact hi
        · exact ih (n + 1) i k (Nat.lt_of_le_of_ne h1 (Ne.symm hin))
            (Nat.lt_of_lt_of_eq h2 (Nat.succ_add n f).symm) hi
      rcases run_snoc (rot fs nrm f (n + 1)) (.rename n) k fs with heq | ⟨fs', hstep, heq⟩
      · rw [heq]; exact hA
      · rw [heq]
        obtain ⟨_, hdst, rfl⟩ := step_rename_some hstep
        generalize (run (rot fs nrm f (n + 1)) k fs).1 = fs1 at hA hdst
        -- the rename went ahead, so slot `n + 1` was free: `s` was not there
        have hkeep : ∀ x, fs1 x = s → x ≠ n →
            ((fs1.set (n + 1) (fs1 n)).set n .absent) x = s := by
          intro x hx hxn
          rw [set_other _ _ hxn, set_other _ _ (fun hc => hs (by rw [← hx, hc, hdst]))]
          exact hx
        rcases hA with h | h
        · by_cases hin : i = n
          · right; rw [hin] at h ⊢
            show ((fs1.set (n + 1) (fs1 n)).set n .absent) (n + 1) = s
            rw [set_other _ _ (Nat.succ_ne_self n), set_same]; exact h
          · exact .inl (hkeep i h hin)
        · exact .inr (hkeep (i + 1) h (Nat.ne_of_gt (Nat.lt_succ_of_le h1)))

theorem rot_first (fs : FS) (nrm f n k : Nat) :
    ((run (rot fs nrm (f + 1) n) k fs).2 = false ∧ (run (rot fs nrm (f + 1) n) k fs).1 n = fs n) ∨
      (run (rot fs nrm (f + 1) n) k fs).1 n = .absent := by
  rw [rot_succ]
  split
  · rename_i h; rw [run_nil]; exact .inr h
  · rcases run_snoc (rot fs nrm f (n + 1)) (.rename n) k fs with heq | ⟨fs', hstep, heq⟩
    · rw [heq]; exact .inl ⟨rfl, rot_below fs nrm f (n + 1) k (Nat.lt_succ_self n)⟩
    · rw [heq, (step_rename_some hstep).2.2]; exact .inr (set_same _ _ _)

theorem save_moves_one (maxB : Nat) (sv : Save) (k : Nat) (fs : FS) (i : Nat) (s : Slot)
    (hs : s ≠ .absent) (hi : i < maxB) (h : fs i = s) :
    (save maxB sv k fs).1 i = s ∨ (save maxB sv k fs).1 (i + 1) = s := by
  refine save_cases maxB sv k fs (fun r => r.1 i = s ∨ r.1 (i + 1) = s) ?_
  intro w k' hw
  have hR := rot_moves_one fs sv.nrm s hs maxB 0 i k' (Nat.zero_le _)
    (Nat.lt_of_lt_of_eq hi (Nat.zero_add maxB).symm) h
  show _ ∨ _
  rw [rotation, run_append]
  split
  · rename_i hdone
    rw [writer_untouched hw (Nat.succ_ne_zero i)]
    by_cases hi0 : i = 0
    · -- the writer runs only after the rotation has moved the path's content away
      subst hi0
      obtain ⟨f, rfl⟩ := Nat.exists_eq_add_one_of_ne_zero (Nat.ne_of_gt hi)
      rcases rot_first fs sv.nrm f 0 k' with ⟨hf, _⟩ | hv
      · rw [hf] at hdone; cases hdone
      · exact .inr (hR.resolve_left (fun h0 => hs (by rw [← h0, hv])))
    · rw [writer_untouched hw hi0]; exact hR
  · exact hR

theorem save_other_of_absent (maxB : Nat) (sv : Save) (k : Nat) (fs : FS) (h0 : fs 0 = .absent)
    (j : Nat) (hj : j ≠ 0) : (save maxB sv k fs).1 j = fs j := by
  refine save_cases maxB sv k fs (fun r => r.1 j = fs j) ?_
  intro w k' hw
  rw [rotation, rot_nil_of_absent fs sv.nrm maxB 0 h0, List.nil_append]
  exact writer_untouched hw hj k' fs

theorem set_noPartialZip {fs : FS} (h : NoPartialZip fs) (i : Nat) (s : Slot)
    (hs : ∀ g, s ≠ .part .zip g) : NoPartialZip (fs.set i s) := by
  intro j g
  by_cases hj : j = i
  · subst hj; rw [set_same]; exact hs g
  · rw [set_other _ _ hj]; exact h j g

theorem step_noPartialZip (p : Prim) (hnb : ∀ g, p ≠ .moveBroken g) (fs fs' : FS)
    (h : NoPartialZip fs) (hstep : step p fs = some fs') : NoPartialZip fs' := by
  cases p with
  | moveBroken g => exact absurd rfl (hnb g)
  | tmp t => cases hstep; exact h
  | rm i l =>
    -- what is left of a slot is partial only if it was a directory
    obtain ⟨hl, rfl⟩ := step_rm_some hstep
    refine set_noPartialZip h _ _ (fun g hg => ?_)
    cases l with
    | true => cases hg
    | false =>
      have hd := (isDir_damaged (fs i)).trans (hl.resolve_left Bool.false_ne_true)
      rw [show (fs i).damaged = _ from hg] at hd
      cases hd
  | rename i =>
    obtain ⟨_, _, rfl⟩ := step_rename_some hstep
    exact set_noPartialZip (set_noPartialZip h _ _ (h i)) _ _ (fun g hg => by cases hg)
  | mkroot g =>
    rcases step_puts hstep rfl with rfl | ⟨rfl, _⟩
    · exact h
    · exact set_noPartialZip h _ _ (fun g hg => by cases hg)
  | write g l =>
    rcases step_puts hstep rfl with rfl | ⟨rfl, _⟩
    · exact h
    · exact set_noPartialZip h _ _ (fun g hg => by cases l <;> cases hg)
  | move g =>
    rcases step_puts hstep rfl with rfl | ⟨rfl, _⟩
    · exact h
    · exact set_noPartialZip h _ _ (fun g hg => by cases hg)

theorem plan_no_moveBroken {maxB : Nat} {sv : Save} {fs : FS} {p : Prim}
    (hp : p ∈ plan maxB sv fs) (g : Nat) : p ≠ .moveBroken g := by
  rcases List.mem_append.mp hp with hp | hp
  · obtain ⟨i, _, ⟨l, rfl⟩ | rfl⟩ := mem_rot hp <;> intro hc <;> cases hc
  · unfold writer at hp
    split at hp
    · rcases mem_dirWriter hp with rfl | ⟨_, rfl⟩ | ⟨_, rfl⟩ <;> intro hc <;> cases hc
    · rcases mem_zipWriter hp with rfl | ⟨_, rfl⟩ <;> intro hc <;> cases hc

theorem save_eq_run (maxB : Nat) (sv : Save) (k : Nat) (fs : FS)
    (hk : faultKind sv.pol (plan maxB sv fs) k ≠ .truncates) :
    ∃ k', save maxB sv k fs = run (plan maxB sv fs) k' fs := by
  unfold save
  split
  · exact ⟨_, rfl⟩
  · exact ⟨_, rfl⟩
  · rename_i hc; exact absurd hc hk

theorem save_noPartialZip (maxB : Nat) (sv : Save) (k : Nat) (fs : FS)
    (hk : faultKind sv.pol (plan maxB sv fs) k ≠ .truncates) (h : NoPartialZip fs) :
    NoPartialZip (save maxB sv k fs).1 := by
  obtain ⟨k', heq⟩ := save_eq_run maxB sv k fs hk
  rw [heq]
  exact run_inv NoPartialZip _
    (fun p hp s s' hs hst => step_noPartialZip p (plan_no_moveBroken hp) s s' hs hst) k' fs h

theorem zip_save_pathWhole (maxB : Nat) (h1 : 1 ≤ maxB) (sv : Save) (hz : sv.kind = .zip)
    (k : Nat) (fs : FS) (hk : faultKind sv.pol (plan maxB sv fs) k ≠ .truncates)
    (h : (fs 0).isPart = false) :
    ((save maxB sv k fs).1 0).isPart = false := by
  obtain ⟨k', heq⟩ := save_eq_run maxB sv k fs hk
  rw [heq, plan, rotation, run_append]
  -- the rotation leaves the path as it was or empty; the zip writer only moves a complete
  -- archive there
  have hrot : ((run (rot fs sv.nrm maxB 0) k' fs).1 0).isPart = false := by
    obtain ⟨f, rfl⟩ := Nat.exists_eq_add_one_of_ne_zero (Nat.ne_of_gt h1)
    rcases rot_first fs sv.nrm f 0 k' with ⟨_, h0⟩ | h0
    · rw [h0]; exact h
    · rw [h0]; rfl
  split
  · refine run_inv (fun s => (s 0).isPart = false) _ ?_ _ _ hrot
    intro p hp s s' hs hst
    rw [writer, hz] at hp
    rcases mem_zipWriter hp with rfl | ⟨_, rfl⟩
    · rcases step_puts hst rfl with rfl | ⟨rfl, _⟩
      · exact hs
      · rw [set_same]; rfl
    · cases hst; exact hs
  · exact hrot

theorem step_rm_ordered {i g : Nat} {last : Bool} {fs fs' : FS} (h : Ordered fs ∧ Below g fs)
    (hstep : step (.rm i last) fs = some fs') : Ordered fs' ∧ Below g fs' := by
  have hsub : ∀ x v, (fs' x).gen = some v → (fs x).gen = some v := by
    rw [(step_rm_some hstep).2]
    intro x v hv
    by_cases hx : x = i
    · rw [hx, set_same] at hv
      cases last with
      | true => cases hv
      | false => rw [hx, ← damaged_gen]; exact hv
    · rw [set_other _ _ hx] at hv; exact hv
  exact ⟨fun i j a b hij ha hb => h.1 i j a b hij (hsub i a ha) (hsub j b hb),
    fun i a ha => h.2 i a (hsub i a ha)⟩

theorem step_rename_ordered {i g : Nat} {fs fs' : FS} (h : Ordered fs ∧ Below g fs)
    (hstep : step (.rename i) fs = some fs') : Ordered fs' ∧ Below g fs' := by
  obtain ⟨_, _, rfl⟩ := step_rename_some hstep
  -- where a generation seen afterwards was before
  have key : ∀ x v, (((fs.set (i + 1) (fs i)).set i Slot.absent) x).gen = some v →
      (x = i + 1 ∧ (fs i).gen = some v) ∨ (x ≠ i ∧ x ≠ i + 1 ∧ (fs x).gen = some v) := by
    intro x v hv
    by_cases hx : x = i
    · subst hx; rw [set_same] at hv; cases hv
    · rw [set_other _ _ hx] at hv
      by_cases hx1 : x = i + 1
      · subst hx1; rw [set_same] at hv; exact Or.inl ⟨rfl, hv⟩
      · rw [set_other _ _ hx1] at hv; exact Or.inr ⟨hx, hx1, hv⟩
  refine ⟨?_, ?_⟩
  · intro a b va vb hab ha hb
    rcases key a va ha with ⟨rfl, ha2⟩ | ⟨ha1, ha2, ha3⟩ <;>
      rcases key b vb hb with ⟨rfl, hb2⟩ | ⟨hb1, hb2, hb3⟩
    · exact absurd hab (Nat.lt_irrefl _)
    · exact h.1 i b va vb (Nat.lt_of_succ_lt hab) ha2 hb3
    · exact h.1 a i va vb (Nat.lt_of_le_of_ne (Nat.le_of_lt_succ hab) ha1) ha3 hb2
    · exact h.1 a b va vb hab ha3 hb3
  · intro x v hv
    rcases key x v hv with ⟨_, h2⟩ | ⟨_, _, h3⟩
    · exact h.2 i v h2
    · exact h.2 x v h3

theorem set0_ordered {g : Nat} {fs : FS} (ho : Ordered fs) (hb : Below g fs) {s : Slot}
    (hs : s = fs 0 ∨ s.gen = some g) :
    Ordered (fs.set 0 s) ∧ Below (g + 1) (fs.set 0 s) := by
  rcases hs with rfl | hs
  · rw [set_eq_self rfl]; exact ⟨ho, fun i a ha => Nat.lt_succ_of_lt (hb i a ha)⟩
  · refine ⟨fun i j a b hij ha hb' => ?_, fun i a ha => ?_⟩
    · rw [set_other _ _ (Nat.ne_zero_of_lt hij)] at hb'
      by_cases hi : i = 0
      · rw [hi, set_same, hs] at ha
        cases ha
        exact hb j b hb'
      · rw [set_other _ _ hi] at ha
        exact ho i j a b hij ha hb'
    · by_cases hi : i = 0
      · rw [hi, set_same, hs] at ha
        cases ha
        exact Nat.lt_succ_self _
      · rw [set_other _ _ hi] at ha
        exact Nat.lt_succ_of_lt (hb i a ha)

theorem save_ordered (maxB : Nat) (sv : Save) (k : Nat) (fs : FS)
    (ho : Ordered fs) (hb : Below sv.g fs) :
    Ordered (save maxB sv k fs).1 ∧ Below (sv.g + 1) (save maxB sv k fs).1 := by
  refine save_cases maxB sv k fs (fun r => Ordered r.1 ∧ Below (sv.g + 1) r.1) ?_
  intro w k' hw
  have hrot : Ordered (run (rotation maxB sv.nrm fs) k' fs).1 ∧
      Below sv.g (run (rotation maxB sv.nrm fs) k' fs).1 := by
    refine run_inv (fun s => Ordered s ∧ Below sv.g s) _ ?_ k' fs ⟨ho, hb⟩
    intro p hp s s' hs hst
    obtain ⟨i, _, ⟨l, rfl⟩ | rfl⟩ := mem_rot hp
    · exact step_rm_ordered hs hst
    · exact step_rename_ordered hs hst
  show Ordered _ ∧ Below _ _
  rw [run_append]
  split
  · obtain ⟨s, hs, h⟩ := writer_run hw (k' - (rotation maxB sv.nrm fs).length)
      (run (rotation maxB sv.nrm fs) k' fs).1
    rw [h]
    exact set0_ordered hrot.1 hrot.2 hs
  · exact ⟨hrot.1, fun i a ha => Nat.lt_succ_of_lt (hrot.2 i a ha)⟩

end MxModel.Backup
