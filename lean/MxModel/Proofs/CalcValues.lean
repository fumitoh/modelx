import MxModel.Proofs.CalcValued
/-!
# The values a plan's run leaves are the directly evaluated ones

`VCache.Cons D` ("every entry is the value `D` gives its element") is kept by every action of a plan's
run, for every solution `D` of the evaluation equations: a `'calc'` runs a formula only when everything
it reads is held (`block_ready`, from the step invariant `SInv` of `Proofs/CalcExec.lean` read on the erased
cache), a `'paste'` assigns the value it read, a `'clear'` only removes.
-/
namespace MxModel.CalcSteps

variable {V : Type} (f : Node → List (Option V) → V) (preds : Node → List Node)

theorem mem_of_value {c : VCache V} {n : Node} {v : V} (h : c.value n = some v) : (n, v) ∈ c.data := by
  obtain ⟨e, hf, rfl⟩ := Option.map_eq_some_iff.mp h
  have : e.1 = n := by simpa using List.find?_some hf
  exact this ▸ List.mem_of_find?_eq_some hf

theorem held_of_value {c : VCache V} {n : Node} {v : V} (h : c.value n = some v) : n ∈ c.data.map (·.1) :=
  List.mem_map.mpr ⟨_, mem_of_value h, rfl⟩

theorem value_of_held {c : VCache V} {n : Node} (h : n ∈ c.erase.held) : ∃ v, c.value n = some v := by
  obtain ⟨e, he, hen⟩ := List.mem_map.mp h
  cases hf : c.data.find? (fun e => e.1 == n) with
  | none => exact (List.find?_eq_none.mp hf e he (by simp [hen])).elim
  | some e' => exact ⟨e'.2, by rw [VCache.value, hf]; rfl⟩

theorem VCache.Cons.value {D : Node → V} {c : VCache V} (hc : c.Cons D) {n : Node} {v : V}
    (h : c.value n = some v) : v = D n :=
  hc _ (mem_of_value h)

theorem VCache.Cons.value_held {D : Node → V} {c : VCache V} (hc : c.Cons D) {n : Node}
    (h : n ∈ c.erase.held) : c.value n = some (D n) := by
  obtain ⟨v, hv⟩ := value_of_held h
  rw [hv, hc.value hv]

theorem evalNodeV_held (fuel : Nat) (n : Node)
    (c : VCache V) (h : n ∈ c.erase.held) : evalNodeV f preds fuel n c = c := by
  cases fuel with
  | zero => rfl
  | succ fuel => exact if_pos h

theorem evalNodeV_ready_fold (fuel : Nat) (n : Node)
    (ps : List Node) (c : VCache V) (h : ∀ p ∈ ps, p ∈ c.erase.held) :
    (ps.foldl (fun c p => (evalNodeV f preds fuel p c).addEdge p n) c).data = c.data := by
  induction ps generalizing c with
  | nil => rfl
  | cons p ps ih =>
    rw [List.foldl_cons, evalNodeV_held f preds fuel p c (h p List.mem_cons_self)]
    exact ih (c.addEdge p n) (fun q hq => h q (List.mem_cons_of_mem _ hq))

theorem evalNodeV_ready_cons (D : Node → V)
    (fuel : Nat) (n : Node) (c : VCache V) (hc : c.Cons D)
    (hp : ∀ p ∈ preds n, p ∈ c.erase.held)
    (hD : D n = f n ((preds n).map (fun p => some (D p)))) :
    (evalNodeV f preds (fuel + 1) n c).Cons D := by
  by_cases hn : n ∈ c.erase.held
  · rw [evalNodeV_held f preds _ n c hn]; exact hc
  · have hf := evalNodeV_ready_fold f preds fuel n (preds n) (c.enter n) hp
    have hn' : n ∉ c.data.map (·.1) := hn
    rw [evalNodeV, if_neg hn']
    generalize (preds n).foldl (fun c p => (evalNodeV f preds fuel p c).addEdge p n) (c.enter n) = cf at hf ⊢
    -- `cf` has the entries of `c`, so the formula reads `D`'s values
    have hv : (preds n).map cf.value = (preds n).map (fun p => some (D p)) :=
      List.map_congr_left fun p hpm => by
        rw [VCache.value, hf]; exact hc.value_held (hp p hpm)
    intro e he
    simp only [VCache.store, hf, List.mem_append, List.mem_singleton] at he
    rcases he with he | rfl
    · exact hc e he
    · rw [hv, ← hD]

theorem evalNodesV_ready_cons (D : Node → V)
    (fuel : Nat) {ns : List Node} {c : VCache V} (h : Ready preds c.erase.held ns) (hc : c.Cons D)
    (hD : ∀ n ∈ ns, D n = f n ((preds n).map (fun p => some (D p)))) :
    (ns.foldl (fun c n => evalNodeV f preds (fuel + 1) n c) c).Cons D := by
  induction ns generalizing c with
  | nil => exact hc
  | cons n ns ih =>
    cases h with
    | cons hn hp hr =>
      refine ih ?_ (evalNodeV_ready_cons f preds D fuel n c hc hp (hD n List.mem_cons_self))
        (fun m hm => hD m (List.mem_cons_of_mem _ hm))
      rw [erase_evalNodeV, evalNode_ready preds fuel n c.erase hn hp]
      exact hr

theorem clearAtV_data_sub (n : Node) (c : VCache V) : ∀ e ∈ (clearAtV n c).data, e ∈ c.data := by
  intro e he
  unfold clearAtV at he
  split at he
  · exact (List.mem_filter.mp he).1
  · exact he

theorem setValueV_cons {D : Node → V} (n : Node) (v : V) (c : VCache V) (hc : c.Cons D) (hv : v = D n) :
    (setValueV n v c).Cons D := by
  intro e he
  rcases List.mem_append.mp he with he | he
  · exact hc e (clearAtV_data_sub n c e he)
  · rw [List.mem_singleton.mp he]; exact hv

theorem erase_execStepV [Inhabited V] (fuel : Nat)
    (o : StepOut) (c : VCache V) : (execStepV f preds fuel o c).erase = execStep preds fuel o c.erase := by
  rw [execStepV, execStep, erase_execActionV, erase_execActionV, erase_execActionV]

theorem executeV_flatMap [Inhabited V] (fuel : Nat)
    (l : List StepOut) (c : VCache V) :
    executeV f preds fuel (l.flatMap StepOut.actions) c = l.foldl (fun c o => execStepV f preds fuel o c) c := by
  unfold executeV
  rw [List.foldl_flatMap]
  rfl

section run
variable {ordered : List Node} {succs : Node → List Node} {targets : List Node} {size : Nat}
  {preds : Node → List Node} {c0 : Cache}

theorem step_cons [Inhabited V] (ht : isTopo succs ordered = true) (hd : ordered.Nodup)
    (h0d : ∀ x ∈ c0.held, x ∉ ordered)
    (hp : ∀ n ∈ ordered, ∀ p ∈ preds n, (p ∈ ordered ∧ n ∈ succs p) ∨ p ∈ c0.held)
    (f : Node → List (Option V) → V) (D : Node → V) (hD : Solves f preds ordered D)
    (fuel k : Nat) (vc : VCache V)
    (inv : SInv ordered succs targets size c0 k vc.erase) (hc : vc.Cons D) :
    (execStepV f preds (fuel + 1) (stepAt ordered succs targets size k) vc).Cons D := by
  have hr := block_ready inv ht hd h0d hp
  have h1 := evalNodesV_ready_cons f preds D fuel hr hc (fun n hn => hD n (mem_of_mem_block hn))
  have h1h := (evalNodes_ready preds fuel hr).held
  rw [← foldl_erase _ (fun c n => evalNode preds (fuel + 1) n c) (fun c n => erase_evalNodeV f preds (fuel + 1) n c)]
    at h1h
  simp only [execStepV, execActionV]
  rw [show (stepAt ordered succs targets size k).block = curBlock ordered size k from rfl]
  generalize (curBlock ordered size k).foldl (fun c n => evalNodeV f preds (fuel + 1) n c) vc = vc1 at h1 h1h ⊢
  have hpaste : ∀ x ∈ (stepAt ordered succs targets size k).paste, x ∈ vc1.erase.held :=
    fun x hx => (h1h x).mpr (Or.inr (mem_stepAt_paste.mp hx).1)
  rw [foldl_fixed_mem (b := vc1) fun x hx => evalNodeV_held f preds _ x vc1 (hpaste x hx)]
  -- a `'paste'` assigns the value it read, a `'clear'` only removes
  exact foldl_keeps (VCache.Cons D) (fun c n _ hc e he => hc e (clearAtV_data_sub n c e he))
    (foldl_keeps (VCache.Cons D) (fun c n hn hc => setValueV_cons n _ c hc (by
      rw [h1.value_held (hpaste n hn)]; rfl)) h1)

theorem run_cons [Inhabited V] (ht : isTopo succs ordered = true) (hd : ordered.Nodup)
    (h0 : c0.WF) (h0d : ∀ x ∈ c0.held, x ∉ ordered) (h0e : ∀ e ∈ c0.edges, e.1 ∉ ordered)
    (hp : ∀ n ∈ ordered, ∀ p ∈ preds n, (p ∈ ordered ∧ n ∈ succs p) ∨ p ∈ c0.held)
    (f : Node → List (Option V) → V) (D : Node → V) (hD : Solves f preds ordered D)
    (fuel : Nat) (hz : 1 ≤ size) (vc0 : VCache V) (he0 : vc0.erase = c0) (hc0 : vc0.Cons D) :
    (executeV f preds (fuel + 1) (calcSteps ordered succs targets size) vc0).Cons D := by
  rw [calcSteps, executeV_flatMap, planSteps_eq_map hz, List.foldl_map]
  generalize nSteps ordered succs targets size = m
  induction m with
  | zero => exact hc0
  | succ m ih =>
    rw [List.range_succ, List.foldl_append]
    refine step_cons ht hd h0d hp f D hD fuel m _ ?_ ih
    -- the erased run is the run of the erased cache
    rw [foldl_erase _ (fun c k => execStep preds (fuel + 1) (stepAt ordered succs targets size k) c)
      (fun c k => erase_execStepV f preds (fuel + 1) _ c), he0]
    exact sinv_run ht hd h0 h0d h0e hp fuel m

end run

theorem direct_of_inp (inp : Node → Option V)
    (k : Nat) (n : Node) (v : V) (h : inp n = some v) : direct f preds inp k n = some v := by
  cases k <;> simp [direct, h]

theorem direct_succ_of_none (inp : Node → Option V)
    (k : Nat) (n : Node) (h : inp n = none) :
    direct f preds inp (k + 1) n = some (f n ((preds n).map (direct f preds inp k))) := by
  simp [direct, h]

section direct
variable {ordered : List Node} {succs preds : Node → List Node}
  (ht : isTopo succs ordered = true) (hd : ordered.Nodup)
  (f : Node → List (Option V) → V) {inp : Node → Option V} (hout : ∀ n ∈ ordered, inp n = none)
  (hp : ∀ n ∈ ordered, ∀ p ∈ preds n, (p ∈ ordered ∧ n ∈ succs p) ∨ (inp p).isSome)
include ht hd hout hp

theorem direct_stable : ∀ m, m ≤ ordered.length → ∀ n ∈ ordered.take m, ∀ k, m ≤ k →
      direct f preds inp k n = direct f preds inp m n := by
  intro m
  induction m with
  | zero => intro _ n hn; simp at hn
  | succ m ih =>
    intro hm n hn k hk
    have hlt : m < ordered.length := hm
    rw [List.take_add_one, List.getElem?_eq_getElem hlt, Option.toList_some, List.mem_append,
      List.mem_singleton] at hn
    rcases hn with hn | rfl
    · rw [ih (Nat.le_of_lt hlt) n hn k (Nat.le_of_succ_le hk), ih (Nat.le_of_lt hlt) n hn (m + 1) (Nat.le_succ m)]
    · -- the element at position `m`: its precedents stand before it, so depth `m` determines them
      cases k with
      | zero => exact absurd hk (Nat.not_succ_le_zero m)
      | succ k' =>
        have hnord : ordered[m] ∈ ordered := List.getElem_mem hlt
        rw [direct_succ_of_none f preds inp k' _ (hout _ hnord), direct_succ_of_none f preds inp m _ (hout _ hnord)]
        congr 2
        apply List.map_congr_left
        intro p hpm
        rcases hp _ hnord p hpm with ⟨hpo, hs⟩ | hi
        · exact ih (Nat.le_of_lt hlt) p (isTopo_pred_take ht hd hlt hpo hs) k' (Nat.le_of_succ_le_succ hk)
        · obtain ⟨v, hv⟩ := Option.isSome_iff_exists.mp hi
          rw [direct_of_inp f preds inp k' p v hv, direct_of_inp f preds inp m p v hv]

/-- the statement of `C16.direct_evaluation_is_the_fixed_point`: a precedent of the element at position `i` stands
before it, so every depth `≥ i` gives it the same value -/
theorem direct_fixed_point : ∀ n ∈ ordered, ∀ k, ordered.length ≤ k →
      direct f preds inp k n = some (f n ((preds n).map (direct f preds inp k))) := by
  intro n hn k hk
  obtain ⟨i, hi, rfl⟩ := List.getElem_of_mem hn
  cases k with
  | zero => exact absurd (Nat.lt_of_lt_of_le hi hk) (Nat.not_lt_zero i)
  | succ l =>
    have hil : i ≤ l := Nat.le_of_lt_succ (Nat.lt_of_lt_of_le hi hk)
    rw [direct_succ_of_none f preds inp l _ (hout _ hn)]
    congr 2
    apply List.map_congr_left
    intro p hpm
    rcases hp _ hn p hpm with ⟨hpo, hs⟩ | hi
    · have hsi := direct_stable ht hd f hout hp i (Nat.le_of_lt hi) p
        (isTopo_pred_take ht hd hi hpo hs)
      rw [hsi l hil, hsi (l + 1) (Nat.le_succ_of_le hil)]
    · obtain ⟨v, hv⟩ := Option.isSome_iff_exists.mp hi
      rw [direct_of_inp f preds inp l p v hv, direct_of_inp f preds inp (l + 1) p v hv]

theorem direct_solves [Inhabited V] :
    Solves f preds ordered (fun n => (direct f preds inp ordered.length n).getD default) ∧
    (∀ n v, inp n = some v → (direct f preds inp ordered.length n).getD default = v) ∧
    (∀ n ∈ ordered, ∀ k, ordered.length ≤ k →
      direct f preds inp k n = some ((direct f preds inp ordered.length n).getD default)) := by
  have hfix := direct_fixed_point ht hd f hout hp
  refine ⟨fun n hn => ?_, fun n v hv => ?_, fun n hn k hk => ?_⟩
  · -- a precedent has a value: it is planned, or held
    have hval : ∀ p ∈ preds n, direct f preds inp ordered.length p =
        some ((direct f preds inp ordered.length p).getD default) := by
      intro p hpm
      rcases hp n hn p hpm with ⟨hpo, _⟩ | hi
      · rw [hfix p hpo _ (Nat.le_refl _)]; rfl
      · obtain ⟨v, hv⟩ := Option.isSome_iff_exists.mp hi
        rw [direct_of_inp f preds inp _ p v hv]; rfl
    show (direct f preds inp ordered.length n).getD default = _
    rw [hfix n hn _ (Nat.le_refl _), Option.getD_some]
    exact congrArg (f n) (List.map_congr_left hval)
  · rw [direct_of_inp f preds inp _ n v hv]; rfl
  · rw [direct_stable ht hd f hout hp _ (Nat.le_refl _) n (by simpa using hn) k hk,
      hfix n hn _ (Nat.le_refl _)]; rfl

end direct

end MxModel.CalcSteps
