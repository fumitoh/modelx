import MxModel.Proofs.StructMechC3
/-!
# C3 linearisation commutes with an injective relabelling of the nodes

`mro_map`: if `bases' (f x) = (bases x).map f` for an injective `f`, the linearisation of `f q` over
`bases'` is the image of the linearisation of `q` over `bases` (and fails exactly when that one fails).
-/
namespace MxModel.C3

section
variable {α β : Type} (f : α → β)

theorem filter_ne_nil_map (seqs : List (List α)) :
    (seqs.map (List.map f)).filter (· ≠ []) = (seqs.filter (· ≠ [])).map (List.map f) := by
  rw [List.filter_map]
  congr 1
  apply List.filter_congr
  intro s _
  simp

theorem totalLen_map (seqs : List (List α)) : totalLen (seqs.map (List.map f)) = totalLen seqs := by
  unfold totalLen
  rw [List.map_map]
  congr 1
  apply List.map_congr_left
  intro s _
  simp

theorem mapM_map_comm {γ δ : Type} (g : α → Option γ) (g' : β → Option δ) (h : γ → δ) (l : List α)
    (hg : ∀ x ∈ l, g' (f x) = (g x).map h) : (l.map f).mapM g' = (l.mapM g).map (List.map h) := by
  induction l with
  | nil => rfl
  | cons x l ih =>
    simp only [List.map_cons, List.mapM_cons]
    rw [hg x (by simp), ih (fun y hy => hg y (List.mem_cons_of_mem _ hy))]
    cases g x with
    | none => rfl
    | some v =>
      cases l.mapM g with
      | none => rfl
      | some vs => rfl

end

variable {α β : Type} [DecidableEq α] [DecidableEq β] (f : α → β) (hf : ∀ x y, f x = f y → x = y)
include hf

theorem contains_map_inj (l : List α) (c : α) : (l.map f).contains (f c) = l.contains c := by
  rw [Bool.eq_iff_iff]
  simp only [List.contains_eq_mem, List.mem_map, decide_eq_true_eq]
  constructor
  · rintro ⟨x, hx, hxc⟩
    rw [← hf x c hxc]; exact hx
  · intro h; exact ⟨c, h, rfl⟩

theorem inTail_map (c : α) (s : List α) : inTail (f c) (s.map f) = inTail c s := by
  unfold inTail
  rw [← List.map_tail, contains_map_inj f hf]

theorem any_inTail_map (all : List (List α)) (c : α) :
    (all.map (List.map f)).any (inTail (f c)) = all.any (inTail c) := by
  rw [List.any_map]
  congr 1
  funext s
  exact inTail_map f hf c s

theorem pick_map (all : List (List α)) : ∀ (seqs : List (List α)),
    pick (all.map (List.map f)) (seqs.map (List.map f)) = (pick all seqs).map f := by
  intro seqs
  induction seqs with
  | nil => rfl
  | cons s rest ih =>
    cases s with
    | nil => simpa [pick] using ih
    | cons c t =>
      simp only [List.map_cons, pick]
      rw [any_inTail_map f hf, ih]
      split <;> rfl

theorem dropHead_map (c : α) (seqs : List (List α)) :
    dropHead (f c) (seqs.map (List.map f)) = (dropHead c seqs).map (List.map f) := by
  unfold dropHead
  rw [List.map_map, List.map_map]
  apply List.map_congr_left
  intro s _
  cases s with
  | nil => rfl
  | cons h t =>
    simp only [Function.comp, List.map_cons]
    by_cases hc : h = c
    · simp [hc]
    · have : f h ≠ f c := fun e => hc (hf h c e)
      simp [hc, this]

theorem merge_map : ∀ (fuel : Nat) (seqs : List (List α)),
    merge fuel (seqs.map (List.map f)) = (merge fuel seqs).map (List.map f)
  | 0, seqs => by
    simp only [merge, filter_ne_nil_map, List.isEmpty_map]
    split <;> rfl
  | fuel + 1, seqs => by
    simp only [merge, filter_ne_nil_map, List.isEmpty_map, pick_map f hf]
    split
    · rfl
    · cases pick (seqs.filter (· ≠ [])) (seqs.filter (· ≠ [])) with
      | none => rfl
      | some c =>
        simp only [Option.map_some, dropHead_map f hf, merge_map fuel]
        cases merge fuel (dropHead c (seqs.filter (· ≠ []))) <;> rfl

theorem mro_map (bases : α → List α) (bases' : β → List β) (hb : ∀ x, bases' (f x) = (bases x).map f) :
    ∀ (d : Nat) (q : α), mro bases' d (f q) = (mro bases d q).map (List.map f) := by
  intro d
  induction d with
  | zero => intro q; rfl
  | succ d ih =>
    intro q
    simp only [mro]
    rw [hb q, mapM_map_comm f (mro bases d) (mro bases' d) (List.map f) (bases q) (fun x _ => ih x)]
    cases (bases q).mapM (mro bases d) with
    | none => rfl
    | some ms =>
      simp only [Option.map_some]
      have : ms.map (List.map f) ++ [(bases q).map f] = (ms ++ [bases q]).map (List.map f) := by simp
      rw [this, totalLen_map, merge_map f hf]
      cases merge (totalLen (ms ++ [bases q])) (ms ++ [bases q]) <;> rfl

end MxModel.C3
