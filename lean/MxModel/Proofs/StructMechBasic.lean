import MxModel.Struct.Mech
import MxModel.Proofs.StructMechC3
/-!
# Containers and frame lemmas of the mechanism state (`MxModel.SM`)

`mget / mset / mdel`; what `St.upd` (hence `setMem`, `delMem`, `onInherit`) leaves alone: ids, direct
bases and everything computed from them (`mro`, `tail`, `subs`, `has`, `childNames`).
-/
namespace MxModel.SM
open MxModel.C3

def keys (ms : Members) : List String := ms.map (·.1)

@[simp] theorem mget_nil (n : String) : mget [] n = none := rfl

theorem mget_cons (e : String × Member) (ms : Members) (n : String) :
    mget (e :: ms) n = if e.1 = n then some e.2 else mget ms n := by
  by_cases h : e.1 = n <;> simp [mget, List.find?_cons, h]

theorem mget_isSome_iff (ms : Members) (n : String) : (mget ms n).isSome ↔ n ∈ keys ms := by
  unfold mget keys
  rw [Option.isSome_map, List.find?_isSome]
  simp only [beq_iff_eq, List.mem_map]

theorem mget_eq_none_iff (ms : Members) (n : String) : mget ms n = none ↔ n ∉ keys ms := by
  rw [← mget_isSome_iff]
  cases mget ms n <;> simp

theorem mget_mem (ms : Members) (n : String) (m : Member) (h : mget ms n = some m) : (n, m) ∈ ms := by
  simp only [mget, Option.map_eq_some_iff] at h
  obtain ⟨e, he, rfl⟩ := h
  have := List.find?_some he
  simp only [beq_iff_eq] at this
  exact this ▸ List.mem_of_find?_eq_some he

theorem find?_of_nodup {α β : Type} [BEq β] [LawfulBEq β] (key : α → β) (l : List α) (hnd : (l.map key).Nodup)
    (x : α) (hx : x ∈ l) : l.find? (fun y => key y == key x) = some x := by
  induction l with
  | nil => cases hx
  | cons t l ih =>
    simp only [List.map_cons, List.nodup_cons] at hnd
    rcases List.mem_cons.mp hx with rfl | hx
    · simp
    · have : key t ≠ key x := fun e => hnd.1 (e ▸ List.mem_map_of_mem hx)
      simp [List.find?_cons, this, ih hnd.2 hx]

theorem find?_congr' {α : Type} (l : List α) (p q : α → Bool) (h : ∀ x ∈ l, p x = q x) :
    l.find? p = l.find? q := by
  induction l with
  | nil => rfl
  | cons a l ih =>
    simp only [List.find?_cons]
    rw [h a (by simp), ih (fun x hx => h x (List.mem_cons_of_mem _ hx))]

theorem all_and_split {α : Type} (f g : α → Bool) (l : List α) :
    (l.all fun x => f x && g x) = (l.all f && l.all g) := by
  induction l with
  | nil => rfl
  | cons x l ih => simp only [List.all_cons, ih, Bool.and_assoc, Bool.and_left_comm]

theorem mget_of_mem (ms : Members) (hnd : (keys ms).Nodup) (n : String) (m : Member) (h : (n, m) ∈ ms) :
    mget ms n = some m := by
  unfold mget
  rw [find?_of_nodup (fun e : String × Member => e.1) ms hnd (n, m) h]
  rfl

theorem mget_append (xs ys : Members) (n : String) :
    mget (xs ++ ys) n = match mget xs n with | some m => some m | none => mget ys n := by
  unfold mget
  rw [List.find?_append]
  cases List.find? (fun e => e.1 == n) xs <;> rfl

theorem mget_mset_aux (ms : Members) (n : String) (m : Member) (n' : String) :
    mget (ms.map (fun e => if e.1 == n then (n, m) else e)) n' =
      if n' = n then (if (mget ms n).isSome then some m else none) else mget ms n' := by
  induction ms with
  | nil => simp
  | cons e ms ih =>
    simp only [List.map_cons, mget_cons, ih]
    grind

theorem mget_mset (ms : Members) (n : String) (m : Member) (n' : String) :
    mget (mset ms n m) n' = if n' = n then some m else mget ms n' := by
  unfold mset
  split
  · rw [mget_mset_aux]; grind
  · rw [mget_append]; simp only [mget_cons]; grind [mget]

theorem mget_mdel (ms : Members) (n n' : String) :
    mget (mdel ms n) n' = if n' = n then none else mget ms n' := by
  unfold mdel
  induction ms with
  | nil => simp
  | cons e ms ih =>
    simp only [List.filter_cons]
    split <;> simp only [mget_cons, ih] <;> grind

theorem keys_mset (ms : Members) (n : String) (m : Member) :
    keys (mset ms n m) = if n ∈ keys ms then keys ms else keys ms ++ [n] := by
  unfold mset
  by_cases h : n ∈ keys ms
  · rw [if_pos ((mget_isSome_iff ms n).mpr h), if_pos h]
    unfold keys
    rw [List.map_map]
    exact List.map_congr_left (fun e _ => by by_cases he : e.1 = n <;> simp [he])
  · rw [if_neg (fun h' => h ((mget_isSome_iff ms n).mp h')), if_neg h]
    simp [keys]

theorem nodup_mset (ms : Members) (n : String) (m : Member) (h : (keys ms).Nodup) :
    (keys (mset ms n m)).Nodup := by
  rw [keys_mset]
  split
  · exact h
  · rename_i hn
    exact List.nodup_append.mpr ⟨h, by simp, fun a ha b hb => by simp at hb; exact fun e => hn (hb ▸ e ▸ ha)⟩

theorem keys_mdel (ms : Members) (n : String) : keys (mdel ms n) = (keys ms).filter (· != n) := by
  unfold mdel keys
  rw [List.filter_map]
  rfl

theorem nodup_mdel (ms : Members) (n : String) (h : (keys ms).Nodup) : (keys (mdel ms n)).Nodup := by
  rw [keys_mdel]
  exact List.Nodup.sublist List.filter_sublist h

theorem mget_filter_defined (ms : Members) (hnd : (keys ms).Nodup) (n : String) :
    mget (ms.filter (fun e => !e.2.derived)) n =
      match mget ms n with
      | some m => if m.derived then none else some m
      | none => none := by
  induction ms with
  | nil => simp
  | cons e ms ih =>
    simp only [keys, List.map_cons, List.nodup_cons] at hnd
    have hn : e.1 = n → mget ms n = none := fun h => (mget_eq_none_iff ms n).mpr (h ▸ hnd.1)
    cases hd : e.2.derived <;> by_cases he : e.1 = n <;>
      simp [List.filter_cons, hd, he, mget_cons, ih hnd.2, hn]

@[simp] theorem Space.get_set (s : Space) (a a' : Attr) (ms : Members) :
    (s.set a ms).get a' = if a' = a then ms else s.get a' := by
  cases a <;> cases a' <;> simp [Space.set, Space.get]

@[simp] theorem Space.id_set (s : Space) (a : Attr) (ms : Members) : (s.set a ms).id = s.id := by
  cases a <;> rfl

@[simp] theorem Space.bases_set (s : Space) (a : Attr) (ms : Members) : (s.set a ms).bases = s.bases := by
  cases a <;> rfl

theorem find_some_mem (st : St) (p : Path) (s : Space) (h : st.find p = some s) : s ∈ st.spaces ∧ s.id = p := by
  unfold St.find at h
  exact ⟨List.mem_of_find?_eq_some h, by simpa using List.find?_some h⟩

theorem has_iff_mem_ids (st : St) (p : Path) : st.has p = true ↔ p ∈ st.ids := by
  unfold St.has St.find St.ids
  rw [List.find?_isSome]
  simp only [beq_iff_eq, List.mem_map]

theorem find_isSome_iff (st : St) (p : Path) : (st.find p).isSome ↔ p ∈ st.ids := has_iff_mem_ids st p

theorem find_none_iff (st : St) (p : Path) : st.find p = none ↔ p ∉ st.ids := by
  rw [← find_isSome_iff]
  cases st.find p <;> simp

theorem find_of_mem (st : St) (hnd : st.ids.Nodup) (s : Space) (hs : s ∈ st.spaces) : st.find s.id = some s :=
  show st.spaces.find? (fun y => y.id == s.id) = some s from find?_of_nodup Space.id st.spaces hnd s hs

theorem St.find_of_spaces {st st' : St} (h : st'.spaces = st.spaces) : st'.find = st.find := by
  funext q; unfold St.find; rw [h]

theorem St.ids_of_spaces {st st' : St} (h : st'.spaces = st.spaces) : st'.ids = st.ids := by
  unfold St.ids; rw [h]

theorem St.mem_of_spaces {st st' : St} (h : st'.spaces = st.spaces) (a : Attr) (q : Path) (n : String) :
    st'.mem a q n = st.mem a q n := by
  unfold St.mem; rw [St.find_of_spaces h]

section upd
variable (st : St) (p : Path) (f : Space → Space)

theorem find_upd (hid : ∀ s, (f s).id = s.id) (q : Path) :
    (st.upd p f).find q = if q = p then (st.find q).map f else st.find q := by
  unfold St.upd St.find
  simp only
  rw [List.find?_map]
  have hcomp : ((fun s : Space => s.id == q) ∘ fun s => if (s.id == p) = true then f s else s) =
      fun s : Space => s.id == q := by
    funext s
    simp only [Function.comp]
    split
    · rw [hid]
    · rfl
  rw [hcomp]
  cases hfd : List.find? (fun s : Space => s.id == q) st.spaces with
  | none => split <;> rfl
  | some s =>
    have hs : s.id = q := by simpa using List.find?_some hfd
    simp only [Option.map_some]
    by_cases hqp : q = p
    · simp [hqp, ← hs.trans hqp]
    · have : ¬ s.id = p := fun e => hqp (hs.symm.trans e)
      simp [hqp, this]

theorem ids_upd (hid : ∀ s, (f s).id = s.id) : (st.upd p f).ids = st.ids := by
  unfold St.upd St.ids
  simp only [List.map_map]
  apply List.map_congr_left
  intro s _
  simp only [Function.comp]
  split
  · exact hid s
  · rfl

theorem length_upd : (st.upd p f).spaces.length = st.spaces.length := by
  unfold St.upd; simp

theorem globals_upd : (st.upd p f).globals = st.globals := rfl

theorem has_upd (hid : ∀ s, (f s).id = s.id) (q : Path) : (st.upd p f).has q = st.has q := by
  rw [Bool.eq_iff_iff, has_iff_mem_ids, has_iff_mem_ids, ids_upd st p f hid]

theorem basesOf_upd (hid : ∀ s, (f s).id = s.id) (hb : ∀ s, (f s).bases = s.bases) :
    (st.upd p f).basesOf = st.basesOf := by
  funext q
  unfold St.basesOf
  rw [find_upd st p f hid]
  by_cases hqp : q = p
  · simp only [hqp, if_true]
    cases st.find p with
    | none => rfl
    | some s => simp [hb]
  · simp [hqp]

theorem mro_upd (hid : ∀ s, (f s).id = s.id) (hb : ∀ s, (f s).bases = s.bases) (q : Path) :
    (st.upd p f).mro q = st.mro q := by
  unfold St.mro
  rw [basesOf_upd st p f hid hb, length_upd]

theorem tail_upd (hid : ∀ s, (f s).id = s.id) (hb : ∀ s, (f s).bases = s.bases) (q : Path) :
    (st.upd p f).tail q = st.tail q := by
  unfold St.tail
  rw [mro_upd st p f hid hb]

theorem subs_upd (hid : ∀ s, (f s).id = s.id) (hb : ∀ s, (f s).bases = s.bases) (q : Path) :
    (st.upd p f).subs q = st.subs q := by
  unfold St.subs
  rw [ids_upd st p f hid]
  apply List.filter_congr
  intro x _
  rw [tail_upd st p f hid hb]

theorem childNames_upd (hid : ∀ s, (f s).id = s.id) (q : Path) :
    (st.upd p f).childNames q = st.childNames q := by
  unfold St.childNames St.upd
  simp only [List.filterMap_map]
  congr 1
  funext s
  simp only [Function.comp]
  split
  · rw [hid]
  · rfl

theorem mem_upd (hid : ∀ s, (f s).id = s.id) (a : Attr) (q : Path) (n : String) :
    (st.upd p f).mem a q n =
      if q = p then (match st.find q with | some s => mget ((f s).get a) n | none => none)
      else st.mem a q n := by
  unfold St.mem
  rw [find_upd st p f hid]
  by_cases hqp : q = p
  · simp only [hqp, if_true]
    cases st.find p <;> rfl
  · simp [hqp]

end upd

theorem St.mem_of_find (st : St) (a : Attr) (q : Path) (n : String) (s : Space) (h : st.find q = some s) :
    st.mem a q n = mget (s.get a) n := by
  unfold St.mem; rw [h]

theorem St.mem_of_find_none (st : St) (a : Attr) (q : Path) (n : String) (h : st.find q = none) :
    st.mem a q n = none := by
  unfold St.mem; rw [h]

theorem St.basesOf_of_not_mem (st : St) (q : Path) (h : q ∉ st.ids) : st.basesOf q = [] := by
  unfold St.basesOf
  rw [(find_none_iff st q).mpr h]

theorem St.basesOf_mem (st : St) (q b : Path) (h : b ∈ st.basesOf q) :
    ∃ s ∈ st.spaces, s.id = q ∧ b ∈ s.bases := by
  unfold St.basesOf at h
  cases hf : st.find q with
  | none => rw [hf] at h; cases h
  | some s =>
    rw [hf] at h
    obtain ⟨h1, h2⟩ := find_some_mem st q s hf
    exact ⟨s, h1, h2, h⟩

theorem St.mro_of_not_mem (st : St) (q : Path) (h : q ∉ st.ids) : st.mro q = some [q] := by
  unfold St.mro
  have hb := St.basesOf_of_not_mem st q h
  simp [C3.mro, hb, totalLen, merge]

theorem St.tail_of_not_mem (st : St) (q : Path) (h : q ∉ st.ids) : st.tail q = [] := by
  unfold St.tail
  rw [St.mro_of_not_mem st q h]
  rfl

theorem St.mro_head (st : St) (q : Path) (l : List Path) (h : st.mro q = some l) : l = q :: st.tail q := by
  obtain ⟨r, rfl⟩ := C3.mro_head _ _ _ _ h
  unfold St.tail
  rw [h]
  rfl

theorem St.mro_eq_of_tail (st : St) (q : Path) (h : (st.mro q).isSome) : st.mro q = some (q :: st.tail q) := by
  cases hm : st.mro q with
  | none => rw [hm] at h; cases h
  | some l => rw [St.mro_head st q l hm]

theorem isPrefix_iff (p q : Path) : isPrefix p q = true ↔ p <+: q := by
  unfold isPrefix
  rw [beq_iff_eq, List.prefix_iff_eq_take]
  exact ⟨fun h => h.symm, fun h => h.symm⟩

theorem isPrefix_eq_false {p q : Path} (h : ¬ p <+: q) : isPrefix p q = false :=
  Bool.eq_false_iff.mpr (fun hh => h ((isPrefix_iff p q).mp hh))

end MxModel.SM
