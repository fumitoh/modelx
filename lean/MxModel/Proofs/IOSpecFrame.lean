import MxModel.Proofs.IOSpecLoc
/-! What each function of the model computes, as one case lemma per function; what every operation does to the
list of specs (elementary changes, `STrans`) and to the list of closed models (nothing, unless it is `close`: `Evolves`);
what the operations that touch nothing but specs keep (`Respec`, `Moves`) and what every operation should (`Survives`);
and `Act`, a step without the guards of `stepR`: the form in which the files that follow take an operation apart. -/
namespace MxModel.IOSpec

/-- the part of the state the spec invariants are about -/
def sp (st : St) : List Spec × Nat := (st.specs, st.nextSid)

/-- the state of `change_ref` after the new reference was registered -/
def afterAppend (st : St) (o : Owner) (n : String) (v : Val) : St :=
  if v.tracked then v2rAppend (implChangeRef st o n v) o.model v (mkRef st o n v)
  else implChangeRef st o n v

theorem rmChangeRef_cases (st : St) (o : Owner) (n : String) (v : Val) :
    (refLookup st.refs o n = none ∧ rmChangeRef st o n v = (st, .error .key)) ∨
    ∃ prev, refLookup st.refs o n = some prev ∧
      rmChangeRef st o n v = (changeDrop (afterAppend st o n v) o.model prev, .ok ()) := by
  unfold rmChangeRef afterAppend
  cases refLookup st.refs o n with
  | none => exact Or.inl ⟨rfl, rfl⟩
  | some prev =>
    refine Or.inr ⟨prev, rfl, ?_⟩
    dsimp only
    split <;> rfl

theorem rmUpdateValue_cases (st : St) (m : Nat) (old new : Val) :
    (rmUpdateValue st m old new).1 = st ∨
    ∃ l, alookup st.v2r (m, old) = some l ∧ new.tracked = true ∧
      ((getSpecFromValue st m old = none ∧ rmUpdateValue st m old new = updLoop st m old new l.reverse []) ∨
       ∃ σ, getSpecFromValue st m old = some σ ∧ new.isPandas = true ∧
         rmUpdateValue st m old new = updLoop (setSpecVal st σ new) m old new l.reverse []) := by
  unfold rmUpdateValue
  cases alookup st.v2r (m, old) with
  | none => exact Or.inl rfl
  | some l =>
    dsimp only
    cases ht : new.tracked with
    | false => exact Or.inl rfl
    | true =>
      cases getSpecFromValue st m old with
      | none => exact Or.inr ⟨l, rfl, rfl, Or.inl ⟨rfl, rfl⟩⟩
      | some σ =>
        dsimp only
        cases hp : new.isPandas with
        | false => exact Or.inl rfl
        | true => exact Or.inr ⟨l, rfl, rfl, Or.inr ⟨σ, rfl, rfl, rfl⟩⟩

theorem setAttr_cases (kw : List String) (st : St) (o : Owner) (n : String) (v : Val) :
    (∃ e, setAttr kw st o n v = (st, .error e) ∧ (e = .value ∨ e = .key ∨ e = .attribute)) ∨
    (∃ prev, refLookup st.refs o n = some prev ∧ setAttr kw st o n v = rmChangeRef st o n v) ∨
    (refLookup st.refs o n = none ∧ setAttr kw st o n v = (rmNewRef st o n v, .ok ())) ∨
    (o.space ≠ 0 ∧ cellsLookup st.cells o n = some true ∧ setAttr kw st o n v = (st, .ok ())) := by
  generalize hR : setAttr kw st o n v = R
  unfold setAttr at hR
  by_cases ho : o.space = 0
  · rw [if_pos ho] at hR
    split at hR
    · exact Or.inl ⟨_, hR.symm, Or.inr (Or.inl rfl)⟩
    · cases hl : refLookup st.refs o n with
      | some prev => rw [hl] at hR; exact Or.inr (Or.inl ⟨prev, rfl, hR.symm⟩)
      | none => rw [hl] at hR; exact Or.inr (Or.inr (Or.inl ⟨rfl, hR.symm⟩))
  · rw [if_neg ho] at hR
    split at hR
    · exact Or.inl ⟨_, hR.symm, Or.inl rfl⟩
    · cases hl : refLookup st.refs o n with
      | some prev => rw [hl] at hR; exact Or.inr (Or.inl ⟨prev, rfl, hR.symm⟩)
      | none =>
        rw [hl] at hR
        dsimp only at hR
        split at hR
        · exact Or.inr (Or.inr (Or.inl ⟨rfl, hR.symm⟩))
        · cases hc : cellsLookup st.cells o n with
          | none => rw [hc] at hR; exact Or.inr (Or.inr (Or.inl ⟨rfl, hR.symm⟩))
          | some b =>
            rw [hc] at hR
            cases b with
            | true => exact Or.inr (Or.inr (Or.inr ⟨ho, rfl, hR.symm⟩))
            | false => exact Or.inl ⟨_, hR.symm, Or.inr (Or.inr rfl)⟩

theorem delAttr_cases (st : St) (o : Owner) (n : String) :
    (delAttr st o n).1 = st ∨
    (∃ s, o.space = 0 ∧ spaceNamed st o.model n = some s ∧ delAttr st o n = (delSpace st s, .ok ())) ∨
    (∃ prev, refLookup st.refs o n = some prev ∧ delAttr st o n = rmDelRef st o n) ∨
    (delAttr st o n).1 = { st with cells := st.cells.filter (fun c => ¬ (c.1 = o ∧ c.2.1 = n)) } := by
  generalize hR : delAttr st o n = R
  unfold delAttr at hR
  by_cases ho : o.space = 0
  · rw [if_pos ho] at hR
    cases hs : spaceNamed st o.model n with
    | some s => rw [hs] at hR; exact Or.inr (Or.inl ⟨s, ho, rfl, hR.symm⟩)
    | none =>
      rw [hs] at hR
      cases hl : refLookup st.refs o n with
      | some prev => rw [hl] at hR; exact Or.inr (Or.inr (Or.inl ⟨prev, rfl, hR.symm⟩))
      | none => rw [hl] at hR; exact Or.inl (hR ▸ rfl)
  · rw [if_neg ho] at hR
    cases hc : cellsLookup st.cells o n with
    | some b => rw [hc] at hR; exact Or.inr (Or.inr (Or.inr (hR ▸ rfl)))
    | none =>
      rw [hc] at hR
      cases hl : refLookup st.refs o n with
      | some prev => rw [hl] at hR; exact Or.inr (Or.inr (Or.inl ⟨prev, rfl, hR.symm⟩))
      | none =>
        rw [hl] at hR
        dsimp only at hR
        split at hR <;> exact Or.inl (hR ▸ rfl)

/-- the spec `new_spec` builds -/
def mkSpec (st : St) (m : Nat) (path : String) (csv : Bool) (sheet : Option String) (data : Val) : Spec :=
  ⟨st.nextSid, m, path, ftOf st.specs m path csv, sheet, data⟩

/-- the state right after `new_spec` succeeded -/
def withSpec (st : St) (σ : Spec) : St :=
  { st with specs := insertSpec st.specs σ, nextSid := st.nextSid + 1 }

theorem newSpec_cases (st : St) (m : Nat) (path : String) (csv : Bool) (sheet : Option String) (data : Val) :
    (∃ e, newSpec st m path csv sheet data = (st, .error e)) ∨
    (data.isPandas = true ∧ canAdd (ioSpecs st.specs m path) sheet = true ∧
      newSpec st m path csv sheet data =
        (withSpec st (mkSpec st m path csv sheet data), .ok (mkSpec st m path csv sheet data))) := by
  unfold newSpec
  cases hp : data.isPandas with
  | false => exact Or.inl ⟨_, rfl⟩
  | true =>
    cases hc : canAdd (ioSpecs st.specs m path) sheet with
    | false => exact Or.inl ⟨_, rfl⟩
    | true => exact Or.inr ⟨rfl, rfl, rfl⟩

theorem rmChangeRef_ok {st : St} {o : Owner} {n : String} {prev : Ref} (v : Val)
    (hl : refLookup st.refs o n = some prev) : (rmChangeRef st o n v).2 = .ok () := by
  rcases rmChangeRef_cases st o n v with ⟨h, _⟩ | ⟨_, _, e⟩
  · rw [hl] at h; cases h
  · rw [e]

/-- an assignment that is refused leaves the state as it was, and raises one of the errors `new_pandas` catches -/
theorem setAttr_error {kw : List String} {st : St} {o : Owner} {n : String} {v : Val} {e : Rej}
    (he : (setAttr kw st o n v).2 = .error e) :
    setAttr kw st o n v = (st, .error e) ∧ (e = .value ∨ e = .key ∨ e = .attribute) := by
  rcases setAttr_cases kw st o n v with ⟨e', h1, h2⟩ | ⟨prev, hl, h1⟩ | ⟨hl, h1⟩ | ⟨ho, hc, h1⟩
  · rw [h1] at he; cases he; exact ⟨h1, h2⟩
  · rw [h1, rmChangeRef_ok v hl] at he; cases he
  · rw [h1] at he; cases he
  · rw [h1] at he; cases he

theorem newPandas_cases (kw : List String) (st : St) (o : Owner) (n path : String) (csv : Bool)
    (sheet : Option String) (data : Val) :
    (∃ e, newPandas kw st o n path csv sheet data = (st, .error e)) ∨
    (data.isPandas = true ∧ canAdd (ioSpecs st.specs o.model path) sheet = true ∧
      ((setAttr kw (withSpec st (mkSpec st o.model path csv sheet data)) o n data).2 = .ok () ∧
        newPandas kw st o n path csv sheet data =
          ((setAttr kw (withSpec st (mkSpec st o.model path csv sheet data)) o n data).1, .ok ()) ∨
       newPandas kw st o n path csv sheet data =
          (delSpec (withSpec st (mkSpec st o.model path csv sheet data)) (mkSpec st o.model path csv sheet data),
            .error .key))) := by
  unfold newPandas
  rcases newSpec_cases st o.model path csv sheet data with ⟨e, he⟩ | ⟨hp, hc, he⟩
  · rw [he]; exact Or.inl ⟨e, rfl⟩
  · rw [he]
    refine Or.inr ⟨hp, hc, ?_⟩
    dsimp only
    cases hres : setAttr kw (withSpec st (mkSpec st o.model path csv sheet data)) o n data with
    | mk st2 res =>
      cases res with
      | ok u => exact Or.inl ⟨rfl, rfl⟩
      | error e =>
        obtain ⟨b1, b2⟩ := setAttr_error (show (setAttr kw _ o n data).2 = .error e by rw [hres])
        rw [hres] at b1
        cases b1
        exact Or.inr (by dsimp only; rw [if_pos b2])

theorem closeModel_cases (st : St) (m : Nat) :
    (∃ e, rmSpecs st m = .error e ∧ closeModel st m = (st, .error e)) ∨
    ∃ L, rmSpecs st m = .ok L ∧
      closeModel st m = ({ L.reverse.foldl delSpec st with
        models := (L.reverse.foldl delSpec st).models.filter (· ≠ m),
        closed := m :: (L.reverse.foldl delSpec st).closed }, .ok ()) := by
  unfold closeModel rmDelAllSpec
  cases rmSpecs st m with
  | error e => exact Or.inl ⟨e, rfl, rfl⟩
  | ok L => exact Or.inr ⟨L, rfl, rfl⟩

theorem foldl_delSpec_fields (l : List Spec) : ∀ st : St,
    (l.foldl delSpec st).refs = st.refs ∧ (l.foldl delSpec st).v2r = st.v2r ∧
    (l.foldl delSpec st).nextRid = st.nextRid ∧ (l.foldl delSpec st).models = st.models ∧
    (l.foldl delSpec st).closed = st.closed ∧
    ∀ τ, τ ∈ (l.foldl delSpec st).specs ↔ τ ∈ st.specs ∧ ∀ σ ∈ l, τ.sid ≠ σ.sid := by
  induction l with
  | nil => intro st; simp
  | cons σ rest ih =>
    intro st
    obtain ⟨a, b, c, d, e, f⟩ := ih (delSpec st σ)
    refine ⟨a, b, c, d, e, fun τ => ?_⟩
    rw [List.foldl_cons, f τ, mem_delSpec]
    simp only [List.mem_cons, forall_eq_or_imp, and_assoc]

variable {Q : Nat → String → Prop}

/-- what an operation other than `close` does: elementary changes of the specs; the closed models stay -/
def Evolves (Q : Nat → String → Prop) (st st' : St) : Prop :=
  STrans Q (sp st) (sp st') ∧ st'.closed = st.closed

theorem Evolves.refl (st : St) : Evolves Q st st := ⟨.refl _, rfl⟩

theorem Evolves.trans {a b c : St} (h1 : Evolves Q a b) (h2 : Evolves Q b c) : Evolves Q a c :=
  ⟨.trans h1.1 h2.1, h2.2.trans h1.2⟩

theorem Evolves.of_eq {a b : St} (hs : sp b = sp a) (hc : b.closed = a.closed) : Evolves Q a b :=
  ⟨by rw [hs]; exact .refl _, hc⟩

theorem evolves_delSpec (st : St) (σ : Spec) : Evolves Q st (delSpec st σ) :=
  ⟨.del st.specs st.nextSid σ.sid, rfl⟩

theorem evolves_dropIfEmpty (st : St) (m : Nat) (v : Val) (l : List Ref) :
    Evolves Q st (dropIfEmpty st m v l) := by
  unfold dropIfEmpty
  split
  · cases getSpecFromValue st m v with
    | some σ => exact ⟨.del st.specs st.nextSid σ.sid, rfl⟩
    | none => exact .of_eq rfl rfl
  · exact .of_eq rfl rfl

theorem evolves_changeDrop (st : St) (m : Nat) (prev : Ref) : Evolves Q st (changeDrop st m prev) := by
  unfold changeDrop
  split
  · exact .refl st
  · exact evolves_dropIfEmpty st m _ _

theorem evolves_rmNewRef (st : St) (o : Owner) (n : String) (v : Val) : Evolves Q st (rmNewRef st o n v) := by
  unfold rmNewRef; split <;> exact .of_eq rfl rfl

theorem evolves_rmDelRef (st : St) (o : Owner) (n : String) : Evolves Q st (rmDelRef st o n).1 := by
  have hdel : Evolves Q st (implDelRef st o n) := .of_eq rfl rfl
  unfold rmDelRef
  split
  · exact .refl st
  · split
    · exact hdel
    · split
      · exact hdel
      · exact hdel
      · split
        · exact hdel.trans (evolves_dropIfEmpty _ _ _ _)
        · exact hdel

theorem evolves_rmChangeRef (st : St) (o : Owner) (n : String) (v : Val) :
    Evolves Q st (rmChangeRef st o n v).1 := by
  rcases rmChangeRef_cases st o n v with ⟨_, e⟩ | ⟨prev, _, e⟩ <;> rw [e]
  · exact .refl st
  · refine Evolves.trans (b := afterAppend st o n v) ?_ (evolves_changeDrop _ o.model prev)
    unfold afterAppend v2rAppend implChangeRef implNewRef implDelRef
    split <;> exact ⟨.refl _, rfl⟩

theorem evolves_updLoop (m : Nat) (old new : Val) (todo : List Ref) :
    ∀ (st : St) (acc : List Ref), Evolves Q st (updLoop st m old new todo acc).1 := by
  induction todo with
  | nil => intro st acc; exact .of_eq rfl rfl
  | cons r rest ih =>
    intro st acc
    unfold updLoop
    split
    · exact .of_eq rfl rfl
    · exact Evolves.trans (b := implChangeRef st r.owner r.name new) (.of_eq rfl rfl) (ih _ _)

theorem evolves_rmUpdateValue (st : St) (m : Nat) (old new : Val) :
    Evolves Q st (rmUpdateValue st m old new).1 := by
  rcases rmUpdateValue_cases st m old new with e | ⟨l, _, _, ⟨_, e⟩ | ⟨σ, _, _, e⟩⟩ <;> rw [e]
  · exact .refl st
  · exact evolves_updLoop m old new _ st []
  · exact Evolves.trans (b := setSpecVal st σ new) ⟨.setVal st.specs st.nextSid _ _, rfl⟩
      (evolves_updLoop m old new _ _ [])

theorem evolves_setAttr (kw : List String) (st : St) (o : Owner) (n : String) (v : Val) :
    Evolves Q st (setAttr kw st o n v).1 := by
  rcases setAttr_cases kw st o n v with ⟨_, e, _⟩ | ⟨_, _, e⟩ | ⟨_, e⟩ | ⟨_, _, e⟩ <;> rw [e]
  · exact .refl st
  · exact evolves_rmChangeRef st o n v
  · exact evolves_rmNewRef st o n v
  · exact .refl st

theorem evolves_delAttr (st : St) (o : Owner) (n : String) : Evolves Q st (delAttr st o n).1 := by
  rcases delAttr_cases st o n with e | ⟨s, _, _, e⟩ | ⟨_, _, e⟩ | e <;> rw [e]
  · exact .refl st
  · exact .of_eq rfl rfl
  · exact evolves_rmDelRef st o n
  · exact .of_eq rfl rfl

theorem evolves_newPandas (kw : List String) (st : St) (o : Owner) (n path : String) (csv : Bool)
    (sheet : Option String) (data : Val) (hq : Q o.model path) :
    Evolves Q st (newPandas kw st o n path csv sheet data).1 := by
  rcases newPandas_cases kw st o n path csv sheet data with ⟨_, e⟩ | ⟨_, hc, ⟨_, e⟩ | e⟩ <;> rw [e]
  · exact .refl st
  all_goals
    have h1 : Evolves Q st (withSpec st (mkSpec st o.model path csv sheet data)) :=
      ⟨.add st.specs st.nextSid o.model path csv sheet data hc hq, rfl⟩
  · exact h1.trans (evolves_setAttr kw _ o n data)
  · exact h1.trans (evolves_delSpec _ _)

/-- `st'` is `st` but for the specs: none of them is new, each has the identity, model and value it had -/
structure Respec (st st' : St) : Prop where
  refs : st'.refs = st.refs
  v2r : st'.v2r = st.v2r
  nextRid : st'.nextRid = st.nextRid
  specs : ∀ τ ∈ st'.specs, ∃ σ ∈ st.specs, σ.sid = τ.sid ∧ σ.group = τ.group ∧ σ.val = τ.val

theorem Respec.of_sub {st st' : St} (hr : st'.refs = st.refs) (hv : st'.v2r = st.v2r) (hn : st'.nextRid = st.nextRid)
    (hs : ∀ τ ∈ st'.specs, τ ∈ st.specs) : Respec st st' :=
  ⟨hr, hv, hn, fun τ hτ => ⟨τ, hs τ hτ, rfl, rfl, rfl⟩⟩

theorem Respec.refl (st : St) : Respec st st := .of_sub rfl rfl rfl fun _ hτ => hτ

/-- specs move (to another sheet, another path): elementary changes of the specs alone, and each spec is still there
under its identity -/
structure Moves (Q : Nat → String → Prop) (st st' : St) : Prop where
  evolves : Evolves Q st st'
  respec : Respec st st'
  kept : ∀ σ ∈ st.specs, ∃ τ ∈ st'.specs, τ.sid = σ.sid

theorem Moves.refl (st : St) : Moves Q st st :=
  ⟨.refl st, .refl st, fun σ hσ => ⟨σ, hσ, rfl⟩⟩

/-- a spec of `st` to whose value a reference of its model is bound in `st'` is still there, under its identity -/
def Survives (st st' : St) : Prop :=
  ∀ σ ∈ st.specs, (∃ r ∈ st'.refs, r.owner.model = σ.group ∧ r.val = σ.val) → ∃ τ ∈ st'.specs, τ.sid = σ.sid

theorem Survives.of_kept {st st' : St} (hk : ∀ σ ∈ st.specs, ∃ τ ∈ st'.specs, τ.sid = σ.sid) : Survives st st' :=
  fun σ hσ _ => hk σ hσ

theorem Survives.of_specs {st st' : St} (e : st'.specs = st.specs) : Survives st st' :=
  .of_kept fun σ hσ => ⟨σ, e ▸ hσ, rfl⟩

theorem setSheet_spec (st : St) (m : Nat) (v : Val) (sh : Option String) : Moves Q st (setSheet st m v sh).1 := by
  unfold setSheet
  cases hg : getSpecFromValue st m v with
  | none => exact .refl st
  | some σ0 =>
    dsimp only
    split
    · rename_i hf
      refine ⟨⟨.setSheet st.specs st.nextSid σ0 sh (getSpec_some hg).1 hf, rfl⟩, ⟨rfl, rfl, rfl, fun τ hτ => ?_⟩,
        fun σ hσ => ⟨_, List.mem_map.mpr ⟨σ, hσ, rfl⟩, setSheetMap_sid _ _ _⟩⟩
      obtain ⟨σ, hσ, rfl⟩ := List.mem_map.1 hτ
      exact ⟨σ, hσ, (setSheetMap_sid _ _ _).symm, (setSheetMap_group _ _ _).symm, (setSheetMap_val _ _ _).symm⟩
    · exact .refl st

theorem setPath_spec (st : St) (m : Nat) (v : Val) (path : String)
    (hq : ∀ σ, getSpecFromValue st m v = some σ → Q σ.group path) : Moves Q st (setPath st m v path).1 := by
  unfold setPath
  cases hg : getSpecFromValue st m v with
  | none => exact .refl st
  | some σ0 =>
    dsimp only
    split
    · exact .refl st
    · rename_i hne
      split
      · rename_i hfree
        refine ⟨⟨.setPath st.specs st.nextSid σ0.group σ0.path path hne (List.isEmpty_iff.1 hfree) (hq σ0 hg), rfl⟩,
          ⟨rfl, rfl, rfl, fun τ hτ => ?_⟩, fun σ hσ => ?_⟩
        · rcases mem_movePath.mp hτ with ⟨h0, _⟩ | ⟨σ1, h1, _, _, rfl⟩
          · exact ⟨τ, h0, rfl, rfl, rfl⟩
          · exact ⟨σ1, h1, rfl, rfl, rfl⟩
        · by_cases hio : σ.group = σ0.group ∧ σ.path = σ0.path
          · exact ⟨{ σ with path := path }, mem_movePath.mpr (Or.inr ⟨σ, hσ, hio.1, hio.2, rfl⟩), rfl⟩
          · exact ⟨σ, mem_movePath.mpr (Or.inl ⟨hσ, hio⟩), rfl⟩
      · exact .refl st

theorem delSpecOf_spec (st : St) (m : Nat) (v : Val) :
    Evolves Q st (delSpecOf st m v).1 ∧ Respec st (delSpecOf st m v).1 := by
  unfold delSpecOf
  split
  · exact ⟨.refl st, .refl st⟩
  · exact ⟨evolves_delSpec st _, .of_sub rfl rfl rfl fun τ hτ => (mem_delSpec.mp hτ).1⟩

theorem strans_foldl_delSpec (l : List Spec) : ∀ st : St, STrans Q (sp st) (sp (l.foldl delSpec st)) := by
  induction l with
  | nil => intro st; exact .refl _
  | cons σ rest ih => intro st; exact .trans (.del st.specs st.nextSid σ.sid) (ih (delSpec st σ))

theorem strans_closeModel (st : St) (m : Nat) : STrans Q (sp st) (sp (closeModel st m).1) := by
  rcases closeModel_cases st m with ⟨_, _, e⟩ | ⟨L, _, e⟩ <;> rw [e]
  · exact .refl _
  · exact strans_foldl_delSpec L.reverse st

theorem respec_closeModel (st : St) (m : Nat) : Respec st (closeModel st m).1 := by
  rcases closeModel_cases st m with ⟨_, _, e⟩ | ⟨L, _, e⟩ <;> rw [e]
  · exact .refl st
  · obtain ⟨a, b, c, _, _, f⟩ := foldl_delSpec_fields L.reverse st
    exact .of_sub a b c fun τ hτ => ((f τ).mp hτ).1

/-- what an operation does when it is not turned away at the door (a dead handle, a name that is taken, a closed
model): the three operations that create a model, a space or a cells leave references, `_valid_to_refs`, specs
and the closed models alone; every other one is a function of the model -/
inductive Act (kw : List String) (st : St) : Op → St → Prop
  | admin (op : Op) (st' : St) (hr : st'.refs = st.refs) (hv : st'.v2r = st.v2r) (hn : st'.nextRid = st.nextRid)
      (hs : sp st' = sp st) (hc : st'.closed = st.closed) : Act kw st op st'
  | newPandas (o name path csv sheet data) (h : st.closed.contains o.model = false) :
      Act kw st (.newPandas o name path csv sheet data) (newPandas kw st o name (normPath path) csv sheet data).1
  | bind (o name v) : Act kw st (.bind o name v) (setAttr kw st o name v).1
  | del (o name) : Act kw st (.del o name) (delAttr st o name).1
  | update (m old new) : Act kw st (.update m old new) (rmUpdateValue st m old new).1
  | setSheet (m v sh) : Act kw st (.setSheet m v sh) (setSheet st m v sh).1
  | setPath (m v p) : Act kw st (.setPath m v p) (setPath st m v (normPath p)).1
  | delSpec (m v) : Act kw st (.delSpec m v) (delSpecOf st m v).1
  | close (m) (h : st.closed.contains m = false) : Act kw st (.close m) (closeModel st m).1

theorem step_act (kw : List String) (st : St) (op : Op) : Act kw st op (step kw st op) := by
  have same : Act kw st op st := .admin op st rfl rfl rfl rfl rfl
  unfold step stepR
  cases op with
  | newModel m => dsimp only; split; exact same; exact .admin _ _ rfl rfl rfl rfl rfl
  | newSpace m s name =>
    dsimp only; split
    · exact same
    · split; exact same; exact .admin _ _ rfl rfl rfl rfl rfl
  | newCells o name sc =>
    dsimp only; split
    · exact same
    · split; exact same; exact .admin _ _ rfl rfl rfl rfl rfl
  | newPandas o name path csv sheet data =>
    dsimp only; split
    · exact same
    · split
      · exact same
      · rename_i hc; exact .newPandas o name path csv sheet data (by simpa using hc)
  | bind o name v => dsimp only; split; exact same; exact .bind o name v
  | del o name => dsimp only; split; exact same; exact .del o name
  | update m old new => dsimp only; split; exact same; exact .update m old new
  | setSheet m v sh => dsimp only; split; exact same; exact .setSheet m v sh
  | setPath m v p => dsimp only; split; exact same; exact .setPath m v p
  | delSpec m v => dsimp only; split; exact same; exact .delSpec m v
  | close m =>
    dsimp only; split
    · exact same
    · split
      · exact same
      · rename_i hc; exact .close m (by simpa using hc)

/-- the models that may be given a new io key: one that has a spec (the path setter moves its file), one that is not
closed (`new_pandas` is refused otherwise) -/
def MayClaim (st : St) (m : Nat) (_ : String) : Prop :=
  (∃ σ ∈ st.specs, σ.group = m) ∨ st.closed.contains m = false

theorem Act.evolves {kw : List String} {st st' : St} {op : Op} (a : Act kw st op st') :
    Evolves (MayClaim st) st st' ∨
    ∃ m, op = .close m ∧ st.closed.contains m = false ∧ st' = (closeModel st m).1 := by
  cases a with
  | admin _ _ _ _ _ hs hc => exact Or.inl (.of_eq hs hc)
  | newPandas o name path csv sheet data hc =>
    exact Or.inl (evolves_newPandas kw st o name (normPath path) csv sheet data (Or.inr hc))
  | bind o name v => exact Or.inl (evolves_setAttr kw st o name v)
  | del o name => exact Or.inl (evolves_delAttr st o name)
  | update m old new => exact Or.inl (evolves_rmUpdateValue st m old new)
  | setSheet m v sh => exact Or.inl (setSheet_spec st m v sh).evolves
  | setPath m v path =>
    refine Or.inl (setPath_spec st m v (normPath path) fun σ hσ => ?_).evolves
    exact Or.inl ⟨σ, (getSpec_some hσ).1, rfl⟩
  | delSpec m v => exact Or.inl (delSpecOf_spec st m v).1
  | close m hc => exact Or.inr ⟨m, rfl, hc, rfl⟩

theorem Act.strans {kw : List String} {st st' : St} {op : Op} (a : Act kw st op st') :
    STrans (MayClaim st) (sp st) (sp st') := by
  rcases a.evolves with e | ⟨m, _, _, rfl⟩
  · exact e.1
  · exact strans_closeModel st m

end MxModel.IOSpec
