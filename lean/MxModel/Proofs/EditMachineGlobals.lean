import MxModel.Proofs.EditMachineRun
/-!
# Model-level references in the combined machine: the coverage proofs

* `model.x = v` / `del model.x` (`OpG.setGlobal` / `delGlobal`): `CoversGlobal` – every cells of every
  space is notified, every slot through which the model-level reference `x` was seen is reader-free –
  is what the Boolean `coveredGlobal` says (`coveredGlobal_sound`), holds for `globalClearing`
  (`coversGlobal_globalClearing`) and suffices for the certificate invariant under the NEW tables
  (`global_ci`: `struct_ci_of_tables`, where only the slots named `x` without a reference member change).
* the ten structural operations with model-level references present (`coversG_clearingG`): from
  `SM.Inv`, `clearing ++ shadowClears` covers – the member clauses are `Covers` (`covers_of_inv`), the
  slot clauses: a slot `(q, x)` changes what it denotes iff the reference entry changes (covered by
  `Covers.refs*`; created over a visible model-level reference: `shadowClears`), or a cells `x` appears
  in / vanishes from `q` (the plain namespace of `q` changes at `x`: `Covers.ns` for the tables without
  declared slots; appears: `shadowedCells`), or `q` is deleted (`orphanClears`: the
  `clear_attr_referrers` of `BaseSpaceImpl.on_delete` for the model-level references, /repo 40cbe69).
-/
namespace MxModel.Edit
open MxModel.Exec MxModel.C02 MxModel.SM

variable {lt : Node → Node → Prop}

theorem touchedBy_append_left {cl cl' : List Clear} {c : CellId} (h : touchedBy cl c = true) :
    touchedBy (cl ++ cl') c = true := by
  unfold touchedBy at h ⊢
  rw [List.any_append, h]; rfl

theorem clearedBy_append_left {cl cl' : List Clear} {c : CellId} (h : clearedBy cl c = true) :
    clearedBy (cl ++ cl') c = true := by
  unfold clearedBy at h ⊢
  rw [List.any_append, h]; rfl

theorem mem_globalAttr {t : Tabs} {st : SM.St} {q : Path} {x : String} (hr : (q, x) ∈ t.rtab)
    (hm : st.mem .refs q x = none) (hc : st.mem .cells q x = none) :
    Clear.attr (t.rid q x) ∈ globalAttr t st x := by
  unfold globalAttr
  refine List.mem_map.mpr ⟨(q, x), ?_, rfl⟩
  simp [List.mem_filter, hr, hm, hc]

structure CoversGlobal (t : Tabs) (st : SM.St) (x : String) (cl : List Clear) : Prop where
  ns : ∀ q, q ∈ st.ids → ∀ c ∈ cellsOf t st q, touchedBy cl c = true
  attr : ∀ q, (refPay t st q x).isSome = true → st.mem .refs q x = none → (q, x) ∈ t.rtab →
    Clear.attr (t.rid q x) ∈ cl

theorem coveredGlobal_sound (t : Tabs) (st : SM.St) (x : String) (cl : List Clear)
    (h : coveredGlobal t st x cl = true) : CoversGlobal t st x cl := by
  unfold coveredGlobal at h
  rw [List.all_eq_true] at h
  refine ⟨?_, ?_⟩
  · intro q hq c hc
    have := h q hq
    simp only [Bool.and_eq_true, List.all_eq_true] at this
    exact this.1 c hc
  · intro q hs hm _
    have hq : q ∈ st.ids := (has_iff_mem_ids st q).mp (refPay_global hs hm).1
    have := h q hq
    simp only [Bool.and_eq_true, Bool.or_eq_true] at this
    rcases this.2 with (h1 | h1) | h1
    · rw [Option.isNone_iff_eq_none] at h1
      rw [h1] at hs; cases hs
    · rw [hm] at h1; cases h1
    · simpa using h1

/-- `ModelImpl.new_ref` / `change_ref` / `del_ref`; no hypothesis -/
theorem coversGlobal_globalClearing (t : Tabs) (st : SM.St) (x : String) :
    CoversGlobal t st x (globalClearing t st x) := by
  refine ⟨?_, ?_⟩
  · intro q hq c hc
    refine touchedBy_of_ns (L := cellsOf t st q) ?_ hc
    unfold globalClearing
    exact List.mem_append_right _ (List.mem_map.mpr ⟨q, hq, rfl⟩)
  · intro q hs hm hr
    obtain ⟨_, hc, hg⟩ := refPay_global hs hm
    unfold globalClearing
    apply List.mem_append_left
    rw [if_pos hg]
    exact List.mem_append_left _ (mem_globalAttr hr hm hc)

theorem mem_of_spaces {st st2 : SM.St} (hsp : st2.spaces = st.spaces) (a : Attr) (q : Path) (n : String) :
    st2.mem a q n = st.mem a q n := by
  unfold St.mem St.find; rw [hsp]

theorem has_of_spaces {st st2 : SM.St} (hsp : st2.spaces = st.spaces) (q : Path) : st2.has q = st.has q := by
  unfold St.has St.find; rw [hsp]

theorem global_ci (P : Params) {t t2 : Tabs} {st st2 : SM.St} {s : Exec.St} {cl : List Clear} (x : String)
    (hw : WF (envOf P t st) lt) (hci : CI (envOf P t st) lt s) (hcov : CoversGlobal t st x cl)
    (hsp : st2.spaces = st.spaces) (hct : t2.ctab = t.ctab) (hrt : t2.rtab = t.rtab)
    (hg : ∀ y, y ≠ x → gpay t2 st2 y = gpay t st y) :
    CI (envOf P t2 st2) lt (doClears (envOf P t st) s cl) := by
  have hmem := mem_of_spaces hsp
  refine struct_ci_of_tables P hct hrt hw hci
    (fun q y hs _ => hcov.ns q (mem_ids_of_isSome st .cells q y hs) _ (mem_cellsOf t st q y hs))
    (fun q y _ hne => absurd (hmem .cells q y) hne)
    (fun q y _ c hc => hcov.ns q (mem_ids_of_mem_cellsOf t hc) c hc) ?_
  -- a slot that denotes something else is one of the name `x` without a reference member
  intro q y hr hne hs
  cases hm : st.mem .refs q y with
  | some m => exact absurd (by rw [refPay_member hm, refPay_member ((hmem .refs q y).trans hm)]) hne
  | none =>
    have hyx : y = x := Classical.byContradiction (fun hyx => hne (by
      unfold refPay
      rw [hmem, hm, has_of_spaces hsp, hmem, hg y hyx]))
    subst hyx
    exact hcov.attr q hs hm hr

theorem find_setGv (gv : List (String × Nat)) (x : String) (v : Nat) (y : String) (h : y ≠ x) :
    (setGv gv x v).find? (fun e => e.1 == y) = gv.find? (fun e => e.1 == y) := by
  have hxy : (x == y) = false := beq_eq_false_iff_ne.mpr (Ne.symm h)
  unfold setGv
  rw [List.find?_append, List.find?_filter, List.find?_singleton, hxy, if_neg Bool.false_ne_true, Option.or_none]
  refine find?_congr' _ _ _ (fun e _ => ?_)
  by_cases he : e.1 = y
  · simp [he, h]
  · simp [he]

theorem contains_iff_of_mem_iff {l l' : List String} {x y : String} (h : x ∈ l ↔ y ∈ l') :
    l.contains x = l'.contains y := by
  cases h1 : l.contains x <;> cases h2 : l'.contains y <;> simp_all

/-- the tables without declared slots: every name is a plain name -/
def Tabs.plain (t : Tabs) : Tabs := { t with slots := [] }

theorem nsAt_plain (t : Tabs) (st : SM.St) (q : Path) : nsAt t.plain st q = nsPlain t st q := by
  funext x
  simp [nsAt, qualOf, Tabs.plain, nsPlain, Tabs.cid, Tabs.rid]

theorem clearing_plain (kw : List String) (t : Tabs) (st st' : SM.St) (o : SM.Op) :
    clearing kw t.plain st st' o = clearing kw t st st' o := by
  cases o <;> rfl

theorem mem_shadow_refs {t : Tabs} {st st' : SM.St} {q : Path} {x : String} {m' : Member}
    (L : List String) (hm : st.mem .refs q x = none) (hc : st.mem .cells q x = none)
    (hg : st.globals.contains x = true) (hm' : st'.mem .refs q x = some m') (hr : (q, x) ∈ t.rtab) :
    Clear.attr (t.rid q x) ∈ (shadowed st st' false ++ L).flatMap (globalAttr t st) := by
  refine List.mem_flatMap.mpr ⟨x, List.mem_append_left _ ?_, mem_globalAttr hr hm hc⟩
  unfold shadowed
  refine List.mem_map.mpr ⟨(q, x), List.mem_filter.mpr ⟨mem_refMembers st' q x (by rw [hm']; rfl), ?_⟩, rfl⟩
  simp only [hm, hg, Option.isNone_none, Bool.and_true, Bool.not_false, Bool.true_or]

theorem mem_shadow_cells {t : Tabs} {st st' : SM.St} {q : Path} {x : String} (L : List String)
    (hm : st.mem .refs q x = none) (hc : st.mem .cells q x = none)
    (hg : st.globals.contains x = true) (hc' : (st'.mem .cells q x).isSome = true) (hr : (q, x) ∈ t.rtab) :
    Clear.attr (t.rid q x) ∈ (L ++ shadowedCells st st').flatMap (globalAttr t st) := by
  refine List.mem_flatMap.mpr ⟨x, List.mem_append_right _ ?_, mem_globalAttr hr hm hc⟩
  unfold shadowedCells
  refine List.mem_map.mpr ⟨(q, x), ?_, rfl⟩
  rw [List.mem_filter]
  refine ⟨mem_cellMembers st' q x hc', ?_⟩
  show ((st.mem .cells q x).isNone && st.globals.contains x) = true
  rw [hc, hg]; rfl

/-- `hrt0`: the slots of the model-level references have identities (`AllocOK.gslots`) -/
theorem coversG_clearingG (kw : List String) (t : Tabs) {st st' : SM.St} (o : SM.Op) (hi : SM.Inv st)
    (hsup : supported o = true) (hop : st.apply kw o = some st')
    (hrt0 : ∀ q x, q ∈ st.ids → x ∈ st.globals → (q, x) ∈ t.rtab) :
    CoversG t st st' (clearingG kw t st st' o) := by
  have hi' := inv_apply kw st st' o hi hop
  have hcov := covers_of_inv kw t o hi hsup hop
  -- the same coverage read with no slot declared: its namespace clause then speaks of the PLAIN namespaces
  have hcov0 := covers_of_inv kw t.plain o hi hsup hop
  rw [clearing_plain] at hcov0
  have hgl := (apply_keeps kw st st' hi o hsup hop).1
  have hgp : ∀ x, gpay t st' x = gpay t st x := by intro x; unfold gpay; rw [hgl]
  unfold clearingG
  refine ⟨fun q x hs hne => touchedBy_append_left (hcov.ns q x hs hne),
    fun q x hs hne => clearedBy_append_left (hcov.cells q x hs hne), ?_, ?_⟩
  · intro q x hne c hc
    by_cases hr : st'.mem .refs q x = st.mem .refs q x
    · obtain ⟨y, hy, rfl⟩ := (mem_cellsOf_iff t).mp hc
      have hq : st.has q = true := (has_iff_mem_ids st q).mpr (mem_ids_of_isSome st .cells q y hy)
      by_cases hq' : st'.has q = true
      · -- a cells `x` appears in / vanishes from `q`: the plain namespace differs at `x`
        refine touchedBy_append_left (hcov0.ns q y hy (fun heq => hne ?_))
        have hx := congrFun heq x
        unfold refPay gpay
        rw [hr, hq, hq', hgl]
        by_cases hg : st.globals.contains x = true
        · simp only [nsAt_plain, nsPlain, hgl, hg, if_true] at hx
          cases h1 : st'.mem .cells q x <;> cases h2 : st.mem .cells q x <;> simp [h1, h2] at hx ⊢
        · simp only [hg, Bool.false_eq_true, if_false, ite_self]
      · -- the space is deleted: its cells are cleared as objects
        have hq'' : q ∉ st'.ids := fun h => hq' ((has_iff_mem_ids st' q).mpr h)
        have : st'.mem .cells q y ≠ st.mem .cells q y := by
          rw [St.mem_of_not_mem st' .cells q y hq'']
          intro e
          rw [← e] at hy; cases hy
        exact touchedBy_append_left (touchedBy_of_cleared (hcov.cells q y hy this))
    · exact touchedBy_append_left (hcov.refsNs q x hr c hc)
  · intro q x hne hs
    cases hm : st.mem .refs q x with
    | some m =>
      have hr : st'.mem .refs q x ≠ st.mem .refs q x := by
        intro e
        exact hne (by rw [refPay_member hm, refPay_member (e.trans hm)])
      exact List.mem_append_left _ (hcov.refsAttr q x hr (by rw [hm]; rfl))
    | none =>
      obtain ⟨hq, hc, hg⟩ := refPay_global hs hm
      have hqi : q ∈ st.ids := (has_iff_mem_ids st q).mp hq
      have hx : x ∈ st.globals := by simpa using hg
      have hrt := hrt0 q x hqi hx
      apply List.mem_append_right
      by_cases hq' : st'.has q = true
      · have happ : (∃ m', st'.mem .refs q x = some m') ∨ (st'.mem .cells q x).isSome = true := by
          cases hm' : st'.mem .refs q x with
          | some m' => exact Or.inl ⟨m', rfl⟩
          | none =>
            refine Or.inr (Classical.byContradiction (fun hcs => hne ?_))
            unfold refPay
            rw [hm, hm', hq, hq', hgp, hc, Option.not_isSome_iff_eq_none.mp hcs]
        -- what appeared is a new member: its name is that of a model-level reference it now hides
        have hgen : Clear.attr (t.rid q x) ∈ (shadowed st st' false ++ shadowedCells st st').flatMap (globalAttr t st) :=
          happ.elim (fun ⟨m', hm'⟩ => mem_shadow_refs _ hm hc hg hm' hrt) (fun hc' => mem_shadow_cells _ hm hc hg hc' hrt)
        cases o with
        | setRef p name v =>
          obtain ⟨hsh, hd⟩ := setRef_spec kw st st' p name v hop
          rcases happ with ⟨m', hm'⟩ | hc'
          · obtain rfl := (changes_name hi hi' hsh (onlyAt_of_defines hd) .refs q x
              (by rw [hm, hm']; exact fun e => nomatch e)).2
            simp only [shadowClears, hg, if_true]
            exact mem_globalAttr hrt hm hc
          · exact nomatch (changes_name hi hi' hsh (onlyAt_of_defines hd) .cells q x
              (by rw [hc]; intro e; rw [e] at hc'; cases hc')).1
        | newSpace parent name bases refs =>
          -- nothing appears in a space that exists
          have hfr := newSpace_frame kw hi hi' parent name bases refs hop q hqi
          rcases happ with ⟨m', hm'⟩ | hc'
          · rw [hfr, hm] at hm'; cases hm'
          · rw [hfr, hc] at hc'; cases hc'
        | delSpace p => exact List.mem_append_left _ hgen
        | _ => exact hgen
      · -- the space is deleted: `on_delete` clears the readers of every model-level reference it does not hide
        cases o with
        | delSpace p =>
          have heff : Deleted st st' p := apply_spec kw st st' (keysOK_of_inv hi) (.delSpace p) hop
          have hpre : isPrefix p q = true := by
            cases hp : isPrefix p q with
            | true => rfl
            | false => exact absurd ((has_iff_mem_ids st' q).mpr ((heff.ids q).mpr ⟨hqi, hp⟩)) hq'
          apply List.mem_append_right
          unfold orphanClears
          refine List.mem_flatMap.mpr ⟨q, List.mem_filter.mpr ⟨hqi, hpre⟩, ?_⟩
          exact List.mem_flatMap.mpr ⟨x, List.mem_filter.mpr ⟨hx, by rw [hm, hc]; rfl⟩, mem_globalAttr hrt hm hc⟩
        | _ => exact absurd ((has_iff_mem_ids st' q).mpr ((apply_keeps kw st st' hi _ hsup hop).2 (fun p e => by cases e) q hqi)) hq'

end MxModel.Edit
