import MxModel.Proofs.EditMachineRun
import MxModel.Proofs.ExecInputsRun
import MxModel.Proofs.ExecTaint
/-!
# The inputs depend on the edits only; the live model and the edits-only model

`inpOf_doClears`: after the clearing of a structural edit the user's inputs are those before minus
the inputs of the cells that were cleared as objects (`clear_obj`, deletion) – a namespace
notification and `clear_attr_referrers` keep every input (an input has no predecessor in the trace
graph and is no reader in the reference graph: `InpInv`).  So the inputs after any operation of the
combined machine are a function of the structure, the inputs before and the operation
(`step_sim`; for every operation that is no value operation of any of the three machines: `ClearStep.sim`),
and the run without the evaluations (`noEvals`) ends with the same structure, the same identities and the
same inputs (`run_sim`, an instance of `foldl_sim`).
-/
namespace MxModel.Edit
open MxModel.Exec MxModel.C02 MxModel.SM

variable {env : Env} {lt : Node → Node → Prop}

theorem inpOf_of_kept {s s' : Exec.St} {m : Node} (hk : m ∈ s.inputs → Kept s s' (.elem m))
    (hsub : m ∈ s'.inputs → m ∈ s.inputs) : inpOf s' m = inpOf s m := by
  unfold inpOf
  by_cases hm : m ∈ s.inputs
  · obtain ⟨h1, h2⟩ := (hk hm).data m rfl
    simp [hm, h2.mpr hm, h1]
  · have : m ∉ s'.inputs := fun h => hm (hsub h)
    simp [hm, this]

theorem inpOf_of_noNodes {s : Exec.St} (h : CI env lt s) (m : Node) (hn : NoNodes s m.1) : inpOf s m = none := by
  apply inpOf_of_unheld
  cases hl : lookup s.data m with
  | none => rfl
  | some v => exact absurd rfl (hn _ (h.gi.heldNodes m (by rw [hl]; rfl)).1)

theorem inpOf_doClear {s : Exec.St} (h : CI env lt s) (hr : RgNoInputs s) (hsc : Scoped env) (hnc : NoCatchEnv env)
    (k : Clear) (m : Node) :
    inpOf (doClear env s k) m = if clearedBy [k] m.1 = true then none else inpOf s m := by
  obtain ⟨R, D, hclr⟩ := doClear_clr env s h.gi.edgeOK k
  have hI := InpInv.of_ci h hr
  by_cases hc : clearedBy [k] m.1 = true
  · rw [if_pos hc]
    exact inpOf_of_noNodes (doClear_ci h hsc hnc k) m (doClear_noNodes h hc)
  · rw [if_neg hc]
    refine inpOf_of_kept ?_ (fun hm => ((hclr.mem_inputs m).mp hm).1)
    intro hin
    cases k with
    | obj c =>
      have hne : m.1 ≠ c := fun e => hc (e ▸ clearedBy_of_obj (List.mem_singleton.mpr rfl))
      exact kept_input_clearObj hI c m hin hne
    | ns L => exact kept_input_notifyAll hI L m hin
    | attr r => exact kept_input_clearAttrReferrers hI r m hin
    | del c =>
      have hne : m.1 ≠ c := fun e => hc (e ▸ clearedBy_of_del (List.mem_singleton.mpr rfl))
      have k1 : Kept s (s.clearAllValues c true) (.elem m) :=
        hI.kept (clears_clearAllValues s (fun _ => False) h.gi.edgeOK c true) hin
          (fun ⟨_, e, hnc', _⟩ => hne (GNode.elem.inj e ▸ hnc'))
      simp only [doClear]
      split
      · exact k1
      · obtain ⟨R1, c1, _⟩ := (clears_clearAllValues s (fun _ => False) h.gi.edgeOK c true).clr
        exact k1.trans (kept_input_clearObj (hI.of_clr c1) c m (((k1.data m rfl).2).mpr hin) hne)

theorem inpOf_doClears (hsc : Scoped env) (hnc : NoCatchEnv env) : ∀ (cl : List Clear) (s : Exec.St),
    CI env lt s → RgNoInputs s →
    (∀ m, inpOf (doClears env s cl) m = if clearedBy cl m.1 = true then none else inpOf s m) ∧
    RgNoInputs (doClears env s cl) := by
  intro cl
  induction cl with
  | nil => intro s _ hr; exact ⟨fun m => by simp [doClears, clearedBy], hr⟩
  | cons k cl ih =>
    intro s h hr
    have h1 := doClear_ci h hsc hnc k
    obtain ⟨R, D, hclr⟩ := doClear_clr env s h.gi.edgeOK k
    obtain ⟨i1, i2⟩ := ih (doClear env s k) h1 (hr.of_clr hclr)
    refine ⟨?_, i2⟩
    intro m
    show inpOf (doClears env (doClear env s k) cl) m = _
    rw [i1 m, inpOf_doClear h hr hsc hnc k m, clearedBy_cons k cl]
    cases clearedBy [k] m.1 <;> cases clearedBy cl m.1 <;> simp

/-- the two runs are compared in the same regime -/
theorem doClears_inp_congr {s1 s2 : Exec.St} (hw : WF env lt) (h1 : CI env lt s1) (h2 : CI env lt s2)
    (r1 : RgNoInputs s1) (r2 : RgNoInputs s2) (hi : inpOf s2 = inpOf s1) (cl : List Clear) :
    inpOf (doClears env s2 cl) = inpOf (doClears env s1 cl) := by
  funext m
  rw [(inpOf_doClears hw.scoping hw.noCatch cl s2 h2 r2).1 m, (inpOf_doClears hw.scoping hw.noCatch cl s1 h1 r1).1 m, hi]

variable (P : Params)

def isEval : Op → Bool
  | .eval _ _ _ => true
  | _ => false

def noEvals (ops : List Op) : List Op := ops.filter (fun op => !isEval op)

structure Sim (w1 w2 : W) : Prop where
  sm : w2.sm = w1.sm
  tabs : w2.tabs = w1.tabs
  inp : inpOf w2.ex = inpOf w1.ex

theorem Sim.env_eq {w1 w2 : W} (h : Sim w1 w2) : w2.env P = w1.env P := env_of_eq P h.sm h.tabs

variable {P}

theorem ClearStep.rg {O : Type} {stp : W → O → W} {op : O} {w : W} (hc : ClearStep P stp op w) (hw : WF (w.env P) lt)
    (h : CIG P lt w) (hr : RgNoInputs w.ex) : RgNoInputs (stp w op).ex := by
  rcases hc with href | ⟨st', t2, tc, cl, hext, heq⟩
  · rw [href w rfl rfl]; exact hr
  · rw [heq w rfl rfl]
    have hw' := wf_ext P hext h.alloc hw
    exact (inpOf_doClears hw'.scoping hw'.noCatch cl _ (ci_ext P hext h.alloc hw h.ci) hr).2

theorem ClearStep.sim {O : Type} {stp : W → O → W} {op : O} {w1 w2 : W} (hc : ClearStep P stp op w1)
    (hw : WF (w1.env P) lt) (h1 : CIG P lt w1) (h2 : CIG P lt w2) (r1 : RgNoInputs w1.ex) (r2 : RgNoInputs w2.ex)
    (hs : Sim w1 w2) : Sim (stp w1 op) (stp w2 op) := by
  rcases hc with href | ⟨st', t2, tc, cl, hext, heq⟩
  · rw [href w1 rfl rfl, href w2 hs.sm hs.tabs]; exact hs
  · rw [heq w1 rfl rfl, heq w2 hs.sm hs.tabs]
    have hci2 : CI (w1.env P) lt w2.ex := hs.env_eq P ▸ h2.ci
    exact ⟨rfl, rfl, doClears_inp_congr (wf_ext P hext h1.alloc hw) (ci_ext P hext h1.alloc hw h1.ci)
      (ci_ext P hext h1.alloc hw hci2) r1 r2 hs.inp cl⟩

theorem step_struct_clearStep (w : W) (o : SM.Op) : ClearStep P (step P) (.struct o) w :=
  (step_struct P w o).imp id (fun ⟨st', _, _, heq⟩ => ⟨st', _, _, _, ext_grow w.tabs st', heq⟩)

theorem step_rg (w : W) (op : Op) (hw : WF (w.env P) lt) (h : CIG P lt w)
    (hr : RgNoInputs w.ex) : RgNoInputs (step P w op).ex := by
  rcases op_cases op with ⟨o, rfl⟩ | hv
  · exact (step_struct_clearStep w o).rg hw h hr
  · have := step_rgNoInputs (w.env P, w.ex) (toC02 w op) h.ci hr
    rw [(step_value P w h.alloc op hv).2.2] at this
    exact this

theorem step_sim (ho : StrictOrder lt) (w1 w2 : W) (op : Op) (hw : WF (w1.env P) lt)
    (h1 : CIG P lt w1) (h2 : CIG P lt w2) (r1 : RgNoInputs w1.ex) (r2 : RgNoInputs w2.ex) (hs : Sim w1 w2) :
    Sim (step P w1 op) (step P w2 op) := by
  rcases op_cases op with ⟨o, rfl⟩ | hv
  · exact (step_struct_clearStep w1 o).sim hw h1 h2 r1 r2 hs
  · obtain ⟨a1, a2, a3⟩ := step_value P w1 h1.alloc op hv
    obtain ⟨b1, b2, b3⟩ := step_value P w2 h2.alloc op hv
    have henv := hs.env_eq P
    have ht : toC02 w2 op = toC02 w1 op := by cases op <;> simp [toC02, hs.tabs]
    have i1 := inpOf_step ho hw h1.ci r1 (toC02 w1 op)
    have i2 := inpOf_step ho hw (henv ▸ h2.ci) r2 (toC02 w1 op)
    rw [henv, ht] at b3
    rw [a3] at i1
    rw [b3, hs.inp] at i2
    exact ⟨by rw [b1, a1, hs.sm], by rw [b2, a2, hs.tabs], i2.trans i1.symm⟩

theorem step_eval_sim (ho : StrictOrder lt) (w1 w2 : W) (q : Path) (n : String) (key : Key)
    (hw : WF (w1.env P) lt) (h1 : CIG P lt w1) (r1 : RgNoInputs w1.ex) (hs : Sim w1 w2) :
    Sim (step P w1 (.eval q n key)) w2 := by
  obtain ⟨a1, a2, a3⟩ := step_value P w1 h1.alloc (.eval q n key) (fun o e => nomatch e)
  have i1 := inpOf_step ho hw h1.ci r1 (toC02 w1 (.eval q n key))
  rw [a3] at i1
  exact ⟨by rw [a1, hs.sm], by rw [a2, hs.tabs], hs.inp.trans i1.symm⟩

/-- **the live run and the run without the evaluations** end with the same structure, identities and
inputs, and both satisfy the invariant – for any machine `stp` over the states `W` whose evaluations
(`isEv`) keep structure, identities and inputs and whose other operations make them functions of those before -/
theorem foldl_sim {O : Type} (stp : W → O → W) (Adm : W → List O → Prop) (I : W → Prop) (isEv : O → Bool)
    (hA : ∀ w o ops, Adm w (o :: ops) → WF ((stp w o).env P) lt ∧ Adm (stp w o) ops)
    (hI : ∀ w o, WF (w.env P) lt → I w → I (stp w o))
    (hrg : ∀ w o, WF (w.env P) lt → I w → RgNoInputs w.ex → RgNoInputs (stp w o).ex)
    (hev : ∀ w1 w2 o, isEv o = true → WF (w1.env P) lt → I w1 → RgNoInputs w1.ex → Sim w1 w2 → Sim (stp w1 o) w2)
    (hsim : ∀ w1 w2 o, WF (w1.env P) lt → I w1 → I w2 → RgNoInputs w1.ex → RgNoInputs w2.ex → Sim w1 w2 →
      Sim (stp w1 o) (stp w2 o)) :
    ∀ (ops : List O) (w1 w2 : W), WF (w1.env P) lt → I w1 → I w2 → RgNoInputs w1.ex → RgNoInputs w2.ex →
      Sim w1 w2 → Adm w1 ops →
      Sim (ops.foldl stp w1) ((ops.filter (fun o => !isEv o)).foldl stp w2) ∧ I (ops.foldl stp w1) ∧
        I ((ops.filter (fun o => !isEv o)).foldl stp w2) ∧ WF ((ops.foldl stp w1).env P) lt := by
  intro ops
  induction ops with
  | nil => intro w1 w2 hw h1 h2 _ _ hs _; exact ⟨hs, h1, h2, hw⟩
  | cons op rest ih =>
    intro w1 w2 hw h1 h2 r1 r2 hs hadm
    obtain ⟨a2, a3⟩ := hA w1 op rest hadm
    have c1 := hI w1 op hw h1
    have g1 := hrg w1 op hw h1 r1
    cases hev' : isEv op with
    | true =>
      rw [List.filter_cons_of_neg (by simp [hev'])]
      exact ih _ w2 a2 c1 h2 g1 r2 (hev w1 w2 op hev' hw h1 r1 hs) a3
    | false =>
      rw [List.filter_cons_of_pos (by simp [hev'])]
      have hw2 : WF (w2.env P) lt := by rw [hs.env_eq P]; exact hw
      exact ih _ _ a2 c1 (hI w2 op hw2 h2) g1 (hrg w2 op hw2 h2 r2) (hsim w1 w2 op hw h1 h2 r1 r2 hs) a3

theorem isEval_eq {op : Op} (h : isEval op = true) : ∃ q n key, op = .eval q n key := by
  cases op with
  | eval q n key => exact ⟨q, n, key, rfl⟩
  | _ => cases h

theorem run_sim (ho : StrictOrder lt) : ∀ (ops : List Op) (w1 w2 : W), WF (w1.env P) lt →
    CIW P lt w1 → CIW P lt w2 → RgNoInputs w1.ex → RgNoInputs w2.ex → Sim w1 w2 → Admissible P lt w1 ops →
    Sim (run P w1 ops) (run P w2 (noEvals ops)) ∧ CIW P lt (run P w1 ops) ∧
      CIW P lt (run P w2 (noEvals ops)) ∧ WF ((run P w1 ops).env P) lt :=
  Edit.foldl_sim (step P) (Admissible P lt) (CIW P lt) isEval (fun _ _ _ h => h)
    (fun w op hw h => step_ciw ho w op hw h (stepCovers_of_inv P w op h.inv))
    (fun w op hw h hr => step_rg w op hw h.toCIG hr)
    (fun w1 w2 op he hw h1 r1 hs => by
      obtain ⟨q, n, key, rfl⟩ := isEval_eq he
      exact step_eval_sim ho w1 w2 q n key hw h1.toCIG r1 hs)
    (fun w1 w2 op hw h1 h2 r1 r2 hs => step_sim ho w1 w2 op hw h1.toCIG h2.toCIG r1 r2 hs)

/-- **two states with the same structure, identities and inputs, both without a stale value, give the same
answer** (no formula turns a failure into a value) -/
theorem answer_eq_of_sim {w1 w2 : W} (hs : Sim w1 w2) (hnc : NoCatchEnv (w1.env P))
    (g1 : Good (w1.env P) (inpOf w1.ex) w1.ex) (g2 : Good (w2.env P) (inpOf w2.ex) w2.ex)
    (q : Path) (n : String) (key : Key) (v v' : Val) (h1 : answer P w1 q n key = some (.ok v))
    (h2 : answer P w2 q n key = some (.ok v')) : v = v' := by
  rw [hs.env_eq P, hs.inp] at g2
  unfold answer at h1 h2
  rw [hs.sm, hs.tabs, hs.env_eq P] at h2
  cases hm : (w1.sm.mem .cells q n).isSome with
  | false => rw [hm] at h1; cases h1
  | true =>
    rw [hm, if_pos rfl, Option.some.injEq] at h1 h2
    have a := (evalTop_taint _ _ (fun _ => True) trivial (taintClosedEnv_of_noCatch _ hnc) _ _ g1).2.1 v h1
    have b := (evalTop_taint _ _ (fun _ => True) trivial (taintClosedEnv_of_noCatch _ hnc) _ _ g2).2.1 v' h2
    cases Den_det _ _ _ _ _ a b
    rfl

end MxModel.Edit
