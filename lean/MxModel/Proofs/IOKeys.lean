import MxModel.Kernels.IOKeys
import MxModel.Proofs.Foldl
/-! Invariants of the registry of file objects. -/
namespace MxModel.IOKeys

structure Inv (st : St) : Prop where
  /-- `ios` is a dict: one io per key -/
  keyUnique : ∀ a ∈ st.ios, ∀ b ∈ st.ios, a.group = b.group → a.path = b.path → a = b
  idUnique : ∀ a ∈ st.ios, ∀ b ∈ st.ios, a.id = b.id → a = b
  idLt : ∀ a ∈ st.ios, a.id < st.nextId

theorem inv_empty : Inv {} := ⟨List.forall_mem_nil _, List.forall_mem_nil _, List.forall_mem_nil _⟩

theorem lookupKey_none {ios : List Io} {k : Option Nat × String} (h : lookupKey ios k = none) :
    ∀ a ∈ ios, ¬ (a.group = k.1 ∧ a.path = k.2) := by
  unfold lookupKey at h
  rw [List.find?_eq_none] at h
  intro a ha; simpa using h a ha

theorem lookupId_some {ios : List Io} {i : Nat} {io : Io} (h : lookupId ios i = some io) :
    io ∈ ios ∧ io.id = i := by
  unfold lookupId at h
  exact ⟨List.mem_of_find?_eq_some h, by simpa using List.find?_some h⟩

theorem getIoKey_wellKeyed (g : Option Nat) (p : String) (h : g.isSome = true ∨ isAbs p = true) (i : Nat) :
    (⟨i, (getIoKey g p).1, (getIoKey g p).2⟩ : Io).wellKeyed = true := by
  unfold getIoKey Io.wellKeyed
  by_cases ha : isAbs p = true
  · simp [ha]
  · have hg : g.isSome = true := h.resolve_right ha
    cases g with
    | none => cases hg
    | some m => simp [ha]

theorem inv_sub {st : St} (h : Inv st) {l : List Io} (hsub : ∀ a ∈ l, a ∈ st.ios) : Inv ⟨l, st.nextId⟩ :=
  ⟨fun a ha b hb => h.keyUnique a (hsub a ha) b (hsub b hb),
   fun a ha b hb => h.idUnique a (hsub a ha) b (hsub b hb), fun a ha => h.idLt a (hsub a ha)⟩

theorem inv_snoc {st : St} (h : Inv st) {l : List Io} (hsub : ∀ a ∈ l, a ∈ st.ios) (x : Io) {n : Nat}
    (hn : st.nextId ≤ n) (hx : x.id < n) (hkey : ∀ a ∈ l, ¬ (a.group = x.group ∧ a.path = x.path))
    (hid : ∀ a ∈ l, a.id ≠ x.id) : Inv ⟨l ++ [x], n⟩ := by
  have h' := inv_sub h hsub
  refine ⟨?_, ?_, ?_⟩
  · intro a ha b hb hg hp
    rcases List.mem_append.1 ha with ha | ha <;> rcases List.mem_append.1 hb with hb | hb
    · exact h'.keyUnique a ha b hb hg hp
    · cases List.mem_singleton.1 hb; exact absurd ⟨hg, hp⟩ (hkey a ha)
    · cases List.mem_singleton.1 ha; exact absurd ⟨hg.symm, hp.symm⟩ (hkey b hb)
    · rw [List.mem_singleton.1 ha, List.mem_singleton.1 hb]
  · intro a ha b hb hi
    rcases List.mem_append.1 ha with ha | ha <;> rcases List.mem_append.1 hb with hb | hb
    · exact h'.idUnique a ha b hb hi
    · cases List.mem_singleton.1 hb; exact absurd hi (hid a ha)
    · cases List.mem_singleton.1 ha; exact absurd hi.symm (hid b hb)
    · rw [List.mem_singleton.1 ha, List.mem_singleton.1 hb]
  · intro a ha
    rcases List.mem_append.1 ha with ha | ha
    · exact Nat.lt_of_lt_of_le (h'.idLt a ha) hn
    · rw [List.mem_singleton.1 ha]; exact hx

theorem inv_step {st : St} (h : Inv st) (op : Op) : Inv (step st op) := by
  unfold step stepR
  cases op with
  | claim m path =>
    dsimp only
    generalize getIoKey (some m) (norm path) = k
    cases hl : lookupKey st.ios k with
    | some io => exact h
    | none =>
      exact inv_snoc h (fun _ ha => ha) _ (Nat.le_succ _) (Nat.lt_succ_self _) (lookupKey_none hl)
        (fun a ha => Nat.ne_of_lt (h.idLt a ha))
  | move i path =>
    dsimp only
    cases hl : lookupId st.ios i with
    | none => exact h
    | some io =>
      dsimp only
      split
      · exact h
      · generalize getIoKey io.group (norm path) = k
        cases hk : lookupKey st.ios k with
        | some _ => exact h
        | none =>
          obtain ⟨hio, hid⟩ := lookupId_some hl
          exact inv_snoc h (fun _ ha => (List.mem_filter.1 ha).1) _ (Nat.le_refl _) (hid ▸ h.idLt io hio)
            (fun a ha => lookupKey_none hk a (List.mem_filter.1 ha).1)
            (fun a ha => of_decide_eq_true (List.mem_filter.1 ha).2)
  | drop i => exact inv_sub h (fun _ ha => (List.mem_filter.1 ha).1)

theorem inv_run (ops : List Op) (st : St) (h : Inv st) : Inv (run st ops) :=
  foldl_keeps Inv (fun _ op _ h => inv_step h op) h

theorem wellKeyed_step {st : St} (h : ∀ a ∈ st.ios, a.wellKeyed = true) (op : Op)
    (hop : absToRel st op = false) : ∀ a ∈ (step st op).ios, a.wellKeyed = true := by
  have hsnoc : ∀ {l : List Io} (x : Io), (∀ a ∈ l, a ∈ st.ios) → x.wellKeyed = true →
      ∀ a ∈ l ++ [x], a.wellKeyed = true := by
    intro l x hsub hx a ha
    rcases List.mem_append.1 ha with ha | ha
    · exact h a (hsub a ha)
    · rw [List.mem_singleton.1 ha]; exact hx
  unfold step stepR
  cases op with
  | claim m path =>
    dsimp only
    cases lookupKey st.ios (getIoKey (some m) (norm path)) with
    | some io => exact h
    | none => exact hsnoc _ (fun _ ha => ha) (getIoKey_wellKeyed (some m) (norm path) (Or.inl rfl) _)
  | move i path =>
    dsimp only
    cases hl : lookupId st.ios i with
    | none => exact h
    | some io =>
      dsimp only
      split
      · exact h
      · cases lookupKey st.ios (getIoKey io.group (norm path)) with
        | some _ => exact h
        | none =>
          refine hsnoc _ (fun _ ha => (List.mem_filter.1 ha).1) (getIoKey_wellKeyed _ _ ?_ _)
          simp only [absToRel, hl, Bool.and_eq_false_iff, Bool.not_eq_false'] at hop
          refine hop.imp (fun hop => ?_) id
          cases hg : io.group with
          | none => rw [hg] at hop; cases hop
          | some m => rfl
  | drop i => exact fun a ha => h a (List.mem_filter.1 ha).1

theorem wellKeyed_run : ∀ (ops : List Op) (st : St), (∀ a ∈ st.ios, a.wellKeyed = true) →
    NoAbsToRel st ops → ∀ a ∈ (run st ops).ios, a.wellKeyed = true
  | [], _, h, _ => h
  | op :: rest, _, h, hn => wellKeyed_run rest _ (wellKeyed_step h op hn.1) hn.2

end MxModel.IOKeys
