import MxModel.Proofs.ItemSpaceTable
/-! What `get_itemspace` returns, and what edits leave behind (C07); `chainFind` over an appended chain. -/
namespace MxModel.ItemSpace

theorem creates_append : Creates fun t t' => ∃ l, t'.live = t.live ++ l where
  refl := fun _ => ⟨[], (List.append_nil _).symm⟩
  trans := fun ⟨l1, h1⟩ ⟨l2, h2⟩ => ⟨l1 ++ l2, by rw [h2, h1, List.append_assoc]⟩
  create := fun defs _ _ _ base _ _ hm =>
    let ⟨_, _, h, _⟩ := createItem_live defs base hm
    ⟨_, h⟩

theorem getItem_ok_sig {defs : Defs} {t t' : Table} {p : Addr} {args : List Val} {kw : KwArgs} {e : Entry}
    {nd : Node} {sig : Sig} (hn : nodeAt defs t p = some nd) (hs : nd.sig = some sig)
    (h : getItem defs t p args kw = (t', .ok e)) :
    ∃ key l, bindArgs sig args kw = some key ∧ findLive t' ⟨p.root, p.dkey ++ [.key key]⟩ = some e ∧
      t'.live = t.live ++ l := by
  obtain ⟨l, hl⟩ := creates_append.getItem defs t p args kw
  have hsp := getItem_spec defs t p args kw
  rw [h] at hsp hl
  cases hsp with
  | failed _ hr => exact hr.elim nofun nofun
  | hit hn' hs' hb hf | miss _ hn' hs' hb _ hf =>
    cases hn.symm.trans hn'
    cases hs.symm.trans hs'
    exact ⟨_, l, hb, hf, hl⟩

theorem deletes_sub : Deletes fun t t' => ∀ e ∈ t'.live, e ∈ t.live where
  refl := fun _ _ h => h
  trans := fun h1 h2 e he => h1 e (h2 e he)
  filter := fun _ _ _ _ he => (List.mem_filter.mp he).1

theorem deleteAll_spared : ∀ (l : List Addr) (t : Table), ∀ e ∈ (deleteAll t l).live, ∀ a ∈ l,
    ¬ (e.addr.root = a.root ∧ a.dkey.isPrefixOf e.addr.dkey = true)
  | [], _, _, _, _, ha => by cases ha
  | b :: bs, t, e, he, a, ha => by
    rcases List.mem_cons.mp ha with rfl | ha
    · have hf := (List.mem_filter.mp (deletes_sub.deleteAll bs (deleteAt t a) e he)).2
      intro hc
      simp [hc.1, hc.2] at hf
    · exact deleteAll_spared bs (deleteAt t b) e he a ha

theorem rootAddr_root (a : Addr) : (rootAddr a).root = a.root := rfl

theorem rootAddr_prefix (a : Addr) : (rootAddr a).dkey.isPrefixOf a.dkey = true := by
  unfold rootAddr
  simp only
  rw [List.isPrefixOf_iff_prefix]
  have h := List.dropWhile_suffix (l := a.dkey.reverse) Seg.isName
  have := List.reverse_prefix.mpr h
  simpa using this

theorem clearSubsRootItems_no_copy (t : Table) (b : SId) :
    ∀ e ∈ (clearSubsRootItems t b).live, e.base ≠ b := by
  intro e he hb
  have hlive := deletes_sub.deleteAll _ t e he
  have hin : rootAddr e.addr ∈ (t.live.filter (·.base = b)).map (fun e => rootAddr e.addr) :=
    List.mem_map.mpr ⟨e, List.mem_filter.mpr ⟨hlive, by simp [hb]⟩, rfl⟩
  exact deleteAll_spared _ t e he _ hin ⟨(rootAddr_root e.addr).symm, rootAddr_prefix e.addr⟩

theorem nsChange_no_copy (t : Table) (b : SId) : ∀ e ∈ (nsChange t b).live, e.base ≠ b :=
  clearSubsRootItems_no_copy _ b

theorem applyEdit_no_copy (t : Table) (k : EditKind) (b : SId) : ∀ e ∈ (applyEdit t k b).live, e.base ≠ b := by
  cases k with
  | newCells | setParamFormula => exact clearSubsRootItems_no_copy _ b
  | setFormula => exact clearSubsRootItems_no_copy t b
  | renameCells | delCells | newChild | delChild => exact nsChange_no_copy _ b
  | newRef | delRef | changeRef =>
    exact fun e he => nsChange_no_copy t b e (deletes_sub.deleteAll _ _ e he)
  | modelRef => intro e he; cases he

/-- the fold is the last stage of `delSpace`: the `on_delete` of every space of the deleted tree -/
theorem foldl_onDelete_no_copy : ∀ (l : List SDef) (t : Table),
    ∀ e ∈ (l.foldl (fun t x => clearItems (clearSubsRootItems t x.id) ⟨x.id, []⟩) t).live,
      ∀ x ∈ l, e.base ≠ x.id
  | [], _, _, _, x, hx => by cases hx
  | y :: ys, t, e, he, x, hx => by
    rcases List.mem_cons.mp hx with rfl | hx
    · have h1 := deletes_sub.foldl _
        (fun t (x : SDef) => deletes_sub.trans (deletes_sub.deleteAll _ t) (deletes_sub.deleteAll _ _))
        ys _ e he
      exact clearSubsRootItems_no_copy t x.id e (deletes_sub.deleteAll _ _ e h1)
    · exact foldl_onDelete_no_copy ys _ e he x hx

theorem delSpace_no_copy (defs : Defs) (t : Table) (d : SDef) :
    ∀ e ∈ (delSpace defs t d).2.live, ∀ x ∈ defs, d.path.isPrefixOf x.path = true → e.base ≠ x.id := by
  intro e he x hx hp
  unfold delSpace at he
  exact foldl_onDelete_no_copy _ _ e he x (List.mem_filter.mpr ⟨hx, hp⟩)

theorem delSpace_no_copy_parent (defs : Defs) (t : Table) (d par : SDef)
    (hp : findDef defs d.path.dropLast = some par) : ∀ e ∈ (delSpace defs t d).2.live, e.base ≠ par.id := by
  intro e he
  unfold delSpace at he
  have h1 := deletes_sub.foldl _
    (fun t (x : SDef) => deletes_sub.trans (deletes_sub.deleteAll _ t) (deletes_sub.deleteAll _ _))
    _ _ e he
  have h2 := deletes_sub.foldl _ (fun t (x : SDef) => deletes_sub.nsChange t x.id) _ _ e h1
  rw [hp] at h2
  exact nsChange_no_copy t par.id e h2

theorem chainFind_append_some {l1 l2 : List RefMap} {x : String} {v : Val} (h : chainFind l1 x = some v) :
    chainFind (l1 ++ l2) x = some v := by
  induction l1 with
  | nil => cases h
  | cons m rest ih =>
    simp only [List.cons_append, chainFind] at h ⊢
    cases hm : m.find x with
    | some w => simp only [hm] at h ⊢; exact h
    | none => simp only [hm] at h ⊢; exact ih h

theorem chainFind_append_none {l1 l2 : List RefMap} {x : String} (h : chainFind l1 x = none) :
    chainFind (l1 ++ l2) x = chainFind l2 x := by
  induction l1 with
  | nil => rfl
  | cons m rest ih =>
    simp only [List.cons_append, chainFind] at h ⊢
    cases hm : m.find x with
    | some w => simp [hm] at h
    | none => simp only [hm] at h ⊢; exact ih h

end MxModel.ItemSpace
