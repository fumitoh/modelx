import MxModel.Exec.Resolve
import MxModel.Proofs.ExecCertCellsDel
/-!
# The resolution layer: namespace edits are batch edits

The namespaces of a set `N` of spaces change in any way (cells and references created, deleted,
rebound, derived members appearing in sub spaces, …) and every cells of every space in `N` is
notified: that is a `BatchEdit` of the cells living in `N`, because the formulas of the cells outside
`N` are resolved in namespaces that did not change.  A derived cells of a sub space is just a cells
whose home is the sub space.
-/
namespace MxModel.Exec

theorem resolve_congr (ns ns' : Ns) : ∀ (p : SProg), (∀ x, Mentions p x → ns x = ns' x) →
    resolve ns p = resolve ns' p := by
  intro p
  induction p with
  | ret v => intro _; rfl
  | raise e => intro _; rfl
  | reraise e => intro _; rfl
  | call n k ih =>
    intro h
    simp only [resolve]
    congr 1
    funext r
    exact ih r (fun x hx => h x ⟨r, hx⟩)
  | read a r k ih =>
    intro h
    simp only [resolve]
    congr 1
    funext o
    exact ih o (fun x hx => h x ⟨o, hx⟩)
  | name y k ih =>
    intro h
    simp only [resolve]
    rw [h y (Or.inl rfl)]
    exact ih _ (fun x hx => h x (Or.inr ⟨_, hx⟩))

theorem formula_unchanged (se : SEnv) (nss' : Nat → Ns) (n : Node)
    (h : ∀ x, Mentions (se.src n) x → se.nss (se.home n.1) x = nss' (se.home n.1) x) :
    (se.withNss nss').toEnv.formula n = se.toEnv.formula n :=
  (resolve_congr _ _ _ h).symm

variable {lt : Node → Node → Prop}

theorem batchEdit_of_nsEdit (se : SEnv) (nss' : Nat → Ns) (N : Nat → Prop)
    (hN : ∀ sp, ¬ N sp → nss' sp = se.nss sp) :
    BatchEdit se.toEnv (se.withNss nss').toEnv (fun c => N (se.home c)) := by
  refine ⟨?_, fun _ _ => rfl, fun _ _ => rfl, ?_, rfl⟩
  · intro n hn
    show resolve (nss' (se.home n.1)) (se.src n) = resolve (se.nss (se.home n.1)) (se.src n)
    rw [hN _ hn]
  · intro c hc
    show (nss' (se.home c) (se.cellName c) == some (.cell c)) = (se.nss (se.home c) (se.cellName c) == some (.cell c))
    rw [hN _ hc]

/-- `hinp`: the notification keeps inputs (`clear_all_values(clear_input=False)`), so a cells of `N`
that holds one must still exist afterwards. -/
theorem nsEdit_ci (se : SEnv) (nss' : Nat → Ns) (N : Nat → Prop) (L : List CellId) {s : St}
    (h : CI se.toEnv lt s) (hN : ∀ sp, ¬ N sp → nss' sp = se.nss sp)
    (hL : ∀ c, N (se.home c) → c ∈ L ∨ ∀ x ∈ s.gn, x.cell ≠ c)
    (hinp : ∀ n ∈ s.inputs, N (se.home n.1) → (se.withNss nss').toEnv.alive n.1 = true) :
    CI (se.withNss nss').toEnv lt (s.notifyAll se.toEnv L) := by
  refine batchEdit_ci L (fun c => N (se.home c)) h (batchEdit_of_nsEdit se nss' N hN) hL ?_
  intro n hn hNn
  refine ⟨?_, hinp n hn hNn⟩
  exact (h.gi.heldNodes n (h.gi.inputsHeld n hn)).2

/-- `del space.c` with definitions given at source level.  `hdecl`: the cells of the home are declared
(`St.delCell` notifies `siblings`, which `SEnv.toEnv` takes from the declared cells). -/
theorem nsDelCell_ci (se : SEnv) (nss' : Nat → Ns) (c : CellId) {s : St} (h : CI se.toEnv lt s)
    (hN : ∀ sp, sp ≠ se.home c → nss' sp = se.nss sp)
    (hdecl : ∀ c', se.home c' = se.home c → c' ∈ se.cells)
    (hkeep : ∀ c', se.home c' = se.home c → c' ≠ c →
      (se.withNss nss').toEnv.alive c' = se.toEnv.alive c') :
    CI (se.withNss nss').toEnv lt (s.delCell se.toEnv c) := by
  have hb := batchEdit_of_nsEdit se nss' (fun sp => sp = se.home c) hN
  have hsib : ∀ c', c' ∈ se.toEnv.siblings c ↔ (c' ∈ se.cells ∧ se.home c' = se.home c) := by
    intro c'
    simp [SEnv.toEnv]
  refine delCell_ci h (hb.mono ?_) ?_
  · intro c' hc'
    exact Or.inr ((hsib c').mpr ⟨hdecl c' hc', hc'⟩)
  · intro c' hc' hne
    exact ⟨rfl, hkeep c' ((hsib c').mp hc').2 hne⟩

/-- `space.new_cells(c)` with definitions given at source level -/
theorem nsNewCell_ci (se : SEnv) (nss' : Nat → Ns) (c : CellId) {s : St} (h : CI se.toEnv lt s)
    (hdead : se.toEnv.alive c = false)
    (hN : ∀ sp, sp ≠ se.home c → nss' sp = se.nss sp)
    (hdecl : ∀ c', se.home c' = se.home c → c' ∈ se.cells)
    (hkeep : ∀ c', se.home c' = se.home c → c' ≠ c →
      (se.withNss nss').toEnv.alive c' = se.toEnv.alive c') :
    CI (se.withNss nss').toEnv lt (s.newCell se.toEnv c) := by
  have hb := batchEdit_of_nsEdit se nss' (fun sp => sp = se.home c) hN
  have hsib : ∀ c', c' ∈ se.toEnv.siblings c ↔ (c' ∈ se.cells ∧ se.home c' = se.home c) := by
    intro c'
    simp [SEnv.toEnv]
  refine newCell_ci h hdead (hb.mono ?_) ?_
  · intro c' hc'
    exact Or.inr ((hsib c').mpr ⟨hdecl c' hc', hc'⟩)
  · intro c' hc' hne
    exact ⟨rfl, hkeep c' ((hsib c').mp hc').2 hne⟩

end MxModel.Exec
