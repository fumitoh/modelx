import MxModel.Proofs.StructMechApi
import MxModel.Proofs.StructMechCoreRun
/-!
# Every reachable state of the incremental mechanism satisfies `Inv`

`inv_apply`: every accepted operation preserves the invariant (one lemma per constructor of `Op`,
files `StructMechOps1` … `StructMechOps5`, `StructMechApi`); `run_inv`: induction over the operation list.
-/
namespace MxModel.SM

theorem inv_empty : Inv ({} : St) := by
  have hids : ({} : St).ids = [] := rfl
  refine ⟨⟨by rw [hids]; simp, ?_, ?_, ?_, ?_⟩, ?_, ⟨?_, ?_, ?_⟩⟩
  · intro q b hb
    rw [St.basesOf_of_not_mem _ q (by rw [hids]; simp)] at hb; cases hb
  · intro q hq; rw [hids] at hq; cases hq
  · intro a q
    rw [St.cont_of_not_mem _ a q (by rw [hids]; simp)]; simp [keys]
  · intro q hq; rw [hids] at hq; cases hq
  · intro a q n
    exact Good1.of_not_mem _ a q n (by rw [hids]; simp)
  · intro q n hh
    rw [St.mem_of_not_mem _ .cells q n (by rw [hids]; simp)] at hh; cases hh
  · intro q n hn
    rw [mem_childNames, hids] at hn; cases hn
  · intro n hn; cases hn

theorem inv_apply (kw : List String) (st st' : St) (op : Op) (h : Inv st)
    (hop : st.apply kw op = some st') : Inv st' := by
  cases op with
  | newSpace parent name bases refs => exact inv_newSpaceRefs kw st st' h parent name bases refs hop
  | delSpace p => exact inv_delSpaceOp st st' h p hop
  | newCells p name fname v => exact inv_newCellsNamed kw st st' h p name fname v hop
  | setFormula p name v => exact inv_setFormula st st' h p name v hop
  | delCells p name => exact inv_delMember st st' h .cells p name hop
  | renameCells p old new => exact inv_renameCells kw st st' h p old new hop
  | addBases p bs => exact inv_addBases st st' h p bs hop
  | removeBases p bs => exact inv_removeBases st st' h p bs hop
  | setRef p name v => exact inv_setRef kw st st' h p name v hop
  | delRef p name => exact inv_delMember st st' h .refs p name hop
  | setGlobal name => exact inv_setGlobal st st' h name hop
  | delGlobal name => exact inv_delGlobal st st' h name hop

theorem St.step_keeps {P : St → Prop} (kw : List String)
    (hP : ∀ st st' op, P st → st.apply kw op = some st' → P st') (st : St) (op : Op) (h : P st) :
    P (st.step kw op).1 := by
  unfold St.step
  cases hop : st.apply kw op with
  | none => exact h
  | some st' => exact hP st st' op h hop

theorem St.run_keeps {P : St → Prop} (kw : List String)
    (hP : ∀ st st' op, P st → st.apply kw op = some st' → P st') (ops : List Op) :
    ∀ (st : St), P st → P (St.run kw st ops) := by
  induction ops with
  | nil => intro st h; exact h
  | cons op ops ih =>
    intro st h
    rw [St.run_cons]
    exact ih _ (St.step_keeps kw hP st op h)

theorem inv_step (kw : List String) (st : St) (op : Op) (h : Inv st) : Inv (st.step kw op).1 :=
  St.step_keeps kw (fun st st' op h hop => inv_apply kw st st' op h hop) st op h

theorem inv_run (kw : List String) (ops : List Op) : ∀ (st : St), Inv st → Inv (St.run kw st ops) :=
  St.run_keeps kw (fun st st' op h hop => inv_apply kw st st' op h hop) ops

theorem run_inv (kw : List String) (ops : List Op) : Inv (St.run kw {} ops) :=
  inv_run kw ops {} inv_empty

end MxModel.SM
