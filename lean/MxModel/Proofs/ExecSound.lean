import MxModel.Proofs.ExecStep
/-!
# Memoised evaluation refines the specification

`runN_ok`: from a state whose held values are all the spec's (`Good`), an evaluation that
never hits the depth limit returns the spec's result and ends in a `Good` state – for every
environment, i.e. for arbitrary formula behaviours including ones that catch failures.
`runN_complete`: conversely, when the spec evaluation stays within the depth the mechanism is
given, the mechanism returns exactly that result and never hits the limit, whatever is cached.
-/
namespace MxModel.Exec

variable (env : Env) (inp : Node → Option Val)

/-! ### the spec is monotone in the depth and deterministic -/

theorem calleeAt_alive {env : Env} (f : Node → Res × Bool) {n : Node} (h : env.alive n.1 = true) :
    calleeAt env f n = f n := by simp [calleeAt, h]

theorem calleeAt_dead {env : Env} (f : Node → Res × Bool) {n : Node} (h : env.alive n.1 = false) :
    calleeAt env f n = (.err errDead, false) := by simp [calleeAt, h]

theorem calleeAt_mono (f g : Node → Res × Bool)
    (hfg : ∀ n r, f n = (r, false) → g n = (r, false)) (n : Node) (r : Res)
    (h : calleeAt env f n = (r, false)) : calleeAt env g n = (r, false) := by
  unfold calleeAt at h ⊢
  split
  · rename_i ha; rw [if_pos ha] at h; exact hfg n r h
  · rename_i ha; rw [if_neg ha] at h; exact h

theorem denoteBody_mono (f g : Node → Res × Bool)
    (hfg : ∀ n r, f n = (r, false) → g n = (r, false)) :
    ∀ (p : Prog) (r : Res), denoteBody env f p = (r, false) → denoteBody env g p = (r, false) := by
  intro p
  induction p with
  | ret v => intro r h; simpa [denoteBody] using h
  | raise e => intro r h; simpa [denoteBody] using h
  | reraise e => intro r h; simpa [denoteBody] using h
  | read a x k ih => intro r h; simp only [denoteBody] at h ⊢; exact ih _ r h
  | call n k ih =>
    intro r h
    simp only [denoteBody, Prod.mk.injEq, Bool.or_eq_false_iff] at h
    obtain ⟨h1, h2, h3⟩ := h
    have hf : calleeAt env f n = ((calleeAt env f n).1, false) := by rw [← h2]
    have hg := calleeAt_mono env f g hfg n _ hf
    have hk : denoteBody env f (k (calleeAt env f n).1) = (r, false) := by rw [← h1, ← h3]
    have := ih (calleeAt env f n).1 r hk
    simp only [denoteBody, hg, this, Bool.or_false]

theorem denoteN_mono : ∀ (d : Nat) (n : Node) (r : Res),
    denoteN env inp d n = (r, false) → denoteN env inp (d + 1) n = (r, false) := by
  intro d
  induction d with
  | zero => intro n r h; simp [denoteN] at h
  | succ d ih =>
    intro n r h
    rw [denoteN] at h ⊢
    split
    · rename_i v hv; rw [hv] at h; exact h
    · rename_i hv
      rw [hv] at h
      simp only [Prod.mk.injEq] at h ⊢
      obtain ⟨h1, h2⟩ := h
      have hb : denoteBody env (denoteN env inp d) (env.formula n) =
          ((denoteBody env (denoteN env inp d) (env.formula n)).1, false) := by rw [← h2]
      have := denoteBody_mono env _ _ (fun m r' hm => ih m r' hm) _ _ hb
      rw [this]
      exact ⟨h1, rfl⟩

theorem denoteN_mono_le {d d' : Nat} (hle : d ≤ d') (n : Node) (r : Res)
    (h : denoteN env inp d n = (r, false)) : denoteN env inp d' n = (r, false) := by
  induction hle with
  | refl => exact h
  | step _ ih => exact denoteN_mono env inp _ n r ih

theorem Den_det (n : Node) (r r' : Res) (h : Den env inp n r) (h' : Den env inp n r') : r = r' := by
  obtain ⟨d, hd⟩ := h; obtain ⟨d', hd'⟩ := h'
  have a := denoteN_mono_le env inp (Nat.le_max_left d d') n r hd
  have b := denoteN_mono_le env inp (Nat.le_max_right d d') n r' hd'
  rw [a] at b; exact (Prod.mk.inj b).1

def DenBody (p : Prog) (r : Res) : Prop :=
  ∃ d, denoteBody env (denoteN env inp d) p = (r, false)

/-- what a formula that calls `n` is answered: the denotation of `n` when the cells exists, the
error of an unbound name when it does not -/
def DenC (n : Node) (r : Res) : Prop :=
  if env.alive n.1 then Den env inp n r else r = .err errDead

theorem DenC_det (n : Node) (r r' : Res) (h : DenC env inp n r) (h' : DenC env inp n r') : r = r' := by
  unfold DenC at h h'
  by_cases ha : env.alive n.1 = true
  · rw [if_pos ha] at h h'; exact Den_det env inp n r r' h h'
  · rw [if_neg ha] at h h'; rw [h, h']

structure Good (s : St) : Prop where
  sound : ∀ n v, env.cached n.1 = true → lookup s.data n = some v → Den env inp n (.ok v)
  inputsHeld : ∀ n v, env.cached n.1 = true → inp n = some v → lookup s.data n = some v

section
variable {env} {inp}

theorem Good.of_data {s s' : St} (g : Good env inp s) (hd : s'.data = s.data) : Good env inp s' :=
  ⟨fun n v hc hl => g.sound n v hc (hd ▸ hl), fun n v hc hi => hd ▸ g.inputsHeld n v hc hi⟩

theorem Good.of_sameCache {s s' : St} (h : SameCache s s') (g : Good env inp s) : Good env inp s' :=
  g.of_data h.data

theorem DenC.of_alive {n : Node} {r : Res} (ha : env.alive n.1 = true) (h : Den env inp n r) : DenC env inp n r := by
  unfold DenC; rw [if_pos ha]; exact h

theorem DenC.of_dead {n : Node} (ha : env.alive n.1 = false) : DenC env inp n (.err errDead) := by
  unfold DenC; rw [ha]; rfl

theorem Good.inp_none {s : St} (g : Good env inp s) {n : Node} (hc : env.cached n.1 = true)
    (hl : lookup s.data n = none) : inp n = none := by
  cases hi : inp n with
  | none => rfl
  | some v => rw [g.inputsHeld n v hc hi] at hl; cases hl

theorem DenBody_call (n : Node) (k : Res → Prog) (rn r : Res)
    (hn : DenC env inp n rn) (hk : DenBody env inp (k rn) r) : DenBody env inp (.call n k) r := by
  obtain ⟨d2, h2⟩ := hk
  unfold DenC at hn
  split at hn
  · rename_i ha
    obtain ⟨d1, h1⟩ := hn
    refine ⟨max d1 d2, ?_⟩
    have a := denoteN_mono_le env inp (Nat.le_max_left d1 d2) n rn h1
    have b := denoteBody_mono env (denoteN env inp d2) (denoteN env inp (max d1 d2))
      (fun m r' hm => denoteN_mono_le env inp (Nat.le_max_right d1 d2) m r' hm) _ r h2
    simp [denoteBody, calleeAt_alive _ ha, a, b]
  · rename_i ha
    have ha' : env.alive n.1 = false := by simpa using ha
    subst hn
    exact ⟨d2, by simp [denoteBody, calleeAt_dead _ ha', h2]⟩

theorem den_of_body (n : Node) (r : Res) (hb : DenBody env inp (env.formula n) r)
    (hin : env.cached n.1 = true → inp n = none) : Den env inp n (checkNone env n.1 r) := by
  obtain ⟨d, hd⟩ := hb
  refine ⟨d + 1, ?_⟩
  rw [denoteN]
  have : (if env.cached n.1 = true then inp n else none) = none := by
    split
    · rename_i hc; exact hin hc
    · rfl
  rw [this]
  simp only [hd]

theorem good_store {s : St} (g : Good env inp s) (n : Node) (v : Val)
    (hden : Den env inp n (.ok v)) (hin : env.cached n.1 = true → inp n = none) :
    Good env inp { s with data := insert s.data n v } := by
  constructor
  · intro m w hc hl
    simp only [lookup_insert] at hl
    split at hl
    · rename_i h; subst h; cases hl; exact hden
    · exact g.sound m w hc hl
  · intro m w hc hi
    simp only [lookup_insert]
    split
    · rename_i h; subst h; rw [hin hc] at hi; cases hi
    · exact g.inputsHeld m w hc hi

end

/-- contract of an evaluator for callees, relative to "the limit was never hit" -/
def CalleeOK (f : Node → St → Res × St) : Prop :=
  ∀ n s, (s.hit = false → Good env inp s) →
    (s.hit = true → (f n s).2.hit = true) ∧
    ((f n s).2.hit = false → Good env inp (f n s).2 ∧ DenC env inp n (f n s).1)

theorem hit_false_of {a b : Bool} (h : a = true → b = true) (hb : b = false) : a = false := by
  cases a <;> simp_all

theorem runBody_ok (f : Node → St → Res × St) (hf : CalleeOK env inp f) :
    ∀ (p : Prog) (s : St), (s.hit = false → Good env inp s) →
      (s.hit = true → (runBody env f p s).2.hit = true) ∧
      ((runBody env f p s).2.hit = false →
        Good env inp (runBody env f p s).2 ∧ DenBody env inp p (runBody env f p s).1) := by
  intro p
  induction p with
  | ret v =>
    intro s hs
    exact ⟨id, fun h => ⟨hs h, ⟨0, by simp [runBody, denoteBody]⟩⟩⟩
  | raise e =>
    intro s hs
    simp only [runBody]
    exact ⟨id, fun h => ⟨Good.of_sameCache (sameCache_newExc s) (hs h), ⟨0, by simp [denoteBody]⟩⟩⟩
  | reraise e =>
    intro s hs
    exact ⟨id, fun h => ⟨hs h, ⟨0, by simp [runBody, denoteBody]⟩⟩⟩
  | read a x k ih =>
    intro s hs
    have hsc := sameCache_noteRead s (a && (env.refs x).isSome) x
    have := ih (env.refs x) (s.noteRead (a && (env.refs x).isSome) x)
      (fun h => Good.of_sameCache hsc (hs (hsc.hit ▸ h)))
    simp only [runBody]
    refine ⟨fun h => this.1 (hsc.hit ▸ h), fun h => ?_⟩
    obtain ⟨hg, d, hd⟩ := this.2 h
    exact ⟨hg, d, by simpa [denoteBody] using hd⟩
  | call n k ih =>
    intro s hs
    simp only [runBody]
    have hfn := hf n s hs
    have := ih (f n s).1 (f n s).2 (fun h => (hfn.2 h).1)
    refine ⟨fun h => this.1 (hfn.1 h), fun h => ?_⟩
    have hmid : (f n s).2.hit = false := hit_false_of this.1 h
    obtain ⟨hg, hden⟩ := this.2 h
    exact ⟨hg, DenBody_call n k _ _ (hfn.2 hmid).2 hden⟩

/-- contract of `_eval_formula`: that of `CalleeOK`, for an element that is no input (`eval_node`
enters it on a cache miss only, `Good.inp_none`) -/
def EvalOK (ef : Node → St → Res × St) : Prop :=
  ∀ n s, (s.hit = false → Good env inp s) → (s.hit = false → env.cached n.1 = true → inp n = none) →
    (s.hit = true → (ef n s).2.hit = true) ∧
    ((ef n s).2.hit = false → Good env inp (ef n s).2 ∧ Den env inp n (ef n s).1)

section
variable {env} {inp}

theorem evalNode_ok (ef : Node → St → Res × St) (hef : EvalOK env inp ef) :
    CalleeOK env inp (evalNode env ef) := by
  intro n s hs
  have hst := evalNode_step env ef n s
  generalize evalNode env ef n s = q at hst
  cases hst with
  | hit v ha hc hl =>
    have hsc := sameCache_hitEdge s n
    refine ⟨fun h => hsc.hit ▸ h, fun h => ?_⟩
    have h0 : s.hit = false := hsc.hit ▸ h
    exact ⟨Good.of_sameCache hsc (hs h0), DenC.of_alive ha ((hs h0).sound n v hc hl)⟩
  | run ha hu =>
    have := hef n s hs (fun h0 hc => (hs h0).inp_none hc (hu hc))
    have ho := keepExc_excOnly s (ef n s)
    rw [keepExc_fst, ho.hit]
    exact ⟨this.1, fun h => ⟨Good.of_sameCache ho.sameCache (this.2 h).1, DenC.of_alive ha (this.2 h).2⟩⟩
  | dead ha =>
    exact ⟨fun h => h, fun h => ⟨Good.of_sameCache (sameCache_newExc s) (hs h), DenC.of_dead ha⟩⟩

theorem Closes.hit {env : Env} {n : Node} {p q : Res × St} (h : Closes env n p q) : q.2.hit = p.2.hit := by
  cases h with
  | fail e s1 => rfl
  | noneRet s1 _ _ => exact (sameCache_rollback s1.newExc n).hit
  | stored v s1 _ _ => exact (sameCache_pop env _ n).hit
  | uncached v s1 _ => exact (sameCache_pop env s1 n).hit

theorem Closes.den {n : Node} {p q : Res × St} (h : Closes env n p q)
    (hb : DenBody env inp (env.formula n) p.1) (hin : env.cached n.1 = true → inp n = none) :
    Den env inp n q.1 := by
  rw [h.fst]; exact den_of_body n _ hb hin

theorem Closes.good {n : Node} {p q : Res × St} (h : Closes env n p q) (g : Good env inp p.2)
    (hden : Den env inp n q.1) (hin : env.cached n.1 = true → inp n = none) : Good env inp q.2 := by
  cases h with
  | fail e s1 => exact Good.of_sameCache (sameCache_rollback s1 n) g
  | noneRet s1 _ _ =>
    exact Good.of_sameCache ((sameCache_newExc s1).trans (sameCache_rollback s1.newExc n)) g
  | stored v s1 _ _ => exact Good.of_sameCache (sameCache_pop env _ n) (good_store g n v hden hin)
  | uncached v s1 _ => exact Good.of_sameCache (sameCache_pop env s1 n) g

end

theorem runN_ok : ∀ d, EvalOK env inp (runN env d) := by
  intro d
  induction d with
  | zero =>
    intro n s hs hin
    simp [runN, St.newExc]
  | succ d ih =>
    intro n s hs hin
    have hpush := sameCache_push env s n
    have hb := runBody_ok env inp _ (evalNode_ok _ ih) (env.formula n) (s.push env n)
      (fun h => Good.of_sameCache hpush (hs (hpush.hit ▸ h)))
    have hcl := runN_succ env d n s
    generalize runBody _ _ _ _ = p at hb hcl
    generalize runN env (d + 1) n s = q at hcl
    rw [hcl.hit]
    have hsticky : s.hit = true → p.2.hit = true := fun h => hb.1 (hpush.hit ▸ h)
    refine ⟨hsticky, fun h => ?_⟩
    have h0 : s.hit = false := hit_false_of hsticky h
    have hd := hcl.den (hb.2 h).2 (hin h0)
    exact ⟨hcl.good (hb.2 h).1 hd (hin h0), hd⟩

def CompOK (d : Nat) (f : Node → St → Res × St) : Prop :=
  ∀ n s r, Good env inp s → s.hit = false → calleeAt env (denoteN env inp d) n = (r, false) →
    (f n s).1 = r ∧ (f n s).2.hit = false

theorem runBody_complete (d : Nat) (f : Node → St → Res × St) (hf : CalleeOK env inp f)
    (hc : CompOK env inp d f) :
    ∀ (p : Prog) (s : St) (r : Res), Good env inp s → s.hit = false →
      denoteBody env (denoteN env inp d) p = (r, false) →
      (runBody env f p s).1 = r ∧ (runBody env f p s).2.hit = false := by
  intro p
  induction p with
  | ret v => intro s r _ h0 h; simp [runBody, denoteBody] at h ⊢; exact ⟨h, h0⟩
  | raise e =>
    intro s r _ h0 h
    simp only [runBody, denoteBody, Prod.mk.injEq] at h ⊢
    exact ⟨h.1, by simpa [St.newExc] using h0⟩
  | reraise e => intro s r _ h0 h; simp [runBody, denoteBody] at h ⊢; exact ⟨h, h0⟩
  | read a x k ih =>
    intro s r hg h0 h
    simp only [runBody, denoteBody] at h ⊢
    have hsc := sameCache_noteRead s (a && (env.refs x).isSome) x
    exact ih _ _ r (Good.of_sameCache hsc hg) (hsc.hit ▸ h0) h
  | call n k ih =>
    intro s r hg h0 h
    simp only [denoteBody, Prod.mk.injEq, Bool.or_eq_false_iff] at h
    obtain ⟨h1, h2, h3⟩ := h
    have hcal : calleeAt env (denoteN env inp d) n = ((calleeAt env (denoteN env inp d) n).1, false) := by
      rw [← h2]
    obtain ⟨hr, hh⟩ := hc n s _ hg h0 hcal
    have hg' := ((hf n s (fun _ => hg)).2 hh).1
    simp only [runBody]
    rw [hr]
    exact ih _ _ r hg' hh (by rw [← h1, ← h3])

theorem evalNode_complete (d : Nat) (ef : Node → St → Res × St)
    (hef : ∀ n s r, Good env inp s → s.hit = false → (env.cached n.1 = true → inp n = none) →
      denoteN env inp d n = (r, false) → (ef n s).1 = r ∧ (ef n s).2.hit = false) :
    CompOK env inp d (evalNode env ef) := by
  intro n s r hg h0 hd
  have hst := evalNode_step env ef n s
  generalize evalNode env ef n s = q at hst
  cases hst with
  | hit v ha hc hl =>
    rw [calleeAt_alive _ ha] at hd
    exact ⟨Den_det env inp n _ _ (hg.sound n v hc hl) ⟨d, hd⟩, (sameCache_hitEdge s n).hit ▸ h0⟩
  | run ha hu =>
    rw [calleeAt_alive _ ha] at hd
    rw [keepExc_fst, (keepExc_excOnly s _).hit]
    exact hef n s r hg h0 (fun hc => hg.inp_none hc (hu hc)) hd
  | dead ha =>
    rw [calleeAt_dead _ ha] at hd
    exact ⟨(Prod.mk.inj hd).1, h0⟩

theorem runN_complete : ∀ (d : Nat) (n : Node) (s : St) (r : Res),
    Good env inp s → s.hit = false → (env.cached n.1 = true → inp n = none) →
    denoteN env inp d n = (r, false) → (runN env d n s).1 = r ∧ (runN env d n s).2.hit = false := by
  intro d
  induction d with
  | zero => intro n s r _ _ _ h; simp [denoteN] at h
  | succ d ih =>
    intro n s r hg h0 hin hd
    rw [denoteN] at hd
    have hnone : (if env.cached n.1 = true then inp n else none) = none := by
      split
      · rename_i hc; exact hin hc
      · rfl
    rw [hnone] at hd
    simp only [Prod.mk.injEq] at hd
    obtain ⟨hd1, hd2⟩ := hd
    have hpush := sameCache_push env s n
    have hbody := runBody_complete env inp d _ (evalNode_ok _ (runN_ok env inp d))
      (evalNode_complete env inp d _ ih) (env.formula n) (s.push env n) _
      (Good.of_sameCache hpush hg) (hpush.hit ▸ h0)
      (show denoteBody env (denoteN env inp d) (env.formula n) =
        ((denoteBody env (denoteN env inp d) (env.formula n)).1, false) by rw [← hd2])
    have hcl := runN_succ env d n s
    generalize runBody _ _ _ _ = p at hbody hcl
    generalize runN env (d + 1) n s = q at hcl
    rw [hcl.fst, hcl.hit, hbody.1]
    exact ⟨hd1, hbody.2⟩

end MxModel.Exec
