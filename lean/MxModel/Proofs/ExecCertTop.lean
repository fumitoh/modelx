import MxModel.Proofs.ExecCertRunN
import MxModel.Proofs.ExecCertOps
import MxModel.Proofs.ExecCertSound
import MxModel.Proofs.ExecAlive
/-!
# The certificate invariant at quiescent states: every operation preserves it

`CI env lt s`: graph invariant + idle executor + certificates.  Top-level evaluations (T1), value
edits (T4) and every clearing (`CI.of_clr`) take `CI` states to `CI` states; `CI` implies `Good`
(T2).  Edits of the definitions (T3, T4) follow in `ExecCertRedef`.
-/
namespace MxModel.Exec

variable {env : Env} {lt : Node → Node → Prop}

structure Quiet (s : St) : Prop where
  stack : s.stack = []
  idx : s.idx = []
  refstack : s.refstack = []

structure CI (env : Env) (lt : Node → Node → Prop) (s : St) : Prop where
  gi : GI env lt s
  quiet : Quiet s
  certs : CInv env s
  /-- only cells that exist have graph nodes (hence values) -/
  alive : AliveG env s
  /-- reference-graph edges end in held elements -/
  rgHeld : RgHeld s

theorem CI.good (h : CI env lt s) : Good env (inpOf s) s :=
  cinv_good env s (fun m hm => (h.gi.heldNodes m hm).2)
    (fun a b hab => h.alive.nodes a (h.gi.edgeNodes a b hab).1) h.certs

theorem CI.empty (env : Env) (lt : Node → Node → Prop) : CI env lt {} :=
  ⟨GI.empty env lt, ⟨rfl, rfl, rfl⟩, fun _ _ hl => (nomatch hl), AliveG.empty env, fun _ he => (nomatch he)⟩

theorem AliveG.of_clr {env env' : Env} {s s' : St} {R : List GNode} {D : RefId × Node → Prop}
    (h : AliveG env s) (hc : Clr s R D s') (hst : s.stack = [])
    (hal : ∀ x ∈ s'.gn, env'.alive x.cell = env.alive x.cell)
    (hca : ∀ c, GNode.obj c ∈ s'.gn → env'.cached c = env.cached c) : AliveG env' s' :=
  h.of_gn_sub (fun x hx => ((hc.mem_gn x).mp hx).1) hc.stack hal hca hst

theorem RgHeld.of_clr {s s' : St} {R : List GNode} {D : RefId × Node → Prop} (h : RgHeld s)
    (hc : Clr s R D s') : RgHeld s' := by
  intro e he
  rw [hc.lookup, if_neg (hc.rgOut e he)]
  exact h e (hc.rgSub e he)

theorem Quiet.of_clr {s s' : St} {R : List GNode} {D : RefId × Node → Prop} (q : Quiet s) (h : Clr s R D s') :
    Quiet s' :=
  ⟨h.stack.trans q.stack, h.idx.trans q.idx, h.refstack.trans q.refstack⟩

theorem CI.mid {s : St} (h : CI env lt s) : Mid env lt s :=
  ⟨h.gi, fun j i hji => (by rw [h.quiet.idx] at hji; cases hji), h.quiet.idx ▸ h.quiet.stack ▸ rfl,
   fun e he => (by rw [h.quiet.refstack] at he; cases he), h.certs⟩

theorem CI.nodeHeld {s : St} (h : CI env lt s) {m : Node} (hgn : GNode.elem m ∈ s.gn) :
    (lookup s.data m).isSome = true :=
  h.gi.nodeHeld h.quiet.stack hgn

/-- **T1** -/
theorem evalTop_ci (ho : StrictOrder lt) (hr : Ranked env lt) (hnc : NoCatchEnv env) (n : Node) {s : St}
    (hn : env.alive n.1 = true) (h : CI env lt s) : CI env lt (evalTop env n s).2 := by
  have hal := evalTop_alive n s hn h.alive
  have hrg := evalTop_rgHeld (env := env) n s h.rgHeld
  -- after a miss: the state `s1` of `_eval_formula`, with the error report reset
  have miss : (env.cached n.1 = true → lookup s.data n = none) → ∀ (r : Res) (s1 s2 : St),
      runN env (env.maxdepth + 1) n s = (r, s1) → SameG s1 s2 → SameC s1 s2 → s2.refstack = s1.refstack →
      AliveG env s2 → RgHeld s2 → CI env lt s2 := by
    intro hun r s1 s2 hp hg hc hrs ha2 hr2
    have hnone : lookup s.data n = none := by
      cases hcn : env.cached n.1 with
      | true => exact hun hcn
      | false =>
        cases h' : lookup s.data n with
        | none => rfl
        | some v => have := (h.gi.heldNodes n (by rw [h']; rfl)).2; rw [hcn] at this; cases this
    obtain ⟨hpost, _⟩ := runN_cert ho hr hnc (env.maxdepth + 1) n s h.mid
      (by intro a ha; rw [h.quiet.stack] at ha; cases ha) hnone
    rw [hp] at hpost
    -- the frame of `n` took its reads with it: the reference stack is empty again
    have hrs1 : s1.refstack = [] := (hpost.body.refstack_idle h.quiet.stack).trans h.quiet.refstack
    exact ⟨GI.of_sameG hg hpost.mid.gi,
      ⟨hg.stack.trans (hpost.presP.stack.trans h.quiet.stack), hg.idx.trans (hpost.idx.trans h.quiet.idx),
        hrs.trans hrs1⟩, hpost.mid.certs.of_sameC hc, ha2, hr2⟩
  have hs := evalTop_step env n s
  generalize evalTop env n s = q at hs hal hrg ⊢
  cases hs with
  | held v _ _ => exact h
  | ok v s1 hun hp =>
    exact miss hun _ s1 _ hp ⟨rfl, rfl, rfl, rfl, rfl, rfl⟩ ⟨rfl, rfl, rfl, rfl⟩ rfl hal hrg
  | err e s1 hun hp =>
    exact miss hun _ s1 _ hp ⟨rfl, rfl, rfl, rfl, rfl, rfl⟩ ⟨rfl, rfl, rfl, rfl⟩ rfl hal hrg

/-- the invariant after a clearing, also w.r.t. new definitions `env'`: what is left to show is that
the certificates survive, and that the cells which keep a node keep their existence and their flag -/
theorem CI.of_clr {env' : Env} {s s' : St} {R : List GNode} {D : RefId × Node → Prop} (h : CI env lt s)
    (hc : Clr s R D s') (hcert : CInv env' s')
    (hal : ∀ x ∈ s'.gn, env'.alive x.cell = env.alive x.cell)
    (hca : ∀ x ∈ s'.gn, env'.cached x.cell = env.cached x.cell) : CI env' lt s' :=
  ⟨h.gi.of_clr h.quiet.stack hc (fun m hm => hca _ hm), h.quiet.of_clr hc, hcert,
   h.alive.of_clr hc h.quiet.stack hal (fun c hx => hca _ hx), h.rgHeld.of_clr hc⟩

theorem CI.of_clr_same {s s' : St} {R : List GNode} (h : CI env lt s) (hc : Clr s R (fun _ => False) s') :
    CI env lt s' :=
  h.of_clr hc (clr_cinv_same hc h.certs) (fun _ _ => rfl) (fun _ _ => rfl)

theorem clearValueAt_ci {s : St} (h : CI env lt s) (n : Node) (ci : Bool) : CI env lt (s.clearValueAt n ci) := by
  obtain ⟨R, hc, _⟩ := (clears_clearValueAt s (fun _ => False) h.gi.edgeOK n ci).clr
  exact h.of_clr_same hc

theorem clearAllValues_ci {s : St} (h : CI env lt s) (c : CellId) (ci : Bool) :
    CI env lt (s.clearAllValues c ci) := by
  obtain ⟨R, hc, _⟩ := (clears_clearAllValues s (fun _ => False) h.gi.edgeOK c ci).clr
  exact h.of_clr_same hc

theorem clearObj_ci {s : St} (h : CI env lt s) (c : CellId) : CI env lt (s.clearObj c) := by
  obtain ⟨R, hc, _⟩ := (clears_clearObj s (fun _ => False) h.gi.edgeOK c).clr
  exact h.of_clr_same hc

/-- **T4** – assigning a value to an element of a cached cells -/
theorem setValue_ci {s : St} (h : CI env lt s) (n : Node) (v : Val) (hc : env.cached n.1 = true)
    (hn : env.alive n.1 = true) : CI env lt (s.setValue env n v).1 := by
  rcases setValue_cases env s n v with ⟨_, heq⟩ | ⟨_, _, ha⟩
  · rw [heq]; exact h
  · have h1 := clearValueAt_ci h n true
    refine ⟨(h.gi.setValue h.quiet.stack n v hc).1,
      ⟨ha.stack.trans h1.quiet.stack, ha.idx.trans h1.quiet.idx, ha.refstack.trans h1.quiet.refstack⟩,
      ha.cinv h1.certs (clearValueAt_unheld h.gi n), ⟨?_, ?_, ?_⟩, ?_⟩
    · intro x hx
      rcases (ha.gn x).mp hx with hx | rfl
      · exact h1.alive.nodes x hx
      · exact hn
    · intro m hm; exact h1.alive.stack m (ha.stack ▸ hm)
    · intro c hc'
      rcases (ha.gn _).mp hc' with hc' | hc'
      · exact h1.alive.objs c hc'
      · cases hc'
    · intro e he
      rw [ha.data, lookup_insert]
      split
      · rfl
      · exact h1.rgHeld e (ha.rg ▸ he)

end MxModel.Exec
