import MxModel.Proofs.ExecCertCellsDel
import MxModel.Proofs.ExprCert
import MxModel.Proofs.Foldl
/-!
# The edit language of the value layer, and: every operation keeps the certificate invariant

Definitions and lemmas behind `C02.reachable_ci` (statements in `Props/C02.lean`): the regime `WF`,
the environment updates of the operations, `step` / `run` / `Admissible`, `step_ci`, `run_ci`;
the syntactic class `tableEnv` (what `Driver.Exec.World.env` builds) and `tableEnv_wf_aux`.
-/
namespace MxModel.C02
open MxModel.Exec

/-- the hypotheses on programs under which the certificate invariant is maintained -/
structure WF (env : Env) (lt : Node → Node → Prop) : Prop where
  ranked : Ranked env lt
  noCatch : NoCatchEnv env
  scoping : Scoped env

def _root_.MxModel.Exec.Env.withRef (env : Env) (r : RefId) (x : Option Val) : Env :=
  { env with refs := fun r' => if r' = r then x else env.refs r' }

def _root_.MxModel.Exec.Env.withFormula (env : Env) (c : CellId) (f : Key → Prog) : Env :=
  { env with formula := fun n => if n.1 = c then f n.2 else env.formula n }

def _root_.MxModel.Exec.Env.withCached (env : Env) (c : CellId) (b : Bool) : Env :=
  { env with cached := fun c' => if c' = c then b else env.cached c' }

/-- cells `c` is deleted (`b = false`) -/
def _root_.MxModel.Exec.Env.withAlive (env : Env) (c : CellId) (b : Bool) : Env :=
  { env with alive := fun c' => if c' = c then b else env.alive c' }

def _root_.MxModel.Exec.Env.withCell (env : Env) (c : CellId) (f : Key → Prog) (b an : Bool) : Env :=
  { env with formula := fun n => if n.1 = c then f n.2 else env.formula n,
             cached := fun c' => if c' = c then b else env.cached c',
             allowNone := fun c' => if c' = c then an else env.allowNone c',
             alive := fun c' => if c' = c then true else env.alive c' }

theorem refEdit_withRef (env : Env) (r : RefId) (x : Option Val) : RefEdit env (env.withRef r x) r :=
  ⟨rfl, rfl, rfl, fun r' h => by simp [Env.withRef, h], rfl⟩

theorem cellEdit_withFormula (env : Env) (c : CellId) (f : Key → Prog) :
    CellEdit env (env.withFormula c f) c :=
  ⟨fun n h => by simp [Env.withFormula, h], fun _ _ => rfl, fun _ _ => rfl, rfl, rfl⟩

theorem cellEdit_withCached (env : Env) (c : CellId) (b : Bool) : CellEdit env (env.withCached c b) c :=
  ⟨fun _ _ => rfl, fun c' h => by simp [Env.withCached, h], fun _ _ => rfl, rfl, rfl⟩

theorem batchEdit_withAlive (env : Env) (c : CellId) (b : Bool) :
    BatchEdit env (env.withAlive c b) (fun c' => c' = c ∨ c' ∈ env.siblings c) :=
  ⟨fun _ _ => rfl, fun _ _ => rfl, fun _ _ => rfl,
   fun c' h => by simp only [Env.withAlive]; rw [if_neg (fun hc => h (Or.inl hc))], rfl⟩

theorem batchEdit_withCell (env : Env) (c : CellId) (f : Key → Prog) (b an : Bool) :
    BatchEdit env (env.withCell c f b an) (fun c' => c' = c ∨ c' ∈ env.siblings c) :=
  ⟨fun n h => by simp only [Env.withCell]; rw [if_neg (fun hc => h (Or.inl hc))],
   fun c' h => by simp only [Env.withCell]; rw [if_neg (fun hc => h (Or.inl hc))],
   fun c' h => by simp only [Env.withCell]; rw [if_neg (fun hc => h (Or.inl hc))],
   fun c' h => by simp only [Env.withCell]; rw [if_neg (fun hc => h (Or.inl hc))], rfl⟩

theorem wf_withRef {env : Env} {lt : Node → Node → Prop} (h : WF env lt) (r : RefId) (x : Option Val) :
    WF (env.withRef r x) lt := ⟨h.ranked, h.noCatch, h.scoping⟩

theorem wf_withAlive {env : Env} {lt : Node → Node → Prop} (h : WF env lt) (c : CellId) (b : Bool) :
    WF (env.withAlive c b) lt := ⟨h.ranked, h.noCatch, h.scoping⟩

theorem wf_withCached {env : Env} {lt : Node → Node → Prop} (h : WF env lt) (c : CellId) (b : Bool) :
    WF (env.withCached c b) lt := ⟨h.ranked, h.noCatch, h.scoping⟩

theorem wf_of_formula {env env' : Env} {lt : Node → Node → Prop} (h : WF env lt) (c : CellId) (f : Key → Prog)
    (hform : ∀ n, env'.formula n = if n.1 = c then f n.2 else env.formula n)
    (hobs : env'.observers = env.observers)
    (hf : ∀ k, CallsBelow lt (c, k) (f k) ∧ NoCatch (f k) ∧ NameReadsIn (fun r => c ∈ env.observers r) (f k)) :
    WF env' lt := by
  refine ⟨fun n => ?_, fun n => ?_, fun n => ?_⟩
  · rw [hform]; split
    · rename_i hn
      have : n = (c, n.2) := by rw [← hn]
      rw [this]; exact (hf n.2).1
    · exact h.ranked n
  · rw [hform]; split
    · exact (hf n.2).2.1
    · exact h.noCatch n
  · rw [hform, hobs]; split
    · rename_i hn; rw [hn]; exact (hf n.2).2.2
    · exact h.scoping n

theorem wf_withCell {env : Env} {lt : Node → Node → Prop} (h : WF env lt) (c : CellId) (f : Key → Prog)
    (b an : Bool)
    (hf : ∀ k, CallsBelow lt (c, k) (f k) ∧ NoCatch (f k) ∧ NameReadsIn (fun r => c ∈ env.observers r) (f k)) :
    WF (env.withCell c f b an) lt := wf_of_formula h c f (fun _ => rfl) rfl hf

theorem wf_withFormula {env : Env} {lt : Node → Node → Prop} (h : WF env lt) (c : CellId) (f : Key → Prog)
    (hf : ∀ k, CallsBelow lt (c, k) (f k) ∧ NoCatch (f k) ∧ NameReadsIn (fun r => c ∈ env.observers r) (f k)) :
    WF (env.withFormula c f) lt := wf_of_formula h c f (fun _ => rfl) rfl hf

inductive Op
  | eval (n : Node)
  | setValue (n : Node) (v : Val)
  | clearAt (n : Node)
  | clear (c : CellId)
  | clearAll (c : CellId)
  | setRef (r : RefId) (v : Val)
  | delRef (r : RefId)
  | setFormula (c : CellId) (f : Key → Prog)
  | setCached (c : CellId) (b : Bool)
  | delCell (c : CellId)
  | newCell (c : CellId) (f : Key → Prog) (cached allowNone : Bool)
  /-- `mx.set_recursion(k)`: the limit changes, nothing is cleared -/
  | maxdepth (k : Nat)
  /-- the administrative calls (`start_stacktrace`, `get_error`, …): no effect on the state -/
  | admin (a : Admin)

/-- `mx.set_recursion(k)` -/
def _root_.MxModel.Exec.Env.withMaxdepth (env : Env) (k : Nat) : Env := { env with maxdepth := k }

theorem wf_withMaxdepth {env : Env} {lt : Node → Node → Prop} (h : WF env lt) (k : Nat) :
    WF (env.withMaxdepth k) lt := ⟨h.ranked, h.noCatch, h.scoping⟩

/-- the invariant does not mention the recursion limit -/
theorem ci_withMaxdepth {env : Env} {lt : Node → Node → Prop} {s : St} (h : CI env lt s) (k : Nat) :
    CI (env.withMaxdepth k) lt s :=
  ⟨⟨h.gi.nodesHeld, h.gi.heldNodes, h.gi.stackUnheld, h.gi.edgesOrd, h.gi.edgeNodes, h.gi.inputsHeld,
    h.gi.inputsNoPreds, h.gi.elemCached⟩, h.quiet,
   fun n v hl hin => by
     obtain ⟨tr, hc⟩ := h.certs n v hl hin
     exact ⟨tr, ⟨replay_congr env (env.withMaxdepth k) tr n.1 _ v hc.replay
       (fun ev _ => by cases ev <;> simp [Stable, Env.withMaxdepth]), hc.noneOK, hc.events, hc.just⟩⟩,
   ⟨h.alive.nodes, h.alive.stack, h.alive.objs⟩, h.rgHeld⟩

/-- one operation on the definitions and the mechanism state, in modelx's order: the clearing
happens while the old definitions are in force, then the definition changes.  An operation
through the handle of a cells that does not exist is refused (`DeletedObjectError`), so is the
deletion of a missing and the creation of an existing cells. -/
def step : Env × St → Op → Env × St
  | (env, s), .eval n => (env, if env.alive n.1 then (evalTop env n s).2 else s)
  | (env, s), .setValue n v => (env, if env.cached n.1 && env.alive n.1 then (s.setValue env n v).1 else s)
  | (env, s), .clearAt n => (env, s.clearValueAt n true)
  | (env, s), .clear c => (env, s.clearAllValues c false)
  | (env, s), .clearAll c => (env, s.clearAllValues c true)
  | (env, s), .setRef r v => (env.withRef r (some v), s.setRef env r)
  | (env, s), .delRef r => if (env.refs r).isSome then (env.withRef r none, s.delRef env r) else (env, s)
  | (env, s), .setFormula c f => if env.alive c then (env.withFormula c f, s.setFormula c) else (env, s)
  | (env, s), .setCached c b =>
    if env.cached c = b || !env.alive c then (env, s) else (env.withCached c b, s.setFormula c)
  | (env, s), .delCell c => if env.alive c then (env.withAlive c false, s.delCell env c) else (env, s)
  | (env, s), .newCell c f b an => if env.alive c then (env, s) else (env.withCell c f b an, s.newCell env c)
  | (env, s), .maxdepth k => (env.withMaxdepth k, s)
  | (env, s), .admin a => (env, s.admin a)

def run (st : Env × St) (ops : List Op) : Env × St := ops.foldl step st

/-- the definitions stay within the regime after every operation (automatic for everything
except formula edits and the creation of a cells: `wf_withRef`, `wf_withAlive`, `wf_withCached`) -/
def Admissible (lt : Node → Node → Prop) : Env × St → List Op → Prop
  | _, [] => True
  | st, op :: ops => WF (step st op).1 lt ∧ Admissible lt (step st op) ops

theorem step_ci (lt : Node → Node → Prop) (ho : StrictOrder lt) (st : Env × St) (op : Op)
    (hw : WF st.1 lt) (h : CI st.1 lt st.2) : CI (step st op).1 lt (step st op).2 := by
  obtain ⟨env, s⟩ := st
  cases op with
  | eval n =>
    simp only [step]
    split
    · rename_i hn; exact evalTop_ci ho hw.ranked hw.noCatch n hn h
    · exact h
  | setValue n v =>
    simp only [step]
    split
    · rename_i hc
      simp only [Bool.and_eq_true] at hc
      exact setValue_ci h n v hc.1 hc.2
    · exact h
  | clearAt n => exact clearValueAt_ci h n true
  | clear c => exact clearAllValues_ci h c false
  | clearAll c => exact clearAllValues_ci h c true
  | setRef r v => exact setRef_ci h hw.scoping hw.noCatch (refEdit_withRef env r (some v))
  | delRef r =>
    simp only [step]
    split
    · rename_i hex; exact delRef_ci h hw.scoping hw.noCatch (refEdit_withRef env r none) hex
    · exact h
  | setFormula c f =>
    simp only [step]
    split
    · exact setFormula_ci h (cellEdit_withFormula env c f)
    · exact h
  | setCached c b =>
    simp only [step]
    split
    · exact h
    · exact setFormula_ci h (cellEdit_withCached env c b)
  | delCell c =>
    simp only [step]
    split
    · refine delCell_ci h (batchEdit_withAlive env c false) ?_
      intro c' _ hne
      simp [Env.withAlive, hne]
    · exact h
  | newCell c f b an =>
    simp only [step]
    split
    · exact h
    · rename_i hd
      refine newCell_ci h (by simpa using hd) (batchEdit_withCell env c f b an) ?_
      intro c' _ hne
      simp [Env.withCell, hne]
  | maxdepth k => exact ci_withMaxdepth h k
  | admin a => exact h

theorem run_ci (lt : Node → Node → Prop) (ho : StrictOrder lt) : ∀ (ops : List Op) (st : Env × St),
    WF st.1 lt → CI st.1 lt st.2 → Admissible lt st ops →
    CI (run st ops).1 lt (run st ops).2 ∧ WF (run st ops).1 lt :=
  fun ops st hw h hadm =>
    foldl_inv step (Admissible lt) (fun st => WF st.1 lt) (fun st => CI st.1 lt st.2) (fun _ _ _ ha => ha)
      (fun st op hw h => step_ci lt ho st op hw h) ops st hw h hadm

/-- what one operation does to the mechanism state: nothing, a top-level evaluation, an assignment,
or the removal of a successor-closed set of graph nodes -/
inductive Effect (env : Env) (s : St) (op : Op) : St → Prop
  | none : Effect env s op s
  | eval (n : Node) : op = .eval n → Effect env s op (evalTop env n s).2
  | assign (n : Node) (v : Val) : op = .setValue n v → Effect env s op (s.setValue env n v).1
  | clear {R : List GNode} {D : RefId × Node → Prop} {s' : St} : Clr s R D s' → Effect env s op s'

theorem step_effect (env : Env) (s : St) (op : Op) (he : EdgeOK s) : Effect env s op (step (env, s) op).2 := by
  cases op with
  | eval n => simp only [step]; split; exact .eval n rfl; exact .none
  | setValue n v => simp only [step]; split; exact .assign n v rfl; exact .none
  | clearAt n => obtain ⟨R, hc, _⟩ := (clears_clearValueAt s (fun _ => False) he n true).clr; exact .clear hc
  | clear c => obtain ⟨R, hc, _⟩ := (clears_clearAllValues s (fun _ => False) he c false).clr; exact .clear hc
  | clearAll c => obtain ⟨R, hc, _⟩ := (clears_clearAllValues s (fun _ => False) he c true).clr; exact .clear hc
  | setRef r v => obtain ⟨R, hc, _⟩ := clr_setRef env s he r; exact .clear hc
  | delRef r =>
    simp only [step]; split
    · obtain ⟨R, hc, _⟩ := clr_delRef env s he r; exact .clear hc
    · exact .none
  | setFormula c f =>
    simp only [step]; split
    · obtain ⟨R, hc, _⟩ := (clears_clearObj s (fun _ => False) he c).clr; exact .clear hc
    · exact .none
  | setCached c b =>
    simp only [step]; split
    · exact .none
    · obtain ⟨R, hc, _⟩ := (clears_clearObj s (fun _ => False) he c).clr; exact .clear hc
  | delCell c =>
    simp only [step]; split
    · obtain ⟨R, hc, _⟩ := (clears_delCell (env := env) s he c).clr; exact .clear hc
    · exact .none
  | newCell c f b an =>
    simp only [step]; split
    · exact .none
    · obtain ⟨R, hc, _⟩ := (clears_notifyAll env s (fun _ => False) he (env.siblings c)).clr; exact .clear hc
  | maxdepth k => exact .none
  | admin a => exact .none

/-! ### a syntactic class of programs in the regime

Environments built from a table of bodies without a handler that returns a value (in particular:
`try`-free bodies) in which cells `i` calls cells `< i` only, with the space of every cells and
reference given, calls of missing cells rewritten by `deadExpr` (`dead caller callee`: is `callee`
missing, and does `caller` spell it through an attribute path) and any assignment `alive` of which
cells exist - exactly what `Driver.Exec.World.env` builds from the harness' program description -
are `WF`. -/

def tableEnv (cells : CellId → Option Expr) (ar : CellId → Option Nat) (ids : List CellId)
    (cached allowNone : CellId → Bool) (cspace : CellId → Nat) (rspace : RefId → Nat)
    (refs : RefId → Option Val) (maxdepth : Nat)
    (dead : CellId → CellId → Option Bool := fun _ _ => none) (alive : CellId → Bool := fun _ => true) : Env where
  formula := fun n => match cells n.1 with
    | some e => formulaOf ar (scopeExpr (fun r => rspace r == cspace n.1) (deadExpr (dead n.1) e)) n.2
    | none => .raise (.user kName)
  cached := cached
  allowNone := allowNone
  refs := refs
  maxdepth := maxdepth
  observers := fun r => ids.filter (fun c => cspace c == rspace r)
  alive := alive
  siblings := fun c => ids.filter (fun c' => cspace c' == cspace c)

theorem tableEnv_wf_aux (cells : CellId → Option Expr) (ar : CellId → Option Nat) (ids : List CellId)
    (cached allowNone : CellId → Bool) (cspace : CellId → Nat) (rspace : RefId → Nat)
    (refs : RefId → Option Val) (maxdepth : Nat) (dead : CellId → CellId → Option Bool) (alive : CellId → Bool)
    (hids : ∀ i e, cells i = some e → i ∈ ids)
    (hbody : ∀ i e, cells i = some e → noCatch e = true ∧ callsBelowId i e = true) :
    WF (tableEnv cells ar ids cached allowNone cspace rspace refs maxdepth dead alive) idLt := by
  refine ⟨?_, ?_, ?_⟩
  · refine ranked_of_table
      (fun i => (cells i).map (fun e => scopeExpr (fun r => rspace r == cspace i) (deadExpr (dead i) e))) ar _ ?_ ?_
    · intro n
      simp only [tableEnv]
      cases cells n.1 <;> rfl
    · intro i e h
      cases hc : cells i with
      | none => simp [hc] at h
      | some e0 =>
        simp only [hc, Option.map_some, Option.some.injEq] at h
        subst h
        rw [(scope_facts _ i _).2.2]
        exact (dead_facts (dead i) (fun _ => true) i e0).2.2 (hbody i e0 hc).2
  · intro n
    simp only [tableEnv]
    cases hc : cells n.1 with
    | none => trivial
    | some e =>
      exact (formulaOf_pw (fun _ => True) (fun r => rspace r == cspace n.1) (fun _ _ => trivial) ar _ n.2
        (scope_noCatch _ _ ((dead_facts (dead n.1) (fun _ => true) n.1 e).2.1 (hbody n.1 e hc).1))
        (scope_facts _ n.1 _).1).1
  · intro n
    simp only [tableEnv]
    cases hc : cells n.1 with
    | none => trivial
    | some e =>
      refine (formulaOf_pw _ (fun r => rspace r == cspace n.1) ?_ ar _ n.2
        (scope_noCatch _ _ ((dead_facts (dead n.1) (fun _ => true) n.1 e).2.1 (hbody n.1 e hc).1))
        (scope_facts _ n.1 _).1).2
      intro r hr
      simp only [List.mem_filter]
      refine ⟨hids n.1 e hc, ?_⟩
      rw [beq_iff_eq] at hr ⊢
      exact hr.symm

end MxModel.C02
