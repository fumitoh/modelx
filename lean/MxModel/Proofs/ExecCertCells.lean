import MxModel.Proofs.ExecCertRedef
/-!
# Structural edits at the value layer: a SET of cells is redefined, their namespaces notify

`batchEdit_ci` – the batch / namespace generalisation of `setFormula_ci`.  Let an edit change the
definitions (formula, cache flag, `allow_none`, existence) of the cells in `C` – arbitrarily and
all at once – and let modelx's clearing be the namespace notification of a list `L` of cells
(`St.notifyAll`: a cached cells drops its computed values with their dependents and KEEPS its
inputs, an uncached cells drops everything computed through it).  If every redefined cells is
either notified or has no node in the trace graph (it was cleared by `clear_obj` before, or never
existed), the certificate invariant holds again for the NEW definitions.  Side conditions, all
about the inputs that survive: a redefined cells that keeps an input stays cached and in
existence.

Instances: a cells is deleted (`St.delCell` = `clear_obj`, then the notification of the cells of
its space), a cells is created (`St.newCell`), and – through the resolution layer – any edit of
the namespace of a set of spaces (`Proofs/ExecResolve*.lean`).
-/
namespace MxModel.Exec

structure BatchEdit (env env' : Env) (C : CellId → Prop) : Prop where
  formula : ∀ n : Node, ¬ C n.1 → env'.formula n = env.formula n
  cached : ∀ c, ¬ C c → env'.cached c = env.cached c
  allowNone : ∀ c, ¬ C c → env'.allowNone c = env.allowNone c
  alive : ∀ c, ¬ C c → env'.alive c = env.alive c
  refs : env'.refs = env.refs

theorem BatchEdit.mono {env env' : Env} {C C' : CellId → Prop} (h : BatchEdit env env' C)
    (hsub : ∀ c, C c → C' c) : BatchEdit env env' C' :=
  ⟨fun n hn => h.formula n (fun hc => hn (hsub _ hc)), fun c hn => h.cached c (fun hc => hn (hsub _ hc)),
   fun c hn => h.allowNone c (fun hc => hn (hsub _ hc)), fun c hn => h.alive c (fun hc => hn (hsub _ hc)), h.refs⟩

variable {env env' : Env} {lt : Node → Node → Prop}

theorem BatchEdit.redef {C : CellId → Prop} (h : BatchEdit env env' C) :
    Edit.Redef env env' C (fun _ => False) :=
  ⟨h.formula, h.cached, h.allowNone, h.alive, fun _ _ => by rw [h.refs]⟩

theorem batchEdit_ci {s : St} (L : List CellId) (C : CellId → Prop) (h : CI env lt s)
    (hed : BatchEdit env env' C)
    (hC : ∀ c, C c → c ∈ L ∨ ∀ x ∈ s.gn, x.cell ≠ c)
    (hinp : ∀ n ∈ s.inputs, C n.1 → env'.cached n.1 = true ∧ env'.alive n.1 = true) :
    CI env' lt (s.notifyAll env L) := by
  obtain ⟨R, hc, hR⟩ := (clears_notifyAll env s (fun _ => False) h.gi.edgeOK L).clr
  exact Edit.redefine_ci_of_reads (h.of_clr_same hc) hed.redef (clean_of_seeds h hc hR hC)
    (fun n hn => hinp n ((hc.mem_inputs n).mp hn).1) (fun _ _ _ _ _ _ _ _ _ _ hr => hr.elim)

theorem notifySiblings_eq (env : Env) (s : St) (c : CellId) :
    s.notifySiblings env c = s.notifyAll env (env.siblings c) := rfl

/-- `clear_obj` of several cells: a cells and its derived copies in sub spaces -/
theorem clearObjs_ci {s : St} (h : CI env lt s) (CL : List CellId) :
    CI env lt (CL.foldl St.clearObj s) ∧
    (∀ x ∈ (CL.foldl St.clearObj s).gn, x ∈ s.gn) ∧
    (∀ c ∈ CL, ∀ x ∈ (CL.foldl St.clearObj s).gn, x.cell ≠ c) := by
  induction CL generalizing s with
  | nil => exact ⟨h, fun _ hx => hx, fun _ hc => by cases hc⟩
  | cons c0 CL ih =>
    simp only [List.foldl_cons]
    obtain ⟨R, hc, _⟩ := (clears_clearObj s (fun _ => False) h.gi.edgeOK c0).clr
    obtain ⟨h1, h2, h3⟩ := ih (clearObj_ci h c0)
    refine ⟨h1, fun x hx => ((hc.mem_gn x).mp (h2 x hx)).1, ?_⟩
    intro c hcm x hx
    simp only [List.mem_cons] at hcm
    rcases hcm with rfl | hcm
    · exact clearObj_noNodes s h.gi.edgeOK c x (h2 x hx)
    · exact h3 c hcm x hx

/-- the cells of the space of `c` are notified while `c` has no node: ANY new definitions `env'` that
differ from the old ones at `c` and – arbitrarily in the formulas and `allow_none` – at the cells of
`c`'s space (their names resolve differently now); the flags and the existence of the other cells of
the space are unchanged (`hkeep`) -/
theorem notifySiblings_ci {s : St} {c : CellId} (h : CI env lt s) (hno : ∀ x ∈ s.gn, x.cell ≠ c)
    (hed : BatchEdit env env' (fun c' => c' = c ∨ c' ∈ env.siblings c))
    (hkeep : ∀ c' ∈ env.siblings c, c' ≠ c → env'.cached c' = env.cached c' ∧ env'.alive c' = env.alive c') :
    CI env' lt (s.notifySiblings env c) := by
  refine batchEdit_ci (env.siblings c) _ h hed ?_ ?_
  · rintro c' (rfl | hc')
    · exact Or.inr hno
    · exact Or.inl hc'
  · intro n hn hC
    have hheld := h.gi.inputsHeld n hn
    have hgn := (h.gi.heldNodes n hheld).1
    have hne : n.1 ≠ c := hno _ hgn
    rcases hC with hC | hC
    · exact absurd hC hne
    · obtain ⟨k1, k2⟩ := hkeep n.1 hC hne
      exact ⟨k1.trans (h.gi.heldNodes n hheld).2, k2.trans (h.alive.nodes _ hgn)⟩

/-- deletion of cells `c` (`St.delCell`): `env'` is arbitrary at `c` – in particular `c` no longer
exists there -/
theorem delCell_ci {s : St} {c : CellId} (h : CI env lt s)
    (hed : BatchEdit env env' (fun c' => c' = c ∨ c' ∈ env.siblings c))
    (hkeep : ∀ c' ∈ env.siblings c, c' ≠ c → env'.cached c' = env.cached c' ∧ env'.alive c' = env.alive c') :
    CI env' lt (s.delCell env c) :=
  notifySiblings_ci (clearObj_ci h c) (clearObj_noNodes s h.gi.edgeOK c) hed hkeep

/-- creation of cells `c` (`St.newCell`; `c` did not exist): ANY definition for `c`, and new
formulas for the cells of its space -/
theorem newCell_ci {s : St} {c : CellId} (h : CI env lt s) (hdead : env.alive c = false)
    (hed : BatchEdit env env' (fun c' => c' = c ∨ c' ∈ env.siblings c))
    (hkeep : ∀ c' ∈ env.siblings c, c' ≠ c → env'.cached c' = env.cached c' ∧ env'.alive c' = env.alive c') :
    CI env' lt (s.newCell env c) :=
  notifySiblings_ci h (fun x hx hxc => by have := h.alive.nodes x hx; rw [hxc, hdead] at this; cases this)
    hed hkeep

end MxModel.Exec
