import MxModel.Kernels.Backup
import MxModel.Proofs.Registry
/-! Helper lemmas for the session part of C14: what a failing `read_model` leaves in the
registry.  Every failing load ends in `close r' r.nextId`, where `r'` is the registry after
`mx.new_model()` (`afterNew r`) or after the parse-time rename of the new model. -/
namespace MxModel.Backup
open MxModel.Registry MxModel.Names

theorem ids_moveKey_rev (ms : List (String × Model)) (old new : String) (i : Nat) :
    i ∈ ids (moveKey ms old new) → i ∈ ids ms := by
  unfold moveKey
  cases hl : lookupName ms old with
  | none => exact id
  | some m =>
    simp only [ids, List.map_append, List.mem_append, List.mem_map]
    rintro (⟨e, he, rfl⟩ | ⟨e, he, rfl⟩)
    · exact ⟨e, (mem_eraseName.mp he).1, rfl⟩
    · rw [List.mem_singleton.mp he]
      exact ⟨(old, m), lookupName_some hl, rfl⟩

theorem renamePlain_ids_rev (r : Reg) (old new : String) (i : Nat) :
    i ∈ ids (renamePlain r old new).1.models → i ∈ ids r.models := by
  unfold renamePlain
  by_cases h1 : new = old
  · rw [if_pos h1]; exact id
  · rw [if_neg h1]
    by_cases h2 : (keys r).contains new = true
    · rw [if_pos h2]; exact id
    · rw [if_neg h2]; exact ids_moveKey_rev _ _ _ _

theorem freeName_ids_rev (r : Reg) (name : String) (i : Nat) :
    i ∈ ids (freeName r name).models → i ∈ ids r.models := by
  unfold freeName
  by_cases h : (keys r).contains name = true
  · rw [if_pos h]; exact renamePlain_ids_rev _ _ _ _
  · rw [if_neg h]; exact id

theorem rename_ids_rev (kw : List String) (r : Reg) (i : Nat) (new : String) (ro : Bool)
    (j : Nat) : j ∈ ids (Registry.rename kw r i new ro).1.models → j ∈ ids r.models := by
  unfold Registry.rename
  cases lookupId r.models i with
  | none => exact id
  | some m =>
    have h1 : j ∈ ids (if ro = true then freeName r new else r).models → j ∈ ids r.models := by
      cases ro with
      | true => exact freeName_ids_rev _ _ _
      | false => exact id
    simp only []
    by_cases hn : new = m.name
    · rw [if_pos hn]; exact id
    · rw [if_neg hn]
      by_cases hv : (!isValidName kw new) = true
      · rw [if_pos hv]; exact h1
      · rw [if_neg hv]; exact fun h => h1 (renamePlain_ids_rev _ _ _ _ h)

/-- the registry right after `mx.new_model()` in `parse_dir` -/
def afterNew (r : Reg) : Reg :=
  ⟨r.models ++ [((autoName r).2, { id := r.nextId, name := (autoName r).2 })],
    (autoName r).1.modelnamer, r.backupnamer, some r.nextId, r.nextId + 1⟩

theorem newModel_none_eq (kw : List String) (r : Reg) :
    newModel kw r none = (afterNew r, .ok r.nextId) := rfl

theorem afterNew_inv (kw : List String) {r : Reg} (h : RegInv r) : RegInv (afterNew r) :=
  newModel_inv kw h none

theorem mem_ids_afterNew (r : Reg) (j : Nat) :
    j ∈ ids (afterNew r).models ↔ (j ∈ ids r.models ∨ j = r.nextId) := by
  simp only [afterNew, ids, List.map_append, List.mem_append, List.map_cons, List.map_nil,
    List.mem_singleton]

theorem loadReg_afterRename (kw : List String) (r : Reg) (name : String) :
    loadReg kw r name .afterRename =
      (close (Registry.rename kw (afterNew r) r.nextId name true).1 r.nextId).1 := by
  simp only [loadReg, readModel, newModel_none_eq]
  generalize Registry.rename kw (afterNew r) r.nextId name true = q
  obtain ⟨r2, res⟩ := q
  cases res <;> rfl

theorem lt_of_mem_ids {r : Reg} (h : RegInv r) {j : Nat} (hj : j ∈ ids r.models) :
    j < r.nextId := by
  obtain ⟨e, he, rfl⟩ := List.mem_map.mp hj
  exact h.idsLt e he

theorem close_new_ids {r r' : Reg} (h : RegInv r) (h' : RegInv r')
    (hids : ∀ j, j ∈ ids r'.models ↔ (j ∈ ids r.models ∨ j = r.nextId)) (j : Nat) :
    j ∈ ids (close r' r.nextId).1.models ↔ j ∈ ids r.models := by
  rw [close_ids h', hids]
  constructor
  · exact fun hj => hj.1.resolve_right hj.2
  · exact fun hj => ⟨.inl hj, Nat.ne_of_lt (lt_of_mem_ids h hj)⟩

theorem loadReg_failed_ids (kw : List String) (r : Reg) (h : RegInv r) (name : String)
    (f : LoadFail) (hf : f ≠ .nowhere) (j : Nat) :
    j ∈ ids (loadReg kw r name f).models ↔ j ∈ ids r.models := by
  have hnew := afterNew_inv kw h
  cases f with
  | nowhere => exact absurd rfl hf
  | beforeNew => exact Iff.rfl
  | rootSource => exact close_new_ids h hnew (mem_ids_afterNew r) j
  | afterRename =>
    rw [loadReg_afterRename]
    refine close_new_ids h (rename_inv kw hnew r.nextId name true) (fun j => ?_) j
    rw [← mem_ids_afterNew]
    exact ⟨rename_ids_rev kw (afterNew r) r.nextId name true j,
      rename_ids kw hnew r.nextId name true j⟩

theorem eraseName_append_single_self (ms : List (String × Model)) (k : String) (m : Model)
    (hk : k ∉ mkeys ms) : eraseName (ms ++ [(k, m)]) k = ms := by
  unfold eraseName
  have h1 : ms.filter (fun e => e.1 != k) = ms :=
    List.filter_eq_self.mpr fun e he =>
      bne_iff_ne.mpr fun hc => hk (List.mem_map.mpr ⟨e, he, hc⟩)
  rw [List.filter_append, h1]
  simp

theorem lookupName_append_single (ms : List (String × Model)) (k : String) (m : Model)
    (hk : k ∉ mkeys ms) : lookupName (ms ++ [(k, m)]) k = some m := by
  induction ms with
  | nil => exact if_pos rfl
  | cons e rest ih =>
    show (if e.1 = k then some e.2 else lookupName (rest ++ [(k, m)]) k) = some m
    rw [if_neg (fun hc => hk (List.mem_cons.mpr (.inl hc.symm)))]
    exact ih (fun hc => hk (List.mem_cons_of_mem _ hc))

theorem lookupId_append_single (ms : List (String × Model)) (k : String) (m : Model)
    (hid : m.id ∉ ids ms) : lookupId (ms ++ [(k, m)]) m.id = some m := by
  induction ms with
  | nil => exact if_pos rfl
  | cons e rest ih =>
    show (if e.2.id = m.id then some e.2 else lookupId (rest ++ [(k, m)]) m.id) = some m
    rw [if_neg (fun hc => hid (List.mem_cons.mpr (.inl hc.symm)))]
    exact ih (fun hc => hid (List.mem_cons_of_mem _ hc))

theorem lookupId_new {r : Reg} (h : RegInv r) (k : String) :
    lookupId (r.models ++ [(k, { id := r.nextId, name := k })]) r.nextId =
      some { id := r.nextId, name := k } :=
  lookupId_append_single r.models k _ (fun hc => Nat.lt_irrefl _ (lt_of_mem_ids h hc))

theorem close_new_models {r r' : Reg} (h : RegInv r) {k : String} (hk : k ∉ keys r)
    (hm : r'.models = r.models ++ [(k, { id := r.nextId, name := k })]) :
    (close r' r.nextId).1.models = r.models := by
  simp only [close, hm, lookupId_new h k]
  exact eraseName_append_single_self r.models k _ hk

theorem not_mem_keys_afterNew {r : Reg} {name : String} (hname : name ∉ keys r)
    (hna : name ≠ (autoName r).2) : ¬ (keys (afterNew r)).contains name = true := by
  rw [List.contains_iff_mem]
  show name ∉ List.map (·.1) (r.models ++ [((autoName r).2, _)])
  rw [List.map_append, List.mem_append]
  exact fun hc => hc.elim hname (fun h => hna (List.mem_singleton.mp h))

theorem rename_afterNew_models (kw : List String) {r : Reg} (h : RegInv r) (name : String)
    (hname : name ∉ keys r) :
    (Registry.rename kw (afterNew r) r.nextId name true).1.models = (afterNew r).models ∨
    (Registry.rename kw (afterNew r) r.nextId name true).1.models =
      r.models ++ [(name, { id := r.nextId, name := name })] := by
  unfold Registry.rename
  rw [show (afterNew r).models = r.models ++ [_] from rfl, lookupId_new h]
  simp only []
  by_cases hna : name = (autoName r).2
  · rw [if_pos hna]; exact .inl rfl
  · have hfree : freeName (afterNew r) name = afterNew r := by
      unfold freeName; rw [if_neg (not_mem_keys_afterNew hname hna)]
    rw [if_neg hna, if_true, hfree]
    by_cases hv : (!isValidName kw name) = true
    · rw [if_pos hv]; exact .inl rfl
    · rw [if_neg hv]
      right
      unfold renamePlain
      rw [if_neg hna, if_neg (not_mem_keys_afterNew hname hna)]
      show moveKey (r.models ++ [((autoName r).2, _)]) (autoName r).2 name = _
      unfold moveKey
      rw [lookupName_append_single r.models _ _ (autoName_fresh r)]
      show eraseName (r.models ++ [((autoName r).2, _)]) (autoName r).2 ++ _ = _
      rw [eraseName_append_single_self r.models _ _ (autoName_fresh r)]

theorem loadReg_failed_models (kw : List String) (r : Reg) (h : RegInv r) (name : String)
    (f : LoadFail) (hf : f ≠ .nowhere) (hname : name ∉ keys r) :
    (loadReg kw r name f).models = r.models := by
  cases f with
  | nowhere => exact absurd rfl hf
  | beforeNew => rfl
  | rootSource => exact close_new_models h (autoName_fresh r) rfl
  | afterRename =>
    rw [loadReg_afterRename]
    rcases rename_afterNew_models kw h name hname with hm | hm
    · exact close_new_models h (autoName_fresh r) hm
    · exact close_new_models h hname hm

end MxModel.Backup
