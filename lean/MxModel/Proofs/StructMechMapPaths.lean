import MxModel.Proofs.StructMechCor
import MxModel.Proofs.StructMechMapC3
import MxModel.Struct.MechRename
/-!
# The invariant of the mechanism is invariant under an injective relabelling of paths

`St.mapPaths ρ` applies `ρ` to every path the state holds (ids, direct bases, keys of the name counters).
For an injective `ρ`: lookup, direct bases, linearisations, member tables, definitions and first
definers all commute with `ρ` (`find_mapPaths` … `firstDef_mapPaths`) – *derivation from scratch
commutes with the relabelling*.  If moreover `ρ` maps the root to the root and children of `q` to
children of `ρ q`, and wherever it changes the name of an existing space the new name is free in the
parent, `Inv` is transported (`inv_mapPaths`).
-/
namespace MxModel.SM
open MxModel.C3

section
variable (ρ : Path → Path) (st : St)

theorem ids_mapPaths : (st.mapPaths ρ).ids = st.ids.map ρ := by
  unfold St.ids St.mapPaths
  simp only [List.map_map]
  rfl

theorem length_mapPaths : (st.mapPaths ρ).spaces.length = st.spaces.length := by
  simp [St.mapPaths]

theorem globals_mapPaths : (st.mapPaths ρ).globals = st.globals := rfl

theorem mem_ids_mapPaths (q' : Path) : q' ∈ (st.mapPaths ρ).ids ↔ ∃ q ∈ st.ids, ρ q = q' := by
  rw [ids_mapPaths, List.mem_map]

variable (hρ : ∀ x y, ρ x = ρ y → x = y)
include hρ

theorem mem_ids_mapPaths_image (q : Path) : ρ q ∈ (st.mapPaths ρ).ids ↔ q ∈ st.ids := by
  rw [mem_ids_mapPaths]
  constructor
  · rintro ⟨x, hx, hxq⟩; rw [← hρ x q hxq]; exact hx
  · intro h; exact ⟨q, h, rfl⟩

theorem find_mapPaths (q : Path) : (st.mapPaths ρ).find (ρ q) = (st.find q).map (Space.mapPaths ρ) := by
  unfold St.find St.mapPaths
  simp only
  rw [List.find?_map]
  have : ((fun s : Space => s.id == ρ q) ∘ Space.mapPaths ρ) = (fun s : Space => s.id == q) := by
    funext s
    simp only [Function.comp, Space.mapPaths]
    rw [Bool.eq_iff_iff, beq_iff_eq, beq_iff_eq]
    exact ⟨hρ _ _, fun h => by rw [h]⟩
  rw [this]

theorem basesOf_mapPaths (q : Path) : (st.mapPaths ρ).basesOf (ρ q) = (st.basesOf q).map ρ := by
  unfold St.basesOf
  rw [find_mapPaths ρ st hρ]
  cases st.find q <;> rfl

theorem mro_mapPaths (q : Path) : (st.mapPaths ρ).mro (ρ q) = (st.mro q).map (List.map ρ) := by
  unfold St.mro
  rw [length_mapPaths]
  exact mro_map ρ hρ st.basesOf (st.mapPaths ρ).basesOf (basesOf_mapPaths ρ st hρ) _ q

theorem tail_mapPaths (q : Path) : (st.mapPaths ρ).tail (ρ q) = (st.tail q).map ρ := by
  unfold St.tail
  rw [mro_mapPaths ρ st hρ]
  cases st.mro q with
  | none => rfl
  | some l => simp

theorem cont_mapPaths (a : Attr) (q : Path) : (st.mapPaths ρ).cont a (ρ q) = st.cont a q := by
  unfold St.cont
  rw [find_mapPaths ρ st hρ]
  cases st.find q with
  | none => rfl
  | some s => cases a <;> rfl

theorem mem_mapPaths (a : Attr) (q : Path) (n : String) : (st.mapPaths ρ).mem a (ρ q) n = st.mem a q n := by
  rw [St.mem_eq, St.mem_eq, cont_mapPaths ρ st hρ]

theorem defd_mapPaths (a : Attr) (q : Path) (n : String) : (st.mapPaths ρ).defd a (ρ q) n = st.defd a q n := by
  unfold St.defd
  rw [mem_mapPaths ρ st hρ]

theorem firstDef_mapPaths (a : Attr) (l : List Path) (n : String) :
    (st.mapPaths ρ).firstDef a (l.map ρ) n = (st.firstDef a l n).map (fun d => (ρ d.1, d.2)) := by
  unfold St.firstDef
  induction l with
  | nil => rfl
  | cons x l ih =>
    simp only [List.map_cons, List.findSome?_cons]
    rw [defd_mapPaths ρ st hρ]
    cases st.defd a x n with
    | none => simpa using ih
    | some v => rfl

theorem subs_mapPaths (p : Path) : (st.mapPaths ρ).subs (ρ p) = (st.subs p).map ρ := by
  unfold St.subs
  rw [ids_mapPaths, List.filter_map]
  congr 1
  apply List.filter_congr
  intro q _
  simp only [Function.comp]
  rw [tail_mapPaths ρ st hρ, Bool.eq_iff_iff]
  simp only [Bool.and_eq_true, bne_iff_ne, ne_eq, List.contains_eq_mem, decide_eq_true_eq, List.mem_map]
  constructor
  · rintro ⟨h1, x, hx, hxp⟩
    exact ⟨fun e => h1 (by rw [e]), by rw [← hρ x p hxp]; exact hx⟩
  · rintro ⟨h1, h2⟩
    exact ⟨fun e => h1 (hρ _ _ e), p, h2, rfl⟩

theorem good_mapPaths (h : ∀ a q n, Good1 st a q n) (a : Attr) (q' : Path) (n : String) :
    Good1 (st.mapPaths ρ) a q' n := by
  by_cases hq : q' ∈ (st.mapPaths ρ).ids
  · obtain ⟨q, _, rfl⟩ := (mem_ids_mapPaths ρ st q').mp hq
    have hg := h a q n
    unfold Good1 at hg ⊢
    rw [mem_mapPaths ρ st hρ, tail_mapPaths ρ st hρ, firstDef_mapPaths ρ st hρ]
    cases hm : st.mem a q n with
    | none => rw [hm] at hg; simp only at hg ⊢; rw [hg]; rfl
    | some m =>
      rw [hm] at hg
      exact fun hd => (hg hd).elim fun b hb => ⟨ρ b, by rw [hb]; rfl⟩
  · exact Good1.of_not_mem _ a q' n hq

theorem inv_mapPaths (hnil : ρ [] = [])
    (hsnoc : ∀ q n, ∃ n', ρ (q ++ [n]) = ρ q ++ [n'])
    (hname : ∀ q n n', (q ++ [n]) ∈ st.ids → ρ (q ++ [n]) = ρ q ++ [n'] →
      n' = n ∨ (st.mem .cells q n' = none ∧ st.mem .refs q n' = none ∧ (q = [] → n' ∉ st.globals)))
    (h : Inv st) : Inv (st.mapPaths ρ) := by
  have himg : ∀ q', q' ∈ (st.mapPaths ρ).ids → ∃ q ∈ st.ids, ρ q = q' := fun q' => (mem_ids_mapPaths ρ st q').mp
  have hlast : ∀ x : Path, x ≠ [] → ∃ m, ρ x = ρ x.dropLast ++ [m] := fun x hx => by
    obtain ⟨m, hm⟩ := hsnoc x.dropLast (x.getLast hx)
    rw [List.dropLast_concat_getLast hx] at hm
    exact ⟨m, hm⟩
  have hchild : ∀ q' n', (q' ++ [n']) ∈ (st.mapPaths ρ).ids →
      ∃ q n, (q ++ [n]) ∈ st.ids ∧ ρ q = q' ∧ ρ (q ++ [n]) = ρ q ++ [n'] := by
    intro q' n' hq
    obtain ⟨x, hx, hxq⟩ := himg _ hq
    have hx0 : x ≠ [] := fun e => by simpa [e, hnil] using congrArg List.length hxq
    obtain ⟨m, hm⟩ := hlast x hx0
    obtain ⟨h1, h2⟩ := List.append_inj' (hm.symm.trans hxq) rfl
    refine ⟨x.dropLast, x.getLast hx0, ?_, h1, ?_⟩
    · rwa [List.dropLast_concat_getLast hx0]
    · rw [List.dropLast_concat_getLast hx0, hxq, h1]
  refine ⟨⟨?_, ?_, ?_, ?_, ?_⟩, ?_, ⟨?_, ?_, ?_⟩⟩
  · rw [ids_mapPaths]
    exact List.Pairwise.map ρ (fun a b hab e => hab (hρ a b e)) h.wf.nodup
  · intro q' b' hb
    by_cases hq : q' ∈ (st.mapPaths ρ).ids
    · obtain ⟨q, _, rfl⟩ := himg _ hq
      rw [basesOf_mapPaths ρ st hρ] at hb
      obtain ⟨b, hb1, rfl⟩ := List.mem_map.mp hb
      exact (mem_ids_mapPaths_image ρ st hρ b).mpr (h.wf.bases q b hb1)
    · rw [St.basesOf_of_not_mem _ q' hq] at hb; cases hb
  · intro q' hq
    obtain ⟨q, hq1, rfl⟩ := himg _ hq
    rw [mro_mapPaths ρ st hρ, h.wf.mro_all q]
    rfl
  · intro a q'
    by_cases hq : q' ∈ (st.mapPaths ρ).ids
    · obtain ⟨q, _, rfl⟩ := himg _ hq
      rw [cont_mapPaths ρ st hρ]; exact h.wf.keys a q
    · rw [St.cont_of_not_mem _ a q' hq]; exact List.nodup_nil
  · intro q' hq
    obtain ⟨q, hq1, rfl⟩ := himg _ hq
    obtain ⟨hq0, hpar⟩ := h.wf.tree q hq1
    obtain ⟨m, hm⟩ := hlast q hq0
    rw [hm, List.dropLast_concat]
    refine ⟨by simp, hpar.imp (fun e => by rw [e, hnil]) (mem_ids_mapPaths_image ρ st hρ _).mpr⟩
  · exact good_mapPaths ρ st hρ h.good
  · intro q' n hs
    by_cases hq : q' ∈ (st.mapPaths ρ).ids
    · obtain ⟨q, _, rfl⟩ := himg _ hq
      rw [mem_mapPaths ρ st hρ] at hs ⊢
      exact h.disj.cr q n hs
    · rw [St.mem_of_not_mem _ .cells q' n hq] at hs; cases hs
  · intro q' n' hn
    obtain ⟨q, n, hqn, rfl, hr⟩ := hchild q' n' ((mem_childNames _ q' n').mp hn)
    rw [mem_mapPaths ρ st hρ, mem_mapPaths ρ st hρ]
    rcases hname q n n' hqn hr with rfl | ⟨e1, e2, _⟩
    · exact h.disj.child q n' ((mem_childNames st q n').mpr hqn)
    · exact ⟨e1, e2⟩
  · intro n' hg hc
    obtain ⟨q, n, hqn, hq0, hr⟩ := hchild [] n' ((mem_childNames _ [] n').mp hc)
    obtain rfl : q = [] := hρ q [] (by rw [hq0, hnil])
    rcases hname [] n n' hqn hr with rfl | ⟨_, _, e3⟩
    · exact h.disj.glob n' hg ((mem_childNames st [] n').mpr hqn)
    · exact e3 rfl hg

end

end MxModel.SM
