import MxModel.Proofs.ExecInputs
import MxModel.Proofs.ExecCertRunOps
import MxModel.Proofs.ExecKeep
/-!
# Definitions and inputs depend on the edits only

For a history of the thirteen-operation language: the definitions reached (`envStep`: no operation
looks at the mechanism state to decide how the definitions change) and the user's inputs reached
(`inpStep`: which elements hold an assigned value, and which value – determined by the assignments,
the clears of those elements, and the edits accompanied by `clear_obj` of their cells; evaluations,
reference edits, `clear()`, edits of other cells never touch them) are the same whether or not the
evaluations of the history are performed.  Hence the model to which only the edits were applied has
the same definitions and the same inputs as the live model (`run_noEvals`).
-/
namespace MxModel.C02
open MxModel.Exec

def envStep (env : Env) : Op → Env
  | .setRef r v => env.withRef r (some v)
  | .delRef r => if (env.refs r).isSome then env.withRef r none else env
  | .setFormula c f => if env.alive c then env.withFormula c f else env
  | .setCached c b => if env.cached c = b || !env.alive c then env else env.withCached c b
  | .delCell c => if env.alive c then env.withAlive c false else env
  | .newCell c f b an => if env.alive c then env else env.withCell c f b an
  | .maxdepth k => env.withMaxdepth k
  | _ => env

theorem step_env (env : Env) (s : St) (op : Op) : (step (env, s) op).1 = envStep env op := by
  cases op with
  | delRef _ | setFormula _ _ | setCached _ _ | delCell _ | newCell _ _ _ _ =>
    simp only [step]; unfold envStep; dsimp only; split <;> rfl
  | _ => rfl

theorem run_env (ops : List Op) : ∀ (env : Env) (s : St), (run (env, s) ops).1 = ops.foldl envStep env := by
  induction ops with
  | nil => intro env s; rfl
  | cons op rest ih =>
    intro env s
    simp only [run, List.foldl]
    have : step (env, s) op = ((step (env, s) op).1, (step (env, s) op).2) := rfl
    rw [this, step_env]
    exact ih _ _

def isEval : Op → Bool
  | .eval _ => true
  | _ => false

/-- the history without its evaluations: "only the edits" -/
def noEvals (ops : List Op) : List Op := ops.filter (fun op => !isEval op)

theorem eq_eval_of_isEval {op : Op} (h : isEval op = true) : ∃ n, op = .eval n := by
  cases op with
  | eval n => exact ⟨n, rfl⟩
  | _ => cases h

theorem foldl_envStep_noEvals (ops : List Op) (env : Env) :
    (noEvals ops).foldl envStep env = ops.foldl envStep env :=
  foldl_filter_neutral envStep (fun op => !isEval op)
    (fun _ op h => by obtain ⟨n, rfl⟩ := eq_eval_of_isEval (op := op) (by simpa using h); rfl) ops env

/-- admissibility is a property of the definitions reached, not of the state -/
theorem admissible_env (lt : Node → Node → Prop) (ops : List Op) : ∀ (env : Env) (s s' : St),
    Admissible lt (env, s) ops → Admissible lt (env, s') ops := by
  induction ops with
  | nil => intro _ _ _ _; trivial
  | cons op rest ih =>
    intro env s s' h
    have e1 : step (env, s) op = (envStep env op, (step (env, s) op).2) := by rw [← step_env]
    have e2 : step (env, s') op = (envStep env op, (step (env, s') op).2) := by rw [← step_env]
    simp only [Admissible] at h ⊢
    rw [e1] at h; rw [e2]
    exact ⟨h.1, ih _ _ _ h.2⟩

theorem admissible_noEvals (lt : Node → Node → Prop) (ops : List Op) : ∀ (env : Env) (s : St),
    Admissible lt (env, s) ops → Admissible lt (env, s) (noEvals ops) := by
  induction ops with
  | nil => intro _ _ _; trivial
  | cons op rest ih =>
    intro env s h
    cases hev : isEval op with
    | true =>
      -- an evaluation changes no definition: the rest is admissible from the state before it
      obtain ⟨n, rfl⟩ := eq_eval_of_isEval hev
      exact ih env s (admissible_env lt rest env _ s h.2)
    | false =>
      have e1 : step (env, s) op = (envStep env op, (step (env, s) op).2) := by rw [← step_env]
      have hcons : noEvals (op :: rest) = op :: noEvals rest :=
        List.filter_cons_of_pos (by rw [hev]; rfl)
      rw [hcons]
      refine ⟨h.1, ?_⟩
      have h2 := h.2
      rw [e1] at h2 ⊢
      exact ih _ _ h2

/-- the operations that may drop the input `m` -/
def Touches (m : Node) : Op → Prop
  | .setValue n _ => n = m
  | .clearAt n => n = m
  | .clearAll c => c = m.1
  | .setFormula c _ => c = m.1
  | .setCached c _ => c = m.1
  | .delCell c => c = m.1
  | _ => False

def inpStep (env : Env) (inp : Node → Option Val) : Op → (Node → Option Val)
  | .setValue n v =>
    if (env.cached n.1 && env.alive n.1) = true then
      (if (v = .none && !env.allowNone n.1) = true then inp else fun m => if m = n then some v else inp m)
    else inp
  | .clearAt n => fun m => if m = n then none else inp m
  | .clearAll c => fun m => if m.1 = c then none else inp m
  | .setFormula c _ => if env.alive c then fun m => if m.1 = c then none else inp m else inp
  | .setCached c b =>
    if (env.cached c = b || !env.alive c) = true then inp else fun m => if m.1 = c then none else inp m
  | .delCell c => if env.alive c then fun m => if m.1 = c then none else inp m else inp
  | _ => inp

theorem inpStep_untouched (env : Env) (inp : Node → Option Val) (op : Op) (m : Node) (h : ¬ Touches m op) :
    inpStep env inp op m = inp m := by
  cases op with
  | setValue n v =>
    unfold inpStep; dsimp only; split
    · split
      · rfl
      · exact if_neg (fun h' => h h'.symm)
    · rfl
  | clearAt n => exact if_neg (fun h' => h h'.symm)
  | clearAll c => exact if_neg (fun h' => h h'.symm)
  | setFormula c f =>
    unfold inpStep; dsimp only; split
    · exact if_neg (fun h' => h h'.symm)
    · rfl
  | setCached c b =>
    unfold inpStep; dsimp only; split
    · rfl
    · exact if_neg (fun h' => h h'.symm)
  | delCell c =>
    unfold inpStep; dsimp only; split
    · exact if_neg (fun h' => h h'.symm)
    · rfl
  | _ => rfl

/-- an assignment clears the element first, so it is a reader no more when it becomes an input -/
theorem rgNoInputs_setValue {env : Env} {lt : Node → Node → Prop} {s : St} (h : CI env lt s)
    (hr : RgNoInputs s) (n : Node) (v : Val) : RgNoInputs (s.setValue env n v).1 := by
  rcases setValue_cases env s n v with ⟨_, heq⟩ | ⟨_, _, ha⟩
  · rw [heq]; exact hr
  · obtain ⟨R, hc, _⟩ := (clears_clearValueAt s (fun _ => False) h.gi.edgeOK n true).clr
    intro e he hin
    rw [ha.rg] at he
    rcases (ha.inputs e.2).mp hin with hin | hn
    · exact hr.of_clr hc e he hin
    · have := (clearValueAt_ci h n true).rgHeld e he
      rw [hn, clearValueAt_unheld h.gi n] at this; cases this

theorem step_rgNoInputs {lt : Node → Node → Prop} (st : Env × St) (op : Op) (h : CI st.1 lt st.2)
    (hr : RgNoInputs st.2) : RgNoInputs (step st op).2 := by
  obtain ⟨env, s⟩ := st
  have he := step_effect env s op h.gi.edgeOK
  generalize (step (env, s) op).2 = s' at he
  cases he with
  | none => exact hr
  | eval n _ => exact evalTop_rgNoInputs n s hr h.gi.inputsHeld
  | assign n v _ => exact rgNoInputs_setValue h hr n v
  | clear hc => exact hr.of_clr hc

theorem run_rgNoInputs (lt : Node → Node → Prop) (ho : StrictOrder lt) : ∀ (ops : List Op) (st : Env × St),
    WF st.1 lt → CI st.1 lt st.2 → RgNoInputs st.2 → Admissible lt st ops → RgNoInputs (run st ops).2 :=
  fun ops st hw h hr hadm =>
    (foldl_inv step (Admissible lt) (fun st => WF st.1 lt) (fun st => CI st.1 lt st.2 ∧ RgNoInputs st.2)
      (fun _ _ _ ha => ha) (fun st op hw h => ⟨step_ci lt ho st op hw h.1, step_rgNoInputs st op h.1 h.2⟩)
      ops st hw ⟨h, hr⟩ hadm).1.2

variable {env : Env} {lt : Node → Node → Prop}

theorem inpOf_of_unheld {s : St} {m : Node} (h : lookup s.data m = none) : inpOf s m = none := by
  unfold inpOf; split
  · exact h
  · rfl

theorem inpOf_clr {s s' : St} {R : List GNode} {D : RefId × Node → Prop} (hc : Clr s R D s') (m : Node) :
    inpOf s' m = if GNode.elem m ∈ R then none else inpOf s m := by
  unfold inpOf
  by_cases hR : GNode.elem m ∈ R
  · rw [if_pos hR]; exact if_neg (fun hin => ((hc.mem_inputs m).mp hin).2 hR)
  · rw [if_neg hR, hc.lookup, if_neg hR]
    by_cases hin : m ∈ s.inputs
    · rw [if_pos hin, if_pos ((hc.mem_inputs m).mpr ⟨hin, hR⟩)]
    · rw [if_neg hin, if_neg (fun h' => hin ((hc.mem_inputs m).mp h').1)]

theorem inpOf_clr_eq {s s' : St} {R : List GNode} {D : RefId × Node → Prop}
    (hc : Clr s R D s') (T : Node → Prop) [DecidablePred T]
    (hlow : ∀ m ∈ s.inputs, T m → GNode.elem m ∈ R)
    (hup : ∀ m ∈ s.inputs, ¬ T m → Kept s s' (.elem m)) :
    inpOf s' = fun m => if T m then none else inpOf s m := by
  funext m
  show inpOf s' m = if T m then none else inpOf s m
  rw [inpOf_clr hc]
  by_cases hin : m ∈ s.inputs
  · by_cases hT : T m
    · rw [if_pos hT, if_pos (hlow m hin hT)]
    · rw [if_neg hT, if_neg (fun hR => ((hc.mem_inputs m).mp (((hup m hin hT).data m rfl).2.mpr hin)).2 hR)]
  · have : inpOf s m = none := if_neg hin
    rw [this, ite_self, ite_self]

theorem inpOf_clr_keep {s s' : St} {R : List GNode} {D : RefId × Node → Prop}
    (hc : Clr s R D s') (hup : ∀ m ∈ s.inputs, Kept s s' (.elem m)) : inpOf s' = inpOf s :=
  (inpOf_clr_eq hc (fun _ => False) (fun _ _ hF => hF.elim) (fun m hin _ => hup m hin)).trans
    (funext fun _ => if_neg id)

section
variable {s : St} (h : CI env lt s) (hr : RgNoInputs s)
include h hr

/-- a clearing drops exactly the inputs that are seeds: an input is a descendant of nothing but itself -/
theorem inpOf_clears {s' : St} {Seed : GNode → Prop} {D : RefId × Node → Prop} (hcl : Clears s Seed D s')
    (T : Node → Prop) [DecidablePred T] (hT : ∀ m ∈ s.inputs, Seed (.elem m) ↔ T m) :
    inpOf s' = fun m => if T m then none else inpOf s m :=
  let ⟨_, hc, hR⟩ := hcl.clr
  inpOf_clr_eq hc T
    (fun m hin hTm => hR _ ((hT m hin).mpr hTm) (h.gi.heldNodes m (h.gi.inputsHeld m hin)).1)
    (fun m hin hTm => (InpInv.of_ci h hr).kept hcl hin (fun hs => hTm ((hT m hin).mp hs)))

theorem inpOf_clearValueAt (n : Node) :
    inpOf (s.clearValueAt n true) = fun m => if m = n then none else inpOf s m :=
  inpOf_clears h hr (clears_clearValueAt s (fun _ => False) h.gi.edgeOK n true) (· = n) fun m hin =>
    ⟨fun hs => GNode.elem.inj hs.1, fun hT => ⟨congrArg _ hT, hT ▸ h.gi.inputsHeld m hin, Or.inl rfl⟩⟩

theorem inpOf_clearAll (c : CellId) :
    inpOf (s.clearAllValues c true) = fun m => if m.1 = c then none else inpOf s m :=
  inpOf_clears h hr (clears_clearAllValues s (fun _ => False) h.gi.edgeOK c true) (·.1 = c) fun m hin =>
    ⟨fun ⟨_, e, hc, _⟩ => GNode.elem.inj e ▸ hc, fun hT => ⟨m, rfl, hT, h.gi.inputsHeld m hin, Or.inl rfl⟩⟩

theorem inpOf_clear (c : CellId) : inpOf (s.clearAllValues c false) = inpOf s :=
  (inpOf_clears h hr (clears_clearAllValues s (fun _ => False) h.gi.edgeOK c false) (fun _ => False) fun m hin =>
    ⟨fun ⟨_, e, _, _, hni⟩ => hni.elim (fun hf => nomatch hf) (fun hni => hni (GNode.elem.inj e ▸ hin)),
      False.elim⟩).trans (funext fun _ => if_neg id)

theorem inpOf_setRef (r : RefId) : inpOf (s.setRef env r) = inpOf s := by
  obtain ⟨R, hc, _⟩ := clr_setRef env s h.gi.edgeOK r
  exact inpOf_clr_keep hc (kept_input_setRef (InpInv.of_ci h hr) r)

theorem inpOf_delRef (r : RefId) : inpOf (s.delRef env r) = inpOf s := by
  obtain ⟨R, hc, _⟩ := clr_delRef env s h.gi.edgeOK r
  exact inpOf_clr_keep hc (kept_input_delRef (InpInv.of_ci h hr) r)

theorem inpOf_clearObj (c : CellId) :
    inpOf (s.clearObj c) = fun m => if m.1 = c then none else inpOf s m :=
  inpOf_clears h hr (clears_clearObj s (fun _ => False) h.gi.edgeOK c) (·.1 = c) fun _ _ => Iff.rfl

theorem inpOf_delCell (c : CellId) :
    inpOf (s.delCell env c) = fun m => if m.1 = c then none else inpOf s m :=
  inpOf_clears h hr (clears_delCell s h.gi.edgeOK c) (·.1 = c) fun m hin =>
    ⟨fun hs => hs.elim (·.2) (fun ⟨c', _, ha⟩ => absurd ha ((InpInv.of_ci h hr).not_nsSeed hin c')),
      fun hT => Or.inl ⟨(h.gi.heldNodes m (h.gi.inputsHeld m hin)).1, hT⟩⟩

theorem inpOf_newCell (c : CellId) : inpOf (s.newCell env c) = inpOf s :=
  (inpOf_clears h hr (clears_notifyAll env s (fun _ => False) h.gi.edgeOK (env.siblings c)) (fun _ => False)
    fun m hin => ⟨fun ⟨c', _, ha⟩ => (InpInv.of_ci h hr).not_nsSeed hin c' ha, False.elim⟩).trans
    (funext fun _ => if_neg id)

end

theorem inpOf_step (ho : StrictOrder lt) (hw : WF env lt) {s : St} (h : CI env lt s) (hr : RgNoInputs s)
    (op : Op) : inpOf (step (env, s) op).2 = inpStep env (inpOf s) op := by
  cases op with
  | eval n =>
    simp only [step]; split
    · exact inpOf_of_ext (h.gi.topCall ho hw.ranked h.quiet.stack h.quiet.idx n).2.2.2
        (evalTop_keeps env n s).2 h.gi.inputsHeld
    · rfl
  | setValue n v =>
    simp only [step]; unfold inpStep; dsimp only; split
    · rcases setValue_cases env s n v with ⟨hv, heq⟩ | ⟨hv, _, ha⟩
      · rw [heq, if_pos ((noneRefused_iff env n v).mpr hv)]
      · rw [if_neg (fun hb => hv ((noneRefused_iff env n v).mp hb)), inpOf_assigned ha, inpOf_clearValueAt h hr n]
        funext m; split
        · rfl
        · rename_i hm; exact if_neg hm
    · rfl
  | clearAt n => exact inpOf_clearValueAt h hr n
  | clear c => exact inpOf_clear h hr c
  | clearAll c => exact inpOf_clearAll h hr c
  | setRef r v => exact inpOf_setRef h hr r
  | delRef r => simp only [step]; split; exact inpOf_delRef h hr r; rfl
  | setFormula c f =>
    simp only [step]; unfold inpStep; dsimp only; split; exact inpOf_clearObj h hr c; rfl
  | setCached c b =>
    simp only [step]; unfold inpStep; dsimp only; split; rfl; exact inpOf_clearObj h hr c
  | delCell c =>
    simp only [step]; unfold inpStep; dsimp only; split; exact inpOf_delCell h hr c; rfl
  | newCell c f b an => simp only [step]; split; rfl; exact inpOf_newCell h hr c
  | maxdepth _ | admin _ => rfl

theorem step_keeps_input (ho : StrictOrder lt) (hw : WF env lt) {s : St} (h : CI env lt s)
    (hr : RgNoInputs s) (op : Op) (m : Node) (w : Val) (hop : ¬ Touches m op)
    (hin : m ∈ s.inputs) (hl : lookup s.data m = some w) :
    lookup (step (env, s) op).2.data m = some w ∧ m ∈ (step (env, s) op).2.inputs := by
  have hm := congrFun (inpOf_step ho hw h hr op) m
  have hw' : inpOf s m = some w := (if_pos hin).trans hl
  rw [inpStep_untouched env _ op m hop, hw'] at hm
  unfold inpOf at hm
  split at hm
  · exact ⟨hm, ‹_›⟩
  · cases hm

def inpRun : Env → (Node → Option Val) → List Op → (Node → Option Val)
  | _, inp, [] => inp
  | env, inp, op :: ops => inpRun (envStep env op) (inpStep env inp op) ops

theorem run_inp (ho : StrictOrder lt) : ∀ (ops : List Op) (st : Env × St), WF st.1 lt → CI st.1 lt st.2 →
    RgNoInputs st.2 → Admissible lt st ops → inpOf (run st ops).2 = inpRun st.1 (inpOf st.2) ops := by
  intro ops
  induction ops with
  | nil => intro _ _ _ _ _; rfl
  | cons op rest ih =>
    intro st hw h hr hadm
    obtain ⟨env, s⟩ := st
    have e1 : step (env, s) op = (envStep env op, (step (env, s) op).2) := by rw [← step_env]
    have h1 := step_ci lt ho (env, s) op hw h
    have hr1 := step_rgNoInputs (env, s) op h hr
    have hadm1 := hadm.1
    have hadm2 := hadm.2
    simp only [run, List.foldl, inpRun]
    rw [e1] at h1 hadm1 hadm2 ⊢
    have := ih (envStep env op, (step (env, s) op).2) hadm1 h1 hr1 hadm2
    simp only [run] at this
    rw [this, inpOf_step ho hw h hr op]

theorem inpRun_noEvals (ops : List Op) : ∀ (env : Env) (inp : Node → Option Val),
    inpRun env inp (noEvals ops) = inpRun env inp ops := by
  induction ops with
  | nil => intro _ _; rfl
  | cons op rest ih =>
    intro env inp
    cases hev : isEval op with
    | true => obtain ⟨n, rfl⟩ := eq_eval_of_isEval hev; exact ih env inp
    | false =>
      have hcons : noEvals (op :: rest) = op :: noEvals rest :=
        List.filter_cons_of_pos (by rw [hev]; rfl)
      rw [hcons]
      exact ih _ _

/-- **the live model and the model to which only the edits were applied have the same definitions and
the same inputs**, and both satisfy the certificate invariant -/
theorem run_noEvals (lt : Node → Node → Prop) (ho : StrictOrder lt) (env0 : Env) (hw0 : WF env0 lt)
    (ops : List Op) (hadm : Admissible lt (env0, {}) ops) :
    (run (env0, {}) (noEvals ops)).1 = (run (env0, {}) ops).1 ∧
    inpOf (run (env0, {}) (noEvals ops)).2 = inpOf (run (env0, {}) ops).2 ∧
    CI (run (env0, {}) ops).1 lt (run (env0, {}) (noEvals ops)).2 ∧
    CI (run (env0, {}) ops).1 lt (run (env0, {}) ops).2 ∧ WF (run (env0, {}) ops).1 lt := by
  have hadm' := admissible_noEvals lt ops env0 {} hadm
  have henv : (run (env0, {}) (noEvals ops)).1 = (run (env0, {}) ops).1 := by
    rw [run_env, run_env, foldl_envStep_noEvals]
  have hr0 : RgNoInputs ({} : St) := fun e he => by simp at he
  have hi1 := run_inp ho ops (env0, {}) hw0 (CI.empty env0 lt) hr0 hadm
  have hi2 := run_inp ho (noEvals ops) (env0, {}) hw0 (CI.empty env0 lt) hr0 hadm'
  obtain ⟨c1, w1⟩ := run_ci lt ho ops (env0, {}) hw0 (CI.empty env0 lt) hadm
  obtain ⟨c2, _⟩ := run_ci lt ho (noEvals ops) (env0, {}) hw0 (CI.empty env0 lt) hadm'
  refine ⟨henv, ?_, henv ▸ c2, c1, w1⟩
  rw [hi1, hi2, inpRun_noEvals]

end MxModel.C02
