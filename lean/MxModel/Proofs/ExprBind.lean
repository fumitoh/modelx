import MxModel.Proofs.ExprBindSpec
/-!
# Argument binding of calls made inside formulas (`Expr.callK`, `bindKey`)

`bindKey a dflt pos kw` is the element a call denotes when the callee has `a`
positional-or-keyword parameters of which the last `dflt.length` have the default values
`dflt`, the call gives the positional values `pos` and the keyword values `kw` (parameters by
index).  It is the rule of `node._bind_args` (`inspect.Signature.bind` + `apply_defaults`), the
same rule as the C07 kernel `MxModel.ItemSpace.bindArgs` (theorems `bind_iff`, `bind_canonical`
there); here: the laws that follow from its specification `bindKey_iff`, and the concrete instances the
harness replays on modelx.

* `bindKey_length` – a bound key has one value per parameter;
* `bindKey_full` – all parameters given positionally: the key is the argument list, whatever the
  defaults (`Expr.callK c args n [] d` with `n` arguments is `Expr.call c args`);
* `bindKey_canonical` – the fully positional spelling of the bound key binds to that key;
* `bindKey_too_many`, `bindKey_unknown_keyword`, `bindKey_twice` – the rejections;
* `bindKey_defaults_are_trailing` – `m` parameters left out at the end get the LAST `m` defaults
  (this is what the seeded change C01-mutE breaks: it takes the first `m`).
-/
namespace MxModel.Exec

theorem bindKey_length (a : Nat) (dflt pos : List Val) (kw : List (Nat × Val)) (key : Key)
    (h : bindKey a dflt pos kw = some key) : key.length = a := by
  rw [((bindKey_iff a dflt pos kw key).mp h).2, canonKey_length]

theorem bindKey_too_many (a : Nat) (dflt pos : List Val) (kw : List (Nat × Val)) (h : a < pos.length) :
    bindKey a dflt pos kw = none :=
  (bindKey_eq_none_iff a dflt pos kw).mpr fun hb => absurd hb.noSurplus (Nat.not_le.mpr h)

theorem bindKey_unknown_keyword (a : Nat) (dflt pos : List Val) (kw : List (Nat × Val)) (i : Nat) (v : Val)
    (hi : a ≤ i) (hm : (i, v) ∈ kw) : bindKey a dflt pos kw = none :=
  (bindKey_eq_none_iff a dflt pos kw).mpr fun hb => absurd (hb.kwKnown (i, v) hm).2 (Nat.not_lt.mpr hi)

theorem bindKey_twice (a : Nat) (dflt pos : List Val) (kw : List (Nat × Val)) (i : Nat) (v : Val)
    (hi : i < pos.length) (hm : (i, v) ∈ kw) : bindKey a dflt pos kw = none :=
  (bindKey_eq_none_iff a dflt pos kw).mpr fun hb => absurd (hb.kwKnown (i, v) hm).1 (Nat.not_le.mpr hi)

theorem bindKey_full (dflt vs : List Val) : bindKey vs.length dflt vs [] = some vs := by
  refine (bindKey_iff vs.length dflt vs [] vs).mpr
    ⟨⟨Nat.le_refl _, List.nodup_nil, nofun, fun i hi hd => absurd hd (by omega)⟩, List.ext_getElem? fun i => ?_⟩
  by_cases hi : i < vs.length
  · exact (canonKey_pos vs.length dflt vs [] i hi hi).symm
  · rw [List.getElem?_eq_none (Nat.not_lt.mp hi),
      List.getElem?_eq_none (by rw [canonKey_length]; exact Nat.not_lt.mp hi)]

theorem bindKey_canonical (a : Nat) (dflt pos : List Val) (kw : List (Nat × Val)) (key : Key)
    (h : bindKey a dflt pos kw = some key) : bindKey a dflt key [] = some key := by
  have hl := bindKey_length a dflt pos kw key h
  subst hl
  exact bindKey_full dflt key

/-! Concrete instances (kernel-checked by evaluation).
`rate(t, base=100, step=10)`: -/

private def vi (i : Int) : Val := .int i

/-- `rate(3, 200)` is the element `(3, 200, 10)` – the omitted LAST parameter gets the LAST default -/
theorem bindKey_defaults_are_trailing :
    bindKey 3 [vi 100, vi 10] [vi 3, vi 200] [] = some [vi 3, vi 200, vi 10] := by decide +kernel

example : bindKey 3 [vi 100, vi 10] [vi 3] [] = some [vi 3, vi 100, vi 10] := by decide +kernel
example : bindKey 3 [vi 100, vi 10] [vi 3] [(2, vi 5)] = some [vi 3, vi 100, vi 5] := by decide +kernel
example : bindKey 3 [vi 100, vi 10] [] [(2, vi 5), (0, vi 3)] = some [vi 3, vi 100, vi 5] := by decide +kernel
example : bindKey 3 [vi 100, vi 10] [vi 3, vi 200, vi 30] [] = some [vi 3, vi 200, vi 30] := by decide +kernel
example : bindKey 3 [vi 100, vi 10] [] [] = none := by decide +kernel                                 -- `t` missing
example : bindKey 3 [vi 100, vi 10] [vi 3, vi 1, vi 2, vi 4] [] = none := by decide +kernel           -- too many
example : bindKey 3 [vi 100, vi 10] [vi 3] [(0, vi 4)] = none := by decide +kernel                    -- two values for `t`
example : bindKey 3 [vi 100, vi 10] [vi 3] [(3, vi 4)] = none := by decide +kernel                    -- no such keyword
example : bindKey 3 [vi 100, vi 10] [vi 3] [(1, vi 4), (1, vi 5)] = none := by decide +kernel         -- repeated keyword

end MxModel.Exec
