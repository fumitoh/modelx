import MxModel.Proofs.ExecCertCells
/-!
# Deletion is complete at the value layer (C13), and exact

* `dead_has_nothing`: in ANY state with the certificate invariant a cells that does not exist
  holds no value, has no input mark, no node (element or object node) in the trace graph, no
  edge, and no reference-graph edge ends in one of its elements.
* `clears_delCell`: `St.delCell` removes exactly the descendants of its *seeds* – the nodes of the
  deleted cells, the computed elements of the cached cells of its space, the nodes of the uncached
  cells of its space.
* `delCell_descendants`: everything reachable in the trace graph from a node of the deleted cells
  is gone (no element that depended on it, directly or through other elements, holds a value).
* `delCell_kept` / `delCell_exact`: the two halves read for an element – one that no seed reaches
  keeps its value and its input mark, every other one loses them.
-/
namespace MxModel.Exec

variable {env : Env} {lt : Node → Node → Prop}

theorem dead_has_nothing {s : St} (h : CI env lt s) (c : CellId) (hd : env.alive c = false) :
    (∀ n : Node, n.1 = c → lookup s.data n = none ∧ n ∉ s.inputs) ∧
    (∀ x ∈ s.gn, x.cell ≠ c) ∧
    (∀ a b, (a, b) ∈ s.ge → a.cell ≠ c ∧ b.cell ≠ c) ∧
    (∀ e ∈ s.rg, e.2.1 ≠ c) := by
  have hnode : ∀ x ∈ s.gn, x.cell ≠ c := by
    intro x hx hxc
    have := h.alive.nodes x hx
    rw [hxc, hd] at this; cases this
  have hheld : ∀ n : Node, n.1 = c → lookup s.data n = none := by
    intro n hn
    cases hl : lookup s.data n with
    | none => rfl
    | some v => exact absurd hn (hnode _ (h.gi.heldNodes n (by rw [hl]; rfl)).1)
  refine ⟨fun n hn => ⟨hheld n hn, fun hin => ?_⟩, hnode, ?_, ?_⟩
  · have := h.gi.inputsHeld n hin
    rw [hheld n hn] at this; cases this
  · intro a b hab
    exact ⟨hnode a (h.gi.edgeNodes a b hab).1, hnode b (h.gi.edgeNodes a b hab).2⟩
  · intro e he hec
    have := h.rgHeld e he
    rw [hheld e.2 hec] at this; cases this

def DelSeed (env : Env) (s : St) (c : CellId) (a : GNode) : Prop :=
  (a ∈ s.gn ∧ a.cell = c) ∨ ∃ c' ∈ env.siblings c, NsSeed env s c' a

theorem clears_delCell (s : St) (he : EdgeOK s) (c : CellId) :
    Clears s (DelSeed env s c) (fun _ => False) (s.delCell env c) := by
  obtain ⟨_, h1, _⟩ := clears_clearObj s (fun _ => False) he c
  refine ((clears_clearObj s _ he c).trans (clears_notifyAll env _ _ (h1.edgeOK he) (env.siblings c))
    (fun R a hc ha => exists_congr fun c' => and_congr_right fun _ => NsSeed.of_clr hc ha c')).congr ?_
  exact fun a ha => or_congr (and_iff_right ha).symm Iff.rfl

theorem delCell_descendants (s : St) (he : EdgeOK s) (c : CellId) (a y : GNode) (ha : a ∈ s.gn)
    (hac : a.cell = c) (hr : Reach s.ge a y) :
    y ∉ (s.delCell env c).gn ∧ ∀ m, y = .elem m → lookup (s.delCell env c).data m = none ∧
      m ∉ (s.delCell env c).inputs := by
  obtain ⟨R, hc, hR⟩ := clears_delCell (env := env) s he c
  have hy : y ∈ R := (hR y).mpr ⟨a, Or.inl ⟨ha, hac⟩, ha, hr⟩
  refine ⟨fun hgn => ((hc.mem_gn _).mp hgn).2 hy, ?_⟩
  rintro m rfl
  exact ⟨by rw [hc.lookup, if_pos hy], fun hin => ((hc.mem_inputs m).mp hin).2 hy⟩

/-- the same, read off a certificate: an element whose formula called an element of `c` -/
theorem delCell_callers {s : St} (h : CI env lt s) (c : CellId) (n : Node) (v : Val) (tr : Tr)
    (hcert : Cert env s n v tr) (m : Node) (hm : m.1 = c)
    (hev : (∃ w, FEv.call m w ∈ flat n.1 tr) ∨ FEv.ucall m ∈ flat n.1 tr) :
    lookup (s.delCell env c).data n = none := by
  rcases hev with ⟨w, hev⟩ | hev
  · have hedge : (GNode.elem m, GNode.elem n) ∈ s.ge := (hcert.events _ hev).2.2
    exact ((delCell_descendants s h.gi.edgeOK c (.elem m) (.elem n) (h.gi.edgeNodes _ _ hedge).1 hm
      (Reach.step Reach.refl hedge)).2 n rfl).1
  · have hedge : (GNode.obj m.1, GNode.elem n) ∈ s.ge := hcert.events _ hev
    exact ((delCell_descendants s h.gi.edgeOK c (.obj m.1) (.elem n) (h.gi.edgeNodes _ _ hedge).1 hm
      (Reach.step Reach.refl hedge)).2 n rfl).1

/-- **everything else keeps its value**: an element (node) that is not a descendant of a seed –
in particular: not of `c`, not computed from `c`, and either outside `c`'s space or an input –
is untouched by the deletion: same value, same input mark -/
theorem delCell_kept (s : St) (he : EdgeOK s) (c : CellId) (x : GNode)
    (hx : ∀ a, DelSeed env s c a → ¬ Reach s.ge a x) : Kept s (s.delCell env c) x :=
  (clears_delCell s he c).kept hx

/-- **the deletion clears exactly the descendants of its seeds** (lower bound: under the
invariant, where computed elements have nodes) -/
theorem delCell_exact {s : St} (h : CI env lt s) (c : CellId) (m : Node) :
    ((∃ a, DelSeed env s c a ∧ Reach s.ge a (.elem m)) →
      lookup (s.delCell env c).data m = none ∧ m ∉ (s.delCell env c).inputs) ∧
    ((¬ ∃ a, DelSeed env s c a ∧ Reach s.ge a (.elem m)) →
      lookup (s.delCell env c).data m = lookup s.data m ∧ (m ∈ (s.delCell env c).inputs ↔ m ∈ s.inputs)) := by
  constructor
  · rintro ⟨a, hseed, hr⟩
    obtain ⟨R, hc, hR⟩ := clears_delCell (env := env) s h.gi.edgeOK c
    have hgn : a ∈ s.gn := by
      rcases hseed with ⟨ha, _⟩ | ⟨_, _, ⟨_, n, rfl, _, k3, _⟩ | ⟨_, k2, _⟩⟩
      · exact ha
      · exact (h.gi.heldNodes n k3).1
      · exact k2
    have hm : GNode.elem m ∈ R := (hR _).mpr ⟨a, hseed, hgn, hr⟩
    exact ⟨by rw [hc.lookup, if_pos hm], fun hin => ((hc.mem_inputs m).mp hin).2 hm⟩
  · intro hno
    exact ((delCell_kept s h.gi.edgeOK c (.elem m) (fun a ha hr => hno ⟨a, ha, hr⟩)).data m rfl)

end MxModel.Exec
