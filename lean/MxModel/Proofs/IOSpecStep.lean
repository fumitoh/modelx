import MxModel.Proofs.IOSpecUpdate
/-! Preservation of the invariant by the user-level operations. -/
namespace MxModel.IOSpec

variable {ex : Spec → Prop}

/-- the invariant speaks about references, `_valid_to_refs`, the counters, and of each spec its identity, model and
value only: specs may be dropped, and may change in their other fields -/
theorem rinv_respec {st st' : St} (h : RInv st) (r : Respec st st') (hsid : SidOK (sp st')) : RInv st' := by
  obtain ⟨hr, hv, hn, hs⟩ := r
  refine ⟨?_, ?_, ?_, ?_, ?_, ?_, ?_, hsid⟩
  · rw [hr, hn]; exact h.ridLt
  · rw [hr]; exact h.refKey
  · rw [hr, hv]; exact h.entry
  · rw [hv]; exact h.keys
  · intro τ hτ _
    obtain ⟨σ, hσ, _, eg, ev⟩ := hs τ hτ
    rw [hr, ← eg, ← ev]; exact h.specRef σ hσ id
  · intro τ hτ τ' hτ' hg hv'
    obtain ⟨σ, hσ, es, eg, ev⟩ := hs τ hτ
    obtain ⟨σ', hσ', es', eg', ev'⟩ := hs τ' hτ'
    have := h.specVal σ hσ σ' hσ' (eg.trans (hg.trans eg'.symm)) (ev.trans (hv'.trans ev'.symm))
    exact hsid.sidUnique τ hτ τ' hτ' (es.symm.trans ((congrArg Spec.sid this).trans es'))
  · intro τ hτ
    obtain ⟨σ, hσ, _, _, ev⟩ := hs τ hτ
    rw [← ev]; exact h.specPandas σ hσ

theorem rinv_rmUpdateValue {st : St} (h : RInv st) {m : Nat} {old new : Val}
    (hOnto : trigUpdateOnto st (.update m old new) = false) :
    RInv (rmUpdateValue st m old new).1 ∧
    ∀ σ ∈ st.specs, ∃ τ ∈ (rmUpdateValue st m old new).1.specs, τ.sid = σ.sid := by
  have hsid : SidOK (sp (rmUpdateValue st m old new).1) :=
    sidOK_strans (Q := fun _ _ => True) (evolves_rmUpdateValue st m old new).1 h.sid
  rcases rmUpdateValue_cases st m old new with e | ⟨l, hl, hnew, hcase⟩
  · rw [e]; exact ⟨h, fun σ hσ => ⟨σ, hσ, rfl⟩⟩
  obtain ⟨_, e2, _, e4⟩ := hl ▸ h.entry m old
  have hOnto' : old = new ∨ alookup st.v2r (m, new) = none := by
    simpa only [trigUpdateOnto, Bool.and_eq_false_iff, bne_eq_false_iff_eq, Option.isSome_eq_false_iff,
      Option.isNone_iff_eq_none] using hOnto
  have hlsub : ∀ r ∈ l.reverse, r ∈ st.refs := fun r hr => ((e4 r).mp (List.mem_reverse.1 hr)).1
  have hlnd : l.reverse.Nodup := (List.reverse_perm l).nodup_iff.2 e2
  rcases hcase with ⟨hg, e⟩ | ⟨σ0, hg, hp, e⟩ <;> rw [e] at hsid ⊢
  · rw [updLoop_closed m old new l.reverse st [] h.ridLt h.refKey hlsub hlnd] at hsid ⊢
    exact ⟨rinv_after_update h hl hnew hOnto' (Or.inl ⟨hg, rfl⟩) hsid, fun σ hσ => ⟨σ, hσ, rfl⟩⟩
  · rw [updLoop_closed m old new l.reverse (setSpecVal st σ0 new) [] h.ridLt h.refKey hlsub hlnd] at hsid ⊢
    exact ⟨rinv_after_update h hl hnew hOnto' (Or.inr ⟨σ0, hg, hp, rfl⟩) hsid,
      fun σ hσ => ⟨setValMap σ0.sid new σ, List.mem_map.mpr ⟨σ, hσ, rfl⟩, setValMap_sid _ _ _⟩⟩

theorem setAttr_ok_spec {kw : List String} {st : St} (h : RInvX ex st) {o : Owner} {n : String} {v : Val}
    (hok : (setAttr kw st o n v).2 = .ok ()) :
    RInvX ex (setAttr kw st o n v).1 ∧
    ((o.space ≠ 0 ∧ cellsLookup st.cells o n = some true ∧ (setAttr kw st o n v).1 = st) ∨
      mkRef st o n v ∈ (setAttr kw st o n v).1.refs) ∧
    Survives st (setAttr kw st o n v).1 := by
  rcases setAttr_cases kw st o n v with ⟨e, he, _⟩ | ⟨prev, hl, he⟩ | ⟨hl, he⟩ | ⟨ho, hc, he⟩ <;> rw [he]
  · rw [he] at hok; cases hok
  · obtain ⟨_, c2, c3, c4⟩ := rmChangeRef_spec h v hl
    exact ⟨c2, Or.inr (by rw [c3]; simp), c4⟩
  · obtain ⟨n1, n2⟩ := refs_rmNewRef st o n v
    exact ⟨rinv_rmNewRef h v hl, Or.inr (by simp only; rw [n1]; simp), .of_specs n2⟩
  · exact ⟨h, Or.inl ⟨ho, hc, rfl⟩, .of_specs rfl⟩

theorem rinv_withSpec {st : St} (h : RInv st) {m : Nat} {path : String} {csv : Bool}
    {sheet : Option String} {data : Val}
    (hDouble : getSpecFromValue st m data = none) (hp : data.isPandas = true)
    (hc : canAdd (ioSpecs st.specs m path) sheet = true) :
    RInvX (· = mkSpec st m path csv sheet data) (withSpec st (mkSpec st m path csv sheet data)) := by
  have hsid : SidOK (sp (withSpec st (mkSpec st m path csv sheet data))) :=
    sidOK_strans (Q := fun _ _ => True) (STrans.add st.specs st.nextSid m path csv sheet data hc trivial) h.sid
  have hm : ∀ {σ : Spec}, σ ∈ (withSpec st (mkSpec st m path csv sheet data)).specs →
      σ = mkSpec st m path csv sheet data ∨ σ ∈ st.specs := mem_insertSpec.1
  refine ⟨h.ridLt, h.refKey, h.entry, h.keys, fun σ hσ hne => ?_, fun σ hσ τ hτ hg hv => ?_, fun σ hσ => ?_, hsid⟩
  · exact (hm hσ).elim (fun e => absurd e hne) fun hσ => h.specRef σ hσ id
  · rcases hm hσ with rfl | h1 <;> rcases hm hτ with rfl | h2
    · rfl
    · exact absurd ⟨hg.symm, hv.symm⟩ (getSpec_none hDouble τ h2)
    · exact absurd ⟨hg, hv⟩ (getSpec_none hDouble σ h1)
    · exact h.specVal σ h1 τ h2 hg hv
  · exact (hm hσ).elim (fun e => e ▸ hp) (h.specPandas σ)

theorem rinv_of_pending {st : St} {σ : Spec} (h : RInvX (· = σ) st)
    (hr : σ ∈ st.specs → ∃ r ∈ st.refs, r.owner.model = σ.group ∧ r.val = σ.val) : RInv st := by
  refine ⟨h.ridLt, h.refKey, h.entry, h.keys, ?_, h.specVal, h.specPandas, h.sid⟩
  intro τ hτ _
  by_cases he : τ = σ
  · subst he; exact hr hτ
  · exact h.specRef τ hτ he

theorem newPandas_spec {kw : List String} {st : St} (h : RInv st) {o : Owner} {n path : String}
    {csv : Bool} {sheet : Option String} {data : Val}
    (hCells : trigCellsName st (.newPandas o n path csv sheet data) = false)
    (hDouble : trigDoubleSpec st (.newPandas o n path csv sheet data) = false) :
    RInv (newPandas kw st o n path csv sheet data).1 ∧ Survives st (newPandas kw st o n path csv sheet data).1 := by
  have hsid : SidOK (sp (newPandas kw st o n path csv sheet data).1) :=
    sidOK_strans (Q := fun _ _ => True) (evolves_newPandas kw st o n path csv sheet data trivial).1 h.sid
  have hDouble' : getSpecFromValue st o.model data = none := by
    simpa [trigDoubleSpec] using hDouble
  rcases newPandas_cases kw st o n path csv sheet data with ⟨e, he⟩ | ⟨hp, hc, ⟨hok, he⟩ | he⟩ <;> rw [he] at hsid ⊢
  · exact ⟨h, .of_specs rfl⟩
  · -- the assignment goes through, with the new spec pending
    obtain ⟨a1, a3, a4⟩ := setAttr_ok_spec (rinv_withSpec (csv := csv) h hDouble' hp hc) hok
    refine ⟨rinv_of_pending a1 fun _ => ?_, fun σ hσ => a4 σ (mem_insertSpec.2 (Or.inr hσ))⟩
    rcases a3 with ⟨ho, hcl, _⟩ | hmem
    · have : cellsLookup st.cells o n = some true := hcl
      simp [trigCellsName, ho, this] at hCells
    · exact ⟨_, hmem, rfl, rfl⟩
  · -- the assignment is refused: the new spec is deleted again
    have e : (delSpec (withSpec st (mkSpec st o.model path csv sheet data))
        (mkSpec st o.model path csv sheet data)).specs = st.specs :=
      filter_insertSpec fun τ hτ => Nat.ne_of_lt (h.sid.sidLt τ hτ)
    exact ⟨rinv_respec h (.of_sub rfl rfl rfl fun τ hτ => e ▸ hτ) hsid, .of_specs e⟩

theorem rinv_delSpace {st : St} (h : RInv st) {s : Owner}
    (hclean : ∀ r ∈ st.refs, r.owner = s → r.val.tracked = false) : RInv (delSpace st s) := by
  have hmem : ∀ r, r ∈ (delSpace st s).refs ↔ r ∈ st.refs ∧ ¬ r.owner = s := by
    intro r; simp [delSpace]
  refine (rcore_untracked h.core (fun r hr => (hmem r).trans ⟨And.left, fun hr' => ⟨hr', fun ho => ?_⟩⟩)
    (fun r hr => h.ridLt r ((hmem r).mp hr).1) rfl rfl h.sid).withKey
    (refKey_sub h.refKey fun r hr => ((hmem r).mp hr).1)
  exact Bool.false_ne_true ((hclean r hr' ho).symm.trans hr)

theorem spaceNamed_some {st : St} {m : Nat} {n : String} {s : Owner} (h : spaceNamed st m n = some s) :
    (s, n) ∈ st.spaces ∧ s.model = m := by
  unfold spaceNamed at h
  split at h
  · rename_i e he
    cases h
    have h1 := List.mem_of_find?_eq_some he
    have h2 := List.find?_some he
    simp only [decide_eq_true_eq] at h2
    obtain ⟨a, b⟩ := e
    simp only at h2 ⊢
    rw [← h2.2]; exact ⟨h1, h2.1⟩
  · cases h

theorem delAttr_spec {st : St} (h : RInv st) {o : Owner} {n : String}
    (hDelete : trigDirtyDelete st (.del o n) = false) :
    RInv (delAttr st o n).1 ∧ Survives st (delAttr st o n).1 := by
  rcases delAttr_cases st o n with e | ⟨s, ho, hs, e⟩ | ⟨prev, hl, e⟩ | e <;> rw [e]
  · exact ⟨h, .of_specs rfl⟩
  · refine ⟨rinv_delSpace h ?_, .of_specs rfl⟩
    intro r hr hrs
    simp only [trigDirtyDelete, ho, beq_self_eq_true, hs, Bool.true_and, List.any_eq_false,
      Bool.decide_and, Bool.and_eq_true, decide_eq_true_eq, not_and, Bool.not_eq_true] at hDelete
    exact hDelete r hr hrs
  · exact ⟨(rmDelRef_spec h hl).2.1, (rmDelRef_spec h hl).2.2.2⟩
  · exact ⟨rinv_respec h (.of_sub rfl rfl rfl fun _ hτ => hτ) h.sid, .of_specs rfl⟩

end MxModel.IOSpec
