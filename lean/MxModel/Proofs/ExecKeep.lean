import MxModel.Proofs.ExecStep
/-! An evaluation only ever adds to the cache: no held element loses its value, and the set
of user inputs is untouched. -/
namespace MxModel.Exec

def Keeps (s s' : St) : Prop :=
  (∀ m, (lookup s.data m).isSome → (lookup s'.data m).isSome) ∧ s'.inputs = s.inputs

theorem Keeps.refl (s : St) : Keeps s s := ⟨fun _ h => h, rfl⟩
theorem Keeps.trans {a b c : St} (h1 : Keeps a b) (h2 : Keeps b c) : Keeps a c :=
  ⟨fun m h => h2.1 m (h1.1 m h), h2.2.trans h1.2⟩
theorem Keeps.of_sameCache {a b : St} (h : SameCache a b) : Keeps a b :=
  ⟨fun m hm => by rw [h.data]; exact hm, h.inputs⟩

theorem keeps_store (s : St) (n : Node) (v : Val) : Keeps s { s with data := insert s.data n v } := by
  refine ⟨fun m hm => ?_, rfl⟩
  simp only [lookup_insert]
  split
  · rfl
  · exact hm

theorem keeps_steps (env : Env) : EvalSteps env (fun _ _ => True) Keeps where
  refl := Keeps.refl
  trans := Keeps.trans
  newExc s := .of_sameCache (sameCache_newExc s)
  noteRead s a r := .of_sameCache (sameCache_noteRead s a r)
  hitEdge s n _ _ _ := .of_sameCache (sameCache_hitEdge s n)
  restore _ _ _ := .of_sameCache ⟨rfl, rfl, rfl⟩
  hit _ := ⟨fun _ h => h, rfl⟩
  store := keeps_store
  enter _ _ _ _ := trivial
  rollback n s s1 _ h := (Keeps.of_sameCache (sameCache_push env s n)).trans
    (h.trans (.of_sameCache (sameCache_rollback s1 n)))
  pop n s s1 _ _ h := (Keeps.of_sameCache (sameCache_push env s n)).trans
    (h.trans (.of_sameCache (sameCache_pop env s1 n)))
  finish _ _ _ := .of_sameCache ⟨rfl, rfl, rfl⟩

theorem evalTop_keeps (env : Env) (n : Node) (s : St) : Keeps s (evalTop env n s).2 :=
  evalTop_rel (keeps_steps env) n s (fun _ => trivial)

/-- the same with values: what an element holds, it goes on holding -/
def Ext (s s' : St) : Prop := ∀ m v, lookup s.data m = some v → lookup s'.data m = some v

theorem Ext.refl (s : St) : Ext s s := fun _ _ h => h
theorem Ext.trans {a b c : St} (h1 : Ext a b) (h2 : Ext b c) : Ext a c := fun m v h => h2 m v (h1 m v h)
theorem Ext.of_data {a b : St} (h : b.data = a.data) : Ext a b := fun m v hm => by rw [h]; exact hm

theorem Ext.of_insert {s s' : St} {n : Node} {v : Val} (hn : lookup s.data n = none)
    (hd : s'.data = insert s.data n v) : Ext s s' := by
  intro m w hm
  rw [hd, lookup_insert]
  split
  · rename_i h; subst h; rw [hn] at hm; cases hm
  · exact hm

end MxModel.Exec
