import MxModel.Proofs.StructMechOps1
/-!
# Preservation of `Inv` by `renameCells`

The renaming walk (`renameIn` over the targets) changes cells containers of `p` and of sub spaces of
`p` only; afterwards all sub spaces are re-derived from scratch, so only `p` itself and the spaces
outside `p :: subs p` (whose linearisations contain no touched space) have to be looked at – and it
does not matter in which sub spaces the walk renames (`inv_rename_core` takes any filter `F`).
-/
namespace MxModel.SM
open MxModel.C3

theorem WF.no_cycle {st : St} (h : WF st) (p q : Path) (hpq : p ∈ st.tail q) : q ∉ st.tail p := by
  intro hqp
  have h1 := (h.tail_sublist q p hpq).length_le
  have h2 := (h.tail_sublist p q hqp).length_le
  simp only [List.length_cons] at h1 h2
  omega

theorem WF.tail_avoids {st : St} (h : WF st) (p q x : Path) (hq : q ∉ p :: st.subs p)
    (hx : x ∈ st.tail q) : x ∉ p :: st.subs p := by
  simp only [List.mem_cons, not_or] at hq
  have hqi : q ∈ st.ids := by
    apply Classical.byContradiction
    intro hqi
    rw [St.tail_of_not_mem st q hqi] at hx; cases hx
  have hp : p ∉ st.tail q := not_mem_tail_of_not_sub p q hqi hq.1 hq.2
  intro hxx
  simp only [List.mem_cons] at hxx
  rcases hxx with rfl | hxx
  · exact hp hx
  · obtain ⟨_, _, h3⟩ := (mem_subs p x).mp hxx
    exact hp (h.tail_subset q x hx p h3)

theorem WF.tail_self_avoids {st : St} (h : WF st) (p x : Path) (hx : x ∈ st.tail p) :
    x ∉ p :: st.subs p := by
  intro hxx
  simp only [List.mem_cons] at hxx
  rcases hxx with rfl | hxx
  · exact h.not_mem_tail_self _ hx
  · obtain ⟨_, _, h3⟩ := (mem_subs p x).mp hxx
    exact h.no_cycle p x h3 hx

theorem shape_renameIn (s : St) (p : Path) (old new : String) (q : Path) : Shape s (s.renameIn p old new q) := by
  unfold St.renameIn
  split
  · exact Shape.refl s
  · split
    · exact shape_delMem s .cells q old
    · exact (shape_delMem s .cells q old).trans (shape_setMem _ .cells q new _)

theorem keysOK_renameIn (s : St) (hk : KeysOK s) (p : Path) (old new : String) (q : Path) :
    KeysOK (s.renameIn p old new q) := by
  unfold St.renameIn
  split
  · exact hk
  · split
    · exact keysOK_delMem s hk .cells q old
    · exact keysOK_setMem _ (keysOK_delMem s hk .cells q old) .cells q new _

theorem cont_renameIn_other (s : St) (p : Path) (old new : String) (q : Path) (a' : Attr) (q' : Path)
    (h : ¬ (a' = .cells ∧ q' = q)) : (s.renameIn p old new q).cont a' q' = s.cont a' q' := by
  unfold St.renameIn
  split
  · rfl
  · split
    · rw [cont_delMem]
      have : ¬ (q' = q ∧ a' = .cells) := fun h' => h ⟨h'.2, h'.1⟩
      simp [this]
    · have h1 : ¬ (q' = q ∧ a' = .cells) := fun h' => h ⟨h'.2, h'.1⟩
      have h2 : ¬ (q' = q ∧ a' = .cells ∧ q ∈ (s.delMem .cells q old).ids) := fun h' => h ⟨h'.2.1, h'.1⟩
      rw [cont_setMem]
      simp only [h2, if_false]
      rw [cont_delMem]
      simp only [h1, if_false]

theorem mem_renameIn_self (s : St) (p : Path) (old new : String) (q : Path) (n : String)
    (h : ((s.renameIn p old new q).mem .cells q n).isSome = true) :
    (s.mem .cells q n).isSome = true ∨ n = new := by
  unfold St.renameIn at h
  split at h
  · exact Or.inl h
  · rename_i m hm
    have hq : q ∈ s.ids := mem_ids_of_mem_isSome s .cells q old (by rw [hm]; rfl)
    split at h
    · rw [mem_delMem] at h
      split at h
      · cases h
      · exact Or.inl h
    · have hq' : q ∈ (s.delMem .cells q old).ids := by rw [(shape_delMem s .cells q old).ids]; exact hq
      rw [mem_setMem _ _ _ _ _ hq', mem_delMem] at h
      by_cases hn : n = new
      · exact Or.inr hn
      · left
        simp only [hn, and_false, if_false] at h
        split at h
        · cases h
        · exact h

structure Renamed (new : String) (s0 s : St) (T : List Path) : Prop where
  shape : Shape s0 s
  keys : KeysOK s
  other : ∀ a' q', ¬ (a' = .cells ∧ q' ∈ T) → s.cont a' q' = s0.cont a' q'
  names : ∀ q n, (s.mem .cells q n).isSome = true → (s0.mem .cells q n).isSome = true ∨ n = new

theorem renamed_foldl (p : Path) (old new : String) : ∀ (T : List Path) (s0 : St), KeysOK s0 →
    Renamed new s0 (T.foldl (fun s q => s.renameIn p old new q) s0) T := by
  intro T
  induction T with
  | nil => intro s0 hk; exact ⟨Shape.refl s0, hk, fun _ _ _ => rfl, fun _ _ h => Or.inl h⟩
  | cons t T ih =>
    intro s0 hk
    simp only [List.foldl_cons]
    have R := ih (s0.renameIn p old new t) (keysOK_renameIn s0 hk p old new t)
    refine ⟨(shape_renameIn s0 p old new t).trans R.shape, R.keys, ?_, ?_⟩
    · intro a' q' hc
      rw [R.other a' q' (fun h' => hc ⟨h'.1, List.mem_cons_of_mem _ h'.2⟩)]
      exact cont_renameIn_other s0 p old new t a' q' (fun h' => hc ⟨h'.1, by simp [h'.2]⟩)
    · intro q n hh
      rcases R.names q n hh with h1 | h1
      · by_cases hqt : q = t
        · subst hqt
          exact mem_renameIn_self s0 p old new q n h1
        · left
          rw [St.mem_eq, cont_renameIn_other s0 p old new t .cells q (fun h' => hqt h'.2), ← St.mem_eq] at h1
          exact h1
      · exact Or.inr h1

theorem kindOf_not_space_ref (st : St) (q : Path) (n : String)
    (h : st.kindOf q n = none ∨ st.kindOf q n = some .cells) :
    (st.mem .cells q n).isSome = true ∨ (st.mem .refs q n = none ∧ n ∉ st.childNames q) := by
  rcases h with h | h
  · obtain ⟨_, h2, h3, _⟩ := kindOf_none st q n h
    exact Or.inr ⟨h3, h2⟩
  · exact Or.inl (kindOf_cells st q n h)

theorem inv_rename_core (st : St) (h : Inv st) (p : Path) (old new : String) (m : Member)
    (hm : st.mem .cells p old = some m) (hca : st.canAdd p new .cells = true)
    (hbase : (st.tail p).any (fun b => (st.mem .cells b old).isSome) = false)
    (F : Path → Bool) (hF : F p = true) (st' : St)
    (hop : ((List.filter F (p :: st.subs p)).foldl (fun s q => s.renameIn p old new q) st).updateAll
      (((List.filter F (p :: st.subs p)).foldl (fun s q => s.renameIn p old new q) st).subs p) = st') :
    Inv st' := by
  have hp : p ∈ st.ids := mem_ids_of_mem_isSome st .cells p old (by rw [hm]; rfl)
  have hpne : p ≠ [] := (h.wf.tree p hp).1
  obtain ⟨hkp, hsub⟩ := canAdd_space hpne hca
  obtain ⟨hpc, hpch, hpr, _⟩ := kindOf_none st p new hkp
  have hsubs : ∀ q ∈ st.subs p,
      (st.mem .cells q new).isSome = true ∨ (st.mem .refs q new = none ∧ new ∉ st.childNames q) :=
    fun q hq => kindOf_not_space_ref st q new (hsub q hq)
  have hon : old ≠ new := by
    intro e; subst e
    rw [hpc] at hm; cases hm
  have hnob : ∀ b ∈ st.tail p, st.mem .cells b old = none :=
    fun b hb => by simpa using List.any_eq_false.mp hbase b hb
  have hmdef : m.derived = false := by
    obtain ⟨b, hb, hbd⟩ := h.def_source .cells p old (by rw [hm]; rfl)
    unfold St.defd at hbd
    rcases hb with rfl | hb
    · rw [hm] at hbd
      cases hd : m.derived with
      | false => rfl
      | true => simp [hd] at hbd
    · rw [hnob b hb] at hbd; cases hbd
  have hTeq : List.filter F (p :: st.subs p) = p :: (st.subs p).filter F := by
    rw [List.filter_cons]; simp [hF]
  have hT : ∀ t ∈ (st.subs p).filter F, t ∈ st.subs p := fun t ht => (List.mem_filter.mp ht).1
  generalize (st.subs p).filter F = T at hTeq hT
  rw [hTeq] at hop
  simp only [List.foldl_cons] at hop
  have hrp : st.renameIn p old new p = (st.delMem .cells p old).setMem .cells p new m := by
    unfold St.renameIn
    rw [hm]
    simp
  rw [hrp] at hop
  generalize hsp : (st.delMem .cells p old).setMem .cells p new m = sp at hop
  have hp1 : p ∈ (st.delMem .cells p old).ids := by rw [(shape_delMem st .cells p old).ids]; exact hp
  have hssp : Shape st sp := by
    rw [← hsp]; exact (shape_delMem st .cells p old).trans (shape_setMem _ .cells p new m)
  have hksp : KeysOK sp := by
    rw [← hsp]; exact keysOK_setMem _ (keysOK_delMem st h.wf.keys .cells p old) .cells p new m
  have hmsp : ∀ a' q n, sp.mem a' q n =
      if q = p ∧ a' = .cells ∧ n = new then some m
      else if q = p ∧ a' = .cells ∧ n = old then none else st.mem a' q n := by
    intro a' q n
    rw [← hsp, mem_setMem _ _ _ _ _ hp1, mem_delMem]
  have R := renamed_foldl p old new T sp hksp
  generalize hst1 : List.foldl (fun s q => s.renameIn p old new q) sp T = st1 at hop R
  have hs1 : Shape st st1 := hssp.trans R.shape
  have hpT : p ∉ T := fun hpt => by
    have := (mem_subs p p).mp (hT p hpt)
    exact this.2.1 rfl
  have hm1p : ∀ a' n, st1.mem a' p n = sp.mem a' p n := by
    intro a' n
    rw [St.mem_eq, R.other a' p (fun h' => hpT h'.2), ← St.mem_eq]
  have hm1refs : ∀ q n, st1.mem .refs q n = st.mem .refs q n := by
    intro q n
    rw [St.mem_eq, R.other .refs q (fun h' => by cases h'.1), ← St.mem_eq, hmsp]
    simp
  have hm1out : ∀ a' q n, q ∉ p :: st.subs p → st1.mem a' q n = st.mem a' q n := by
    intro a' q n hq
    simp only [List.mem_cons, not_or] at hq
    rw [St.mem_eq, R.other a' q (fun h' => hq.2 (hT q h'.2)), ← St.mem_eq, hmsp]
    simp [hq.1]
  have hd1out : ∀ a' q n, q ∉ p :: st.subs p → st1.defd a' q n = st.defd a' q n := by
    intro a' q n hq
    unfold St.defd; rw [hm1out a' q n hq]
  have hnames1 : ∀ q n, (st1.mem .cells q n).isSome = true →
      (st.mem .cells q n).isSome = true ∨ (n = new ∧ q ∈ p :: st.subs p) := by
    intro q n hh
    by_cases hq : q ∈ p :: st.subs p
    · rcases R.names q n hh with h1 | h1
      · rw [hmsp] at h1
        split at h1
        · rename_i hc; exact Or.inr ⟨hc.2.2, hq⟩
        · split at h1
          · cases h1
          · exact Or.inl h1
      · exact Or.inr ⟨h1, hq⟩
    · rw [hm1out .cells q n hq] at hh; exact Or.inl hh
  subst hop
  have R2 := rederived_updateAll st1 R.keys (st1.subs p)
  have hsub1 : st1.subs p = st.subs p := hs1.subs p
  refine ⟨h.wf.of_shape (hs1.trans R2.shape) R2.keys, ?_, ?_⟩
  · apply good_updateAll_all st1 R.keys
    intro a' q n hq
    rw [hsub1] at hq
    by_cases hqp : q = p
    · subst hqp
      have hdt : ∀ b ∈ st.tail q, ∀ a'' n'', st1.defd a'' b n'' = st.defd a'' b n'' :=
        fun b hb a'' n'' => hd1out a'' b n'' (h.wf.tail_self_avoids q b hb)
      unfold Good1
      rw [hs1.tail, firstDef_congr st st1 a' _ n (fun b hb => hdt b hb a' n), hm1p, hmsp]
      by_cases hc1 : a' = .cells ∧ n = new
      · obtain ⟨rfl, rfl⟩ := hc1
        simp only [and_self, if_true]
        intro hd; rw [hmdef] at hd; cases hd
      · by_cases hc2 : a' = .cells ∧ n = old
        · obtain ⟨rfl, rfl⟩ := hc2
          simp only [true_and, hon, if_false, and_self, if_true]
          rw [firstDef_eq_none]
          intro b hb
          unfold St.defd; rw [hnob b hb]
        · simp only [true_and, hc1, hc2, if_false]
          exact h.good a' q n
    · have hq' : q ∉ p :: st.subs p := by
        simp only [List.mem_cons, not_or]; exact ⟨hqp, hq⟩
      exact (h.good a' q n).congr (hm1out a' q n hq') (hs1.tail q)
        (fun b hb => hd1out a' b n (h.wf.tail_avoids p q b hq' hb))
  · apply h.disj.of_new (hs1.trans R2.shape) .cells new
    intro a' q n hh
    -- a name a space has after the re-derivation comes from the space or from its linearisation
    obtain ⟨b, hbq, hbm⟩ := R2.mem_source a' q n hh
    rw [hs1.tail] at hbq
    have hup : ∀ b', (b' = q ∨ b' ∈ st.tail q) → (st.mem a' b' n).isSome = true →
        (st.mem a' q n).isSome = true := fun b' hb' hb'm => h.mem_isSome_of_source a' hb' hb'm
    cases a' with
    | refs =>
      rw [hm1refs] at hbm
      exact Or.inl (hup b hbq hbm)
    | cells =>
      rcases hnames1 b n hbm with h1 | ⟨rfl, hbps⟩
      · exact Or.inl (hup b hbq h1)
      · -- the new name, coming from `p` or a sub space of `p`: `q` is `p` or a sub space of `p`
        have hqps : q = p ∨ q ∈ st.subs p := by
          rcases hbq with rfl | hbq
          · simpa using hbps
          · by_cases hq' : q ∈ p :: st.subs p
            · simpa using hq'
            · exact absurd hbps (h.wf.tail_avoids p q b hq' hbq)
        rcases hqps with rfl | hqs
        · exact Or.inr ⟨rfl, rfl, hpr, hpch⟩
        · rcases hsubs q hqs with h1 | h1
          · exact Or.inl h1
          · exact Or.inr ⟨rfl, rfl, h1.1, h1.2⟩


theorem inv_renameCells (kw : List String) (st st' : St) (h : Inv st) (p : Path) (old new : String)
    (hop : st.renameCells kw p old new = some st') : Inv st' := by
  obtain ⟨m, hm, _, hca, hbase, rfl⟩ := renameCells_some hop
  exact inv_rename_core st h p old new m hm hca hbase _ (by simp [hm]) _ rfl

end MxModel.SM
