import MxModel.Proofs.StructMechCor
/-!
# What an accepted operation does (functional correctness of the mechanism model)

`Inv` says that every reachable state is a fixed point of derivation; it does not say WHICH members are
defined.  A mechanism that refuses everything, or accepts and does nothing, satisfies it.  This file
states, operation by operation,

* when the operation is accepted: `…_isSome : (st.op …).isSome = st.accepts…` with an explicit Boolean
  criterion (`StructMechCoreOps`, collected in `apply_isSome` here), and
* what an accepted operation does to the *definitions* (`St.defd`), the spaces (`St.ids`), the direct
  bases (`St.basesOf`) and the model-level references - exactly that, and nothing else.

Together with `Inv.mem_eq_derivation` (the member table is a function of the definitions and the bases)
this determines the whole state after every accepted operation.  None of the effect lemmas needs the
invariant, except where re-derivation (`updateAll`) is involved, which needs unique member names
(`KeysOK`, part of `WF`).
-/
namespace MxModel.SM
open MxModel.C3

theorem fold_shape_defs (a : Attr) (name : String) (f : St → Path → St)
    (hf : ∀ s q, DerivedSet s (f s q) a q name) :
    ∀ (L : List Path) (s : St), (∀ q ∈ L, q ∈ s.ids) → Shape s (L.foldl f s) ∧ SameDefs s (L.foldl f s) := by
  intro L
  induction L with
  | nil => intro s _; exact ⟨Shape.refl s, fun _ _ _ => rfl⟩
  | cons x L ih =>
    intro s hL
    have h1 := (hf s x).shape
    obtain ⟨h3, h4⟩ := ih (f s x) (fun q hq => by rw [h1.ids]; exact hL q (List.mem_cons_of_mem _ hq))
    exact ⟨h1.trans h3, fun a q n => (h4 a q n).trans ((hf s x).sameDefs (hL x (by simp)) a q n)⟩

def Defines (st st' : St) (a : Attr) (p : Path) (name : String) (v : Nat) : Prop :=
  ∀ a' q n', st'.defd a' q n' = if q = p ∧ a' = a ∧ n' = name then some v else st.defd a' q n'

def Undefines (st st' : St) (a : Attr) (p : Path) (name : String) : Prop :=
  ∀ a' q n', st'.defd a' q n' = if q = p ∧ a' = a ∧ n' = name then none else st.defd a' q n'

theorem effect_define (st : St) (a : Attr) (p : Path) (name : String) (v : Nat) (hp : p ∈ st.ids)
    (f : St → Path → St) (hf : ∀ s q, DerivedSet s (f s q) a q name) (st1 : St)
    (hst1 : st.setMem a p name { derived := false, payload := v } = st1) :
    Shape st ((st1.subs p).foldl f st1) ∧ Defines st ((st1.subs p).foldl f st1) a p name v := by
  obtain ⟨h1, h2⟩ := fold_shape_defs a name f hf (st1.subs p) st1 (fun q hq => ((mem_subs p q).mp hq).1)
  refine ⟨(hst1 ▸ shape_setMem st a p name _).trans h1, fun a' q n' => ?_⟩
  rw [h2 a' q n', ← hst1, defd_setMem st a p name _ hp]
  simp

theorem effect_newMember (st : St) (a : Attr) (p : Path) (name : String) (v : Nat) (hp : p ∈ st.ids) :
    Shape st (st.newMember a p name v) ∧ Defines st (st.newMember a p name v) a p name v :=
  effect_define st a p name v hp _ (fun s q => newMemberSub_derivedSet s a p name v q) _ rfl

theorem effect_changeMember (st : St) (a : Attr) (p : Path) (name : String) (v : Nat) (hp : p ∈ st.ids) :
    Shape st (st.changeMember a p name v) ∧ Defines st (st.changeMember a p name v) a p name v :=
  effect_define st a p name v hp _ (fun s q => changeMemberSub_derivedSet s a p name v q) _ rfl

theorem newCells_spec (kw : List String) (st st' : St) (p : Path) (name : String) (v : Nat)
    (hop : st.newCells kw p name v = some st') :
    Shape st st' ∧ Defines st st' .cells p name v := by
  obtain ⟨hp, _, _, rfl⟩ := newCells_some hop
  exact effect_newMember st .cells p name v hp

/-- also on a derived cells, which it thereby defines -/
theorem setFormula_spec (st st' : St) (p : Path) (name : String) (v : Nat)
    (hop : st.setFormula p name v = some st') :
    Shape st st' ∧ Defines st st' .cells p name v := by
  obtain ⟨hm, rfl⟩ := of_eq_ite_some (setFormula_eq st p name v) hop
  exact effect_changeMember st .cells p name v (mem_ids_of_mem_isSome st .cells p name hm)

theorem delMember_spec (st st' : St) (hk : KeysOK st) (a : Attr) (p : Path) (name : String)
    (hop : st.delMember a p name = some st') :
    Shape st st' ∧ Undefines st st' a p name := by
  obtain ⟨_, rfl⟩ := of_eq_ite_some (delMember_eq st a p name) hop
  have R := rederived_updateAll (st.delMem a p name) (keysOK_delMem st hk a p name)
    (p :: (st.delMem a p name).subs p)
  refine ⟨(shape_delMem st a p name).trans R.shape, ?_⟩
  intro a' q n'
  rw [R.defs]
  unfold St.defd
  rw [mem_delMem]
  by_cases hc : q = p ∧ a' = a ∧ n' = name
  · simp [hc]
  · simp [hc]

theorem setRef_spec (kw : List String) (st st' : St) (p : Path) (name : String) (v : Nat)
    (hop : st.setRef kw p name v = some st') :
    Shape st st' ∧ Defines st st' .refs p name v := by
  obtain ⟨hp, _, hcase⟩ := setRef_some hop
  rcases hcase with ⟨_, rfl⟩ | ⟨_, _, rfl⟩
  · exact effect_changeMember st .refs p name v hp
  · exact effect_newMember st .refs p name v hp

theorem setGlobal_spec (st st' : St) (name : String) (hop : st.setGlobal name = some st') :
    st'.spaces = st.spaces ∧ ∀ n, n ∈ st'.globals ↔ n ∈ st.globals ∨ n = name := by
  obtain ⟨_, rfl⟩ := of_eq_ite_some (setGlobal_eq st name) hop
  refine ⟨rfl, fun n => ?_⟩
  simp only
  split
  · rename_i hc
    constructor
    · exact Or.inl
    · rintro (h | rfl)
      · exact h
      · simpa using hc
  · simp

theorem delGlobal_spec (st st' : St) (name : String) (hop : st.delGlobal name = some st') :
    st'.spaces = st.spaces ∧ ∀ n, n ∈ st'.globals ↔ n ∈ st.globals ∧ n ≠ name := by
  obtain ⟨_, rfl⟩ := of_eq_ite_some (delGlobal_eq st name) hop
  exact ⟨rfl, fun n => by simp⟩

theorem keysOK_rebase (st : St) (hk : KeysOK st) (p : Path) (g : List Path → List Path) : KeysOK (st.rebase p g) := by
  intro a q
  rw [cont_rebase]; exact hk a q

theorem sameDefs_rebase (st : St) (p : Path) (g : List Path → List Path) : SameDefs st (st.rebase p g) := by
  intro a q n
  unfold St.defd
  rw [St.mem_eq, St.mem_eq, cont_rebase]

structure Rebased (st st' : St) (p : Path) (g : List Path → List Path) : Prop where
  ids : st'.ids = st.ids
  globals : st'.globals = st.globals
  defs : SameDefs st st'
  basesOf : ∀ q, st'.basesOf q = if q = p then g (st.basesOf p) else st.basesOf q

theorem rebased_updateAll (st : St) (hk : KeysOK st) (p : Path) (hp : p ∈ st.ids) (g : List Path → List Path)
    (ds : List Path) : Rebased st ((st.rebase p g).updateAll ds) p g := by
  have R := rederived_updateAll (st.rebase p g) (keysOK_rebase st hk p g) ds
  refine ⟨?_, ?_, ?_, ?_⟩
  · rw [R.shape.ids]; exact ids_rebase st p g
  · rw [R.shape.globals]; rfl
  · intro a q n
    rw [R.defs a q n, sameDefs_rebase st p g a q n]
  · intro q
    rw [R.shape.basesOf, basesOf_rebase]
    by_cases hq : q = p
    · simp [hq, hp]
    · simp [hq]

/-- a base named again moves to the end; one named twice in `bs` counts once, at its last place -/
theorem addBases_spec (st st' : St) (hk : KeysOK st) (p : Path) (bs : List Path)
    (hop : st.addBases p bs = some st') :
    Rebased st st' p (fun l => l.filter (fun b => !(dedupLast bs).contains b) ++ dedupLast bs) := by
  obtain ⟨hp, _, _, _, rfl⟩ := addBases_some hop _ rfl
  exact rebased_updateAll st hk p hp _ _

theorem removeBases_spec (st st' : St) (hk : KeysOK st) (p : Path) (bs : List Path)
    (hop : st.removeBases p bs = some st') :
    Rebased st st' p (fun l => l.filter (fun b => !bs.contains b)) := by
  obtain ⟨hp, _, rfl⟩ := removeBases_some hop _ rfl
  exact rebased_updateAll st hk p hp _ _

structure Created (st st' : St) (id : Path) (bs : List Path) : Prop where
  fresh : id ∉ st.ids
  ids : st'.ids = st.ids ++ [id]
  globals : st'.globals = st.globals
  basesOf : ∀ q, st'.basesOf q = if q = id then bs else st.basesOf q
  defs : SameDefs st st'

theorem created_push (st : St) (hk : KeysOK st) (ns : Space) (hid : ns.id ∉ st.ids)
    (hc : ns.cells = []) (hr : ns.refs = []) (ds : List Path) :
    Created st ((st.push ns).updateAll ds) ns.id ns.bases := by
  have hcont : ∀ a q, (st.push ns).cont a q = st.cont a q := by
    intro a q
    rw [cont_push st ns hid]
    by_cases hq : q = ns.id
    · subst hq
      rw [St.cont_of_not_mem st a _ hid]
      cases a <;> simp [Space.get, hc, hr]
    · simp [hq]
  have hk1 : KeysOK (st.push ns) := fun a q => by rw [hcont]; exact hk a q
  have R := rederived_updateAll (st.push ns) hk1 ds
  refine ⟨hid, by rw [R.shape.ids, ids_push], by rw [R.shape.globals]; rfl, ?_, ?_⟩
  · intro q
    rw [R.shape.basesOf, basesOf_push st ns hid]
  · intro a q n
    rw [R.defs a q n]
    unfold St.defd
    rw [St.mem_eq, St.mem_eq, hcont]

theorem newSpace_spec (kw : List String) (st st' : St) (hk : KeysOK st) (parent : Path) (name : String)
    (bases : List Path) (hop : st.newSpace kw parent name bases = some st') :
    Created st st' (parent ++ [name]) (dedupLast bases) := by
  obtain ⟨_, _, hca, _, _, rfl⟩ := newSpace_some hop
  exact created_push st hk (freshSpace parent name bases) (not_mem_ids_of_canAdd st parent name .space hca)
    rfl rfl [parent ++ [name]]

structure Deleted (st st' : St) (p : Path) : Prop where
  ids : ∀ q, q ∈ st'.ids ↔ q ∈ st.ids ∧ isPrefix p q = false
  globals : st'.globals = st.globals
  basesOf : ∀ q, st'.basesOf q =
    if isPrefix p q = true then [] else (st.basesOf q).filter (fun b => !(st.removedBy p).contains b)
  defs : ∀ a q n, st'.defd a q n = if isPrefix p q = true then none else st.defd a q n

/-- what is trivial for a space that does not exist: "removed" can be read as "at or below `p`" -/
theorem ite_removedBy {β : Type} (st : St) (p q : Path) (d x : β) (hx : q ∉ st.ids → x = d) :
    (if q ∈ st.removedBy p then d else x) = if isPrefix p q = true then d else x := by
  by_cases hpq : isPrefix p q = true
  · by_cases hqi : q ∈ st.ids
    · simp [hpq, (mem_removedBy st p q).mpr ⟨hqi, hpq⟩]
    · simp [hpq, hx hqi]
  · simp [hpq, mem_removedBy]

theorem deleted_without (st : St) (hk : KeysOK st) (p : Path) (ds : List Path) :
    Deleted st ((st.without (st.removedBy p)).updateAll ds) p := by
  have hcont : ∀ a q, (st.without (st.removedBy p)).cont a q = if isPrefix p q = true then [] else st.cont a q :=
    fun a q => by rw [cont_without]; exact ite_removedBy st p q [] _ (St.cont_of_not_mem st a q)
  have hk1 : KeysOK (st.without (st.removedBy p)) := by
    intro a q
    rw [hcont]
    split
    · simp [keys]
    · exact hk a q
  have R := rederived_updateAll (st.without (st.removedBy p)) hk1 ds
  refine ⟨?_, by rw [R.shape.globals]; rfl, ?_, ?_⟩
  · intro q
    rw [R.shape.ids, mem_ids_without, mem_removedBy]
    by_cases h1 : q ∈ st.ids <;> simp [h1]
  · intro q
    rw [R.shape.basesOf, basesOf_without]
    exact ite_removedBy st p q [] _ (fun h => by rw [St.basesOf_of_not_mem st q h]; rfl)
  · intro a q n
    rw [R.defs a q n]
    unfold St.defd
    rw [St.mem_eq, hcont]
    by_cases hpq : isPrefix p q = true
    · simp [hpq, mget]
    · simp [hpq, St.mem_eq]

theorem delSpace_spec (st st' : St) (hk : KeysOK st) (p : Path) (hop : st.delSpace p = some st') :
    Deleted st st' p := by
  obtain ⟨_, _, rfl⟩ := delSpace_some hop
  exact deleted_without st hk p _

theorem defd_renameIn_frame (s : St) (p : Path) (old new : String) (q : Path) (a' : Attr) (q' : Path) (n : String)
    (h : a' = .refs ∨ (n ≠ old ∧ n ≠ new)) : (s.renameIn p old new q).defd a' q' n = s.defd a' q' n := by
  have hne : ∀ x : String, ¬ (q' = q ∧ a' = Attr.cells ∧ n = x) ∨ (x ≠ old ∧ x ≠ new) := by
    intro x
    rcases h with h | h
    · left; rintro ⟨_, h2, _⟩; rw [h] at h2; cases h2
    · by_cases hx : n = x
      · subst hx; exact Or.inr h
      · exact Or.inl (fun h' => hx h'.2.2)
  unfold St.renameIn
  cases hm : s.mem .cells q old with
  | none => rfl
  | some m =>
    have hq : q ∈ s.ids := mem_ids_of_mem_isSome s .cells q old (by rw [hm]; rfl)
    have hold : ¬ (q' = q ∧ a' = Attr.cells ∧ n = old) := by
      rcases hne old with h1 | h1
      · exact h1
      · exact absurd rfl h1.1
    have hnew : ¬ (q' = q ∧ a' = Attr.cells ∧ n = new) := by
      rcases hne new with h1 | h1
      · exact h1
      · exact absurd rfl h1.2
    simp only
    split
    · unfold St.defd
      rw [mem_delMem]; simp [hold]
    · have hq' : q ∈ (s.delMem .cells q old).ids := by rw [(shape_delMem s .cells q old).ids]; exact hq
      unfold St.defd
      rw [mem_setMem _ _ _ _ _ hq', mem_delMem]; simp [hold, hnew]

theorem defd_renameFold_frame (p : Path) (old new : String) (a' : Attr) (q' : Path) (n : String)
    (h : a' = .refs ∨ (n ≠ old ∧ n ≠ new)) : ∀ (T : List Path) (s : St),
    (T.foldl (fun s q => s.renameIn p old new q) s).defd a' q' n = s.defd a' q' n := by
  intro T
  induction T with
  | nil => intro s; rfl
  | cons t T ih =>
    intro s
    simp only [List.foldl_cons]
    rw [ih, defd_renameIn_frame s p old new t a' q' n h]

/-- Says only what a rename leaves alone.  Which cells named `old` become `new` – the one of `p`, the
copies derived from it, and overriding cells of sub spaces – is `St.renameTargets`; the definitions under
`old` and `new` afterwards are stated in `renameCells_full` (`StructMechRename`). -/
theorem renameCells_spec (kw : List String) (st st' : St) (hk : KeysOK st) (p : Path) (old new : String)
    (hop : st.renameCells kw p old new = some st') :
    Shape st st' ∧ ∀ a q n, (a = .refs ∨ (n ≠ old ∧ n ≠ new)) → st'.defd a q n = st.defd a q n := by
  obtain ⟨_, _, _, _, _, rfl⟩ := renameCells_some hop
  generalize st.renameTargets p old = T
  have RN := renamed_foldl p old new T st hk
  generalize hs1 : T.foldl (fun s q => s.renameIn p old new q) st = s1 at RN
  have R := rederived_updateAll s1 RN.keys (s1.subs p)
  refine ⟨RN.shape.trans R.shape, ?_⟩
  intro a q n hc
  rw [R.defs a q n, ← hs1]
  exact defd_renameFold_frame p old new a q n hc T st

theorem shape_namers (st : St) (x : List (Path × Nat)) : Shape st { st with namers := x } := ⟨rfl, rfl, rfl⟩

theorem mem_namers (st : St) (x : List (Path × Nat)) : ({ st with namers := x } : St).mem = st.mem := rfl

theorem sameDefs_namers (st : St) (x : List (Path × Nat)) : SameDefs st { st with namers := x } :=
  fun _ _ _ => rfl

theorem newCellsNamed_isSome (kw : List String) (st : St) (p : Path) (name fname : String) (v : Nat) :
    (st.newCellsNamed kw p name fname v).isSome = st.acceptsNewCells kw p (st.cellsName kw p name fname) := by
  unfold St.newCellsNamed St.cellsName
  split
  · exact newCells_isSome kw st p name v
  · split
    · exact newCells_isSome kw st p fname v
    · simp only [Option.isSome_map]
      exact newCells_isSome kw st p _ v

theorem newCellsNamed_spec (kw : List String) (st st' : St) (p : Path) (name fname : String) (v : Nat)
    (hop : st.newCellsNamed kw p name fname v = some st') :
    Shape st st' ∧ Defines st st' .cells p (st.cellsName kw p name fname) v := by
  obtain ⟨s, x, hs, rfl⟩ := newCellsNamed_some hop
  obtain ⟨h3, h4⟩ := newCells_spec kw st s p _ v hs
  exact ⟨h3.trans (shape_namers s x), fun a q n => (sameDefs_namers s x a q n).trans (h4 a q n)⟩

/-- the value the constructor references give to `n`, on top of `d` (a later entry wins) -/
def refsDef (d : Option Nat) (refs : List (String × Nat)) (n : String) : Option Nat :=
  refs.foldl (fun acc e => if e.1 = n then some e.2 else acc) d

theorem setRefs_spec (kw : List String) (p : Path) (refs : List (String × Nat)) :
    ∀ (st st' : St), st.setRefs kw p refs = some st' →
      Shape st st' ∧ ∀ a q n, st'.defd a q n =
        if q = p ∧ a = .refs then refsDef (st.defd .refs p n) refs n else st.defd a q n := by
  induction refs with
  | nil =>
    intro st st' hop
    simp only [St.setRefs, Option.some.injEq] at hop
    subst hop
    refine ⟨Shape.refl _, ?_⟩
    intro a q n
    by_cases hc : q = p ∧ a = .refs
    · obtain ⟨rfl, rfl⟩ := hc; simp [refsDef]
    · simp [hc]
  | cons e rest ih =>
    intro st st' hop
    obtain ⟨s, hs, hrest⟩ := setRefs_cons_some hop
    obtain ⟨h1, h2⟩ := setRef_spec kw st s p e.1 e.2 hs
    obtain ⟨h3, h4⟩ := ih s st' hrest
    refine ⟨h1.trans h3, ?_⟩
    intro a q n
    rw [h4 a q n]
    by_cases hc : q = p ∧ a = .refs
    · obtain ⟨rfl, rfl⟩ := hc
      simp only [and_self, if_true, refsDef, List.foldl_cons]
      rw [h2 .refs q n]
      by_cases hn : e.1 = n
      · simp [hn]
      · have : ¬ n = e.1 := fun h' => hn h'.symm
        simp [hn, this]
    · simp only [hc, if_false]
      rw [h2 a q n]
      have : ¬ (q = p ∧ a = Attr.refs ∧ n = e.1) := fun h' => hc ⟨h'.1, h'.2.1⟩
      simp [this]

theorem newSpaceRefs_spec (kw : List String) (st st' : St) (hk : KeysOK st) (parent : Path) (name : String)
    (bases : List Path) (refs : List (String × Nat))
    (hop : st.newSpaceRefs kw parent name bases refs = some st') :
    (parent ++ [name]) ∉ st.ids ∧ st'.ids = st.ids ++ [parent ++ [name]] ∧ st'.globals = st.globals ∧
    (∀ q, st'.basesOf q = if q = parent ++ [name] then dedupLast bases else st.basesOf q) ∧
    (∀ a q n, st'.defd a q n =
      if q = parent ++ [name] ∧ a = .refs then refsDef none refs n else st.defd a q n) := by
  obtain ⟨st1, hs, hrefs⟩ := newSpaceRefs_some hop
  have C := newSpace_spec kw st st1 hk parent name bases hs
  obtain ⟨h1, h2⟩ := setRefs_spec kw _ refs st1 st' hrefs
  refine ⟨C.fresh, by rw [h1.ids, C.ids], by rw [h1.globals, C.globals], ?_, ?_⟩
  · intro q; rw [h1.basesOf, C.basesOf]
  · intro a q n
    rw [h2 a q n, C.defs .refs (parent ++ [name]) n, St.defd_of_not_mem st .refs _ n C.fresh, C.defs a q n]

theorem delSpaceOp_isSome (st : St) (p : Path) : (st.delSpaceOp p).isSome = st.acceptsDelSpace p := by
  unfold St.delSpaceOp
  rw [Option.isSome_map]; exact isSome_of_eq_ite (delSpace_eq st p)

theorem delSpaceOp_spec (st st' : St) (hk : KeysOK st) (p : Path) (hop : st.delSpaceOp p = some st') :
    Deleted st st' p := by
  obtain ⟨s, x, hs, rfl⟩ := delSpaceOp_some hop
  have D := delSpace_spec st s hk p hs
  exact ⟨D.ids, D.globals, D.basesOf, D.defs⟩

/-- The acceptance criterion of each operation.  Not closed-form for the constructor references of
`newSpace`: they are run (`setRefs`) on the state with the new space. -/
def St.accepts (kw : List String) (st : St) : Op → Bool
  | .newSpace parent name bases refs =>
    st.acceptsNewSpace kw parent name bases &&
      (match st.newSpace kw parent name bases with
       | some st1 => (st1.setRefs kw (parent ++ [name]) refs).isSome   -- each reference as if set afterwards
       | none => false)
  | .delSpace p => st.acceptsDelSpace p
  | .newCells p name fname _ => st.acceptsNewCells kw p (st.cellsName kw p name fname)
  | .setFormula p name _ => (st.mem .cells p name).isSome
  | .delCells p name => (st.defd .cells p name).isSome
  | .renameCells p old new => st.acceptsRename kw p old new
  | .addBases p bs => st.acceptsAddBases p bs
  | .removeBases p bs => st.acceptsRemoveBases p bs
  | .setRef p name _ => st.acceptsSetRef kw p name
  | .delRef p name => (st.defd .refs p name).isSome
  | .setGlobal name => st.acceptsSetGlobal name
  | .delGlobal name => st.globals.contains name

theorem apply_isSome (kw : List String) (st : St) (op : Op) : (st.apply kw op).isSome = st.accepts kw op := by
  cases op with
  | newSpace parent name bases refs =>
    simp only [St.apply, St.accepts, St.newSpaceRefs]
    rw [← isSome_of_eq_ite (newSpace_eq kw st parent name bases)]
    cases st.newSpace kw parent name bases <;> simp
  | delSpace p => exact delSpaceOp_isSome st p
  | newCells p name fname v => exact newCellsNamed_isSome kw st p name fname v
  | setFormula p name v => exact setFormula_isSome st p name v
  | delCells p name => exact delMember_isSome st .cells p name
  | renameCells p old new => exact renameCells_isSome kw st p old new
  | addBases p bs => exact isSome_of_eq_ite (addBases_eq st p bs)
  | removeBases p bs => exact isSome_of_eq_ite (removeBases_eq st p bs)
  | setRef p name v => exact isSome_of_eq_ite (setRef_eq kw st p name v)
  | delRef p name => exact delMember_isSome st .refs p name
  | setGlobal name => exact isSome_of_eq_ite (setGlobal_eq st name)
  | delGlobal name => exact isSome_of_eq_ite (delGlobal_eq st name)

def Effect (kw : List String) (st st' : St) : Op → Prop
  | .newSpace parent name bases refs =>
    (parent ++ [name]) ∉ st.ids ∧ st'.ids = st.ids ++ [parent ++ [name]] ∧ st'.globals = st.globals ∧
    (∀ q, st'.basesOf q = if q = parent ++ [name] then dedupLast bases else st.basesOf q) ∧
    (∀ a q n, st'.defd a q n =
      if q = parent ++ [name] ∧ a = .refs then refsDef none refs n else st.defd a q n)
  | .delSpace p => Deleted st st' p
  | .newCells p name fname v => Shape st st' ∧ Defines st st' .cells p (st.cellsName kw p name fname) v
  | .setFormula p name v => Shape st st' ∧ Defines st st' .cells p name v
  | .delCells p name => Shape st st' ∧ Undefines st st' .cells p name
  | .renameCells _ old new =>
    Shape st st' ∧ ∀ a q n, (a = .refs ∨ (n ≠ old ∧ n ≠ new)) → st'.defd a q n = st.defd a q n
  | .addBases p bs => Rebased st st' p (fun l => l.filter (fun b => !(dedupLast bs).contains b) ++ dedupLast bs)
  | .removeBases p bs => Rebased st st' p (fun l => l.filter (fun b => !bs.contains b))
  | .setRef p name v => Shape st st' ∧ Defines st st' .refs p name v
  | .delRef p name => Shape st st' ∧ Undefines st st' .refs p name
  | .setGlobal name => st'.spaces = st.spaces ∧ ∀ n, n ∈ st'.globals ↔ n ∈ st.globals ∨ n = name
  | .delGlobal name => st'.spaces = st.spaces ∧ ∀ n, n ∈ st'.globals ↔ n ∈ st.globals ∧ n ≠ name

theorem apply_spec (kw : List String) (st st' : St) (hk : KeysOK st) (op : Op)
    (hop : st.apply kw op = some st') : Effect kw st st' op := by
  cases op with
  | newSpace parent name bases refs => exact newSpaceRefs_spec kw st st' hk parent name bases refs hop
  | delSpace p => exact delSpaceOp_spec st st' hk p hop
  | newCells p name fname v => exact newCellsNamed_spec kw st st' p name fname v hop
  | setFormula p name v => exact setFormula_spec st st' p name v hop
  | delCells p name => exact delMember_spec st st' hk .cells p name hop
  | renameCells p old new => exact renameCells_spec kw st st' hk p old new hop
  | addBases p bs => exact addBases_spec st st' hk p bs hop
  | removeBases p bs => exact removeBases_spec st st' hk p bs hop
  | setRef p name v => exact setRef_spec kw st st' p name v hop
  | delRef p name => exact delMember_spec st st' hk .refs p name hop
  | setGlobal name => exact setGlobal_spec st st' name hop
  | delGlobal name => exact delGlobal_spec st st' name hop

end MxModel.SM
