import MxModel.Proofs.EditMachineWF
/-!
# The example model

`eP`, `eOps`: `Base.f = y * 2`, `Base.y = 1`, `Sub(Base)` overriding `y = 10`;
`Sub.f()` is 20 and `Base.f()` is 2; `Base.f` is redefined as `y * 3`; `Sub.f()` is 30.
-/
namespace MxModel.Edit
open MxModel.Exec MxModel.C02 MxModel.SM

/-- `… * k` applied to what the name `y` gave -/
def mulK (k : Int) : Option Val → SProg
  | some (.int v) => .ret (.int (v * k))
  | some .none => .raise (.user 3)
  | none => .raise (.user 4)

/-- payload 0: `def f(): return y * 2`; every other payload `k`: `return y * 3`.  Reference payloads
are their values. -/
def eP : Params where
  srcOf := fun v _ =>
    if v = 0 then SProg.readN "y" (mulK 2) (.raise (.user 3)) (.raise (.user 4))
    else SProg.readN "y" (mulK 3) (.raise (.user 3)) (.raise (.user 4))
  valOf := fun v => .int v
  flagOf := fun _ => true
  anOf := fun _ => false
  maxdepth := 50
  kw := []

def eOps : List Op := [
  .struct (.newSpace [] "Base" [] []),
  .struct (.newCells ["Base"] "f" "f" 0),
  .struct (.setRef ["Base"] "y" 1),
  .struct (.newSpace [] "Sub" [["Base"]] []),
  .struct (.setRef ["Sub"] "y" 10),
  .eval ["Sub"] "f" [],
  .eval ["Base"] "f" [],
  .struct (.setFormula ["Base"] "f" 1),
  .eval ["Sub"] "f" []]

theorem mulK_ok (k : Int) (o : Option Val) : NsNoCatch (mulK k o) ∧ NsScoped (mulK k o) ∧ NsNoCalls (mulK k o) := by
  cases o with
  | none => exact ⟨nsNoCatch_raise _, nsScoped_raise _, nsNoCalls_raise _⟩
  | some v =>
    cases v with
    | int i => exact ⟨nsNoCatch_ret _, nsScoped_ret _, nsNoCalls_ret _⟩
    | none => exact ⟨nsNoCatch_raise _, nsScoped_raise _, nsNoCalls_raise _⟩

theorem eP_noCatch (v : Nat) (key : Key) : NsNoCatch (eP.srcOf v key) := by
  simp only [eP]
  split <;> exact nsNoCatch_readN _ _ _ _ (fun o => (mulK_ok _ o).1) (nsNoCatch_raise _) (nsNoCatch_raise _)

theorem eP_scoped (v : Nat) (key : Key) : NsScoped (eP.srcOf v key) := by
  simp only [eP]
  split <;> exact nsScoped_readN _ _ _ _ (fun o => (mulK_ok _ o).2.1) (nsScoped_raise _) (nsScoped_raise _)

theorem eP_noCalls (v : Nat) (key : Key) : NsNoCalls (eP.srcOf v key) := by
  simp only [eP]
  split <;> exact nsNoCalls_readN _ _ _ _ (fun o => (mulK_ok _ o).2.2) (nsNoCalls_raise _) (nsNoCalls_raise _)

theorem eP_admissible (ops : List Op) : Admissible eP idLt {} ops :=
  admissible_of_sources eP idLt eP_noCatch eP_scoped eP_noCalls ops {} allocOK_empty rfl

theorem eOps_admissible : Admissible eP idLt {} eOps := eP_admissible eOps

/-- a history with deletions: `Base.f` is deleted after `Sub.f()` was evaluated and created again with
the other formula; `Sub.f()` is evaluated once more; then `Base` is deleted as a whole -/
def dOps : List Op := [
  .struct (.newSpace [] "Base" [] []),
  .struct (.newCells ["Base"] "f" "f" 0),
  .struct (.setRef ["Base"] "y" 1),
  .struct (.newSpace [] "Sub" [["Base"]] []),
  .eval ["Sub"] "f" [],
  .struct (.delCells ["Base"] "f"),
  .struct (.newCells ["Base"] "f" "f" 1),
  .eval ["Sub"] "f" [],
  .struct (.delSpace ["Base"])]

theorem dOps_admissible : Admissible eP idLt {} dOps := eP_admissible dOps

end MxModel.Edit
