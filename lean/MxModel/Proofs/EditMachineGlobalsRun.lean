import MxModel.Proofs.EditMachineGlobals
import MxModel.Proofs.EditMachineInputs
import MxModel.Proofs.EditMachineWF
/-!
# The machine with model-level references (`OpG` / `stepG`): every operation keeps the invariant; histories

`stepG_cig`: one operation of `stepG` – the ten structural operations with `clearingG`, `model.x = v`,
`del model.x`, the value-layer operations (which are those of `step`).  Hypothesis per step: the regime `WF`
of the definitions in force (as for `step_ciw`).
-/
namespace MxModel.Edit
open MxModel.Exec MxModel.C02 MxModel.SM

variable (P : Params) (lt : Node → Node → Prop)

def runG (w : W) (ops : List OpG) : W := ops.foldl (stepG P) w

theorem stepG_value (w : W) (o : Op) (hv : ∀ o', o ≠ .struct o') : stepG P w (.op o) = step P w o := by
  cases o with
  | struct o' => exact absurd rfl (hv o')
  | _ => rfl

theorem stepG_struct (w : W) (o : SM.Op) :
    Refused (stepG P) (.op (.struct o)) w ∨
    ∃ st', supported o = true ∧ w.sm.apply P.kw o = some st' ∧
      ClearsTo P (stepG P) (.op (.struct o)) w st' (w.tabs.grow st')
        (clearingG P.kw (w.tabs.grow st') w.sm st' o) (w.tabs.grow st') := by
  by_cases hsup : supported o = true
  · cases hop : w.sm.apply P.kw o with
    | none => exact Or.inl (fun w2 h1 _ => by simp only [stepG, hsup, if_true, h1, hop])
    | some st' =>
      exact Or.inr ⟨st', hsup, rfl, fun w2 h1 h2 => by simp only [stepG, hsup, if_true, h1, h2, hop]⟩
  · exact Or.inl (fun w2 _ _ => by simp only [stepG, hsup, Bool.false_eq_true, if_false])

theorem stepG_setGlobal (w : W) (x : String) (v : Nat) :
    Refused (stepG P) (.setGlobal x v) w ∨
    ∃ st', w.sm.apply P.kw (.setGlobal x) = some st' ∧
      ClearsTo P (stepG P) (.setGlobal x v) w st' (w.tabs.grow st') (globalClearing (w.tabs.grow st') w.sm x)
        { w.tabs.grow st' with gv := setGv w.tabs.gv x v } := by
  cases hop : w.sm.apply P.kw (.setGlobal x) with
  | none => exact Or.inl (fun w2 h1 _ => by simp only [stepG, h1, hop])
  | some st' => exact Or.inr ⟨st', rfl, fun w2 h1 h2 => by simp only [stepG, h1, h2, hop]; rfl⟩

theorem stepG_delGlobal (w : W) (x : String) :
    Refused (stepG P) (.delGlobal x) w ∨
    ∃ st', w.sm.apply P.kw (.delGlobal x) = some st' ∧
      ClearsTo P (stepG P) (.delGlobal x) w st' (w.tabs.grow st') (globalClearing (w.tabs.grow st') w.sm x)
        (w.tabs.grow st') := by
  cases hop : w.sm.apply P.kw (.delGlobal x) with
  | none => exact Or.inl (fun w2 h1 _ => by simp only [stepG, h1, hop])
  | some st' => exact Or.inr ⟨st', rfl, fun w2 h1 h2 => by simp only [stepG, h1, h2, hop]⟩

theorem opG_cases (op : OpG) :
    (∃ o, op = .op o ∧ ∀ o', o ≠ .struct o') ∨ (∀ o, op = .op o → ∃ o', o = .struct o') := by
  cases op with
  | setGlobal x v => exact Or.inr (fun o e => nomatch e)
  | delGlobal x => exact Or.inr (fun o e => nomatch e)
  | op o =>
    rcases op_cases o with ⟨o', rfl⟩ | hv
    · exact Or.inr (fun o e => by cases e; exact ⟨o', rfl⟩)
    · exact Or.inl ⟨o, rfl, hv⟩

variable {P lt}

theorem stepG_clearStep (w : W) (op : OpG) (hv : ∀ o, op = .op o → ∃ o', o = .struct o') :
    ClearStep P (stepG P) op w := by
  cases op with
  | op o =>
    obtain ⟨o', rfl⟩ := hv o rfl
    exact (stepG_struct P w o').imp id (fun ⟨st', _, _, heq⟩ => ⟨st', _, _, _, ext_grow w.tabs st', heq⟩)
  | setGlobal x v =>
    exact (stepG_setGlobal P w x v).imp id (fun ⟨st', _, heq⟩ => ⟨st', _, _, _, ext_grow w.tabs st', heq⟩)
  | delGlobal x =>
    exact (stepG_delGlobal P w x).imp id (fun ⟨st', _, heq⟩ => ⟨st', _, _, _, ext_grow w.tabs st', heq⟩)

theorem stepG_struct_cig (w : W) (o : SM.Op) (hw : WF (w.env P) lt) (h : CIG P lt w) :
    CIG P lt (stepG P w (.op (.struct o))) := by
  rcases stepG_struct P w o with href | ⟨st', hsup, hop, heq⟩
  · rw [href w rfl rfl]; exact h
  · rw [heq w rfl rfl]
    exact cig_cleared hw h hop (coversG_clearingG P.kw _ o h.inv hsup hop (gslots_grow h.alloc st'))

theorem cig_global {w : W} (hw : WF (w.env P) lt) (h : CIG P lt w) (x : String) {st' : SM.St} (hi' : SM.Inv st')
    (hsp : st'.spaces = w.sm.spaces) (hgl : ∀ y, y ≠ x → (y ∈ st'.globals ↔ y ∈ w.sm.globals))
    (gv' : List (String × Nat))
    (hgv : ∀ y, y ≠ x → gv'.find? (fun e => e.1 == y) = w.tabs.gv.find? (fun e => e.1 == y)) :
    CIG P lt ⟨st', doClears (envOf P (w.tabs.grow st') w.sm) w.ex (globalClearing (w.tabs.grow st') w.sm x),
      { w.tabs.grow st' with gv := gv' }⟩ := by
  have ha' := allocOK_grow w.tabs st' h.alloc.slots
  refine ⟨hi', ⟨ha'.cells, ha'.refs, ha'.gslots, ha'.slots⟩, ?_⟩
  refine global_ci P x (grow_regime hw h st').1 (grow_regime hw h st').2 (coversGlobal_globalClearing _ _ x)
    hsp rfl rfl ?_
  intro y hy
  show (if st'.globals.contains y then (gv'.find? (fun e => e.1 == y)).map (·.2) else none) = _
  rw [hgv y hy, contains_iff_of_mem_iff (hgl y hy)]
  rfl

theorem stepG_setGlobal_cig (w : W) (x : String) (v : Nat) (hw : WF (w.env P) lt) (h : CIG P lt w) :
    CIG P lt (stepG P w (.setGlobal x v)) := by
  rcases stepG_setGlobal P w x v with href | ⟨st', hop, heq⟩
  · rw [href w rfl rfl]; exact h
  · rw [heq w rfl rfl]
    obtain ⟨hsp, hgl⟩ := apply_spec P.kw w.sm st' (keysOK_of_inv h.inv) (.setGlobal x) hop
    exact cig_global hw h x (inv_apply P.kw w.sm st' _ h.inv hop) hsp (fun y hy => by rw [hgl y]; simp [hy]) _
      (fun y hy => find_setGv _ x v y hy)

theorem stepG_delGlobal_cig (w : W) (x : String) (hw : WF (w.env P) lt) (h : CIG P lt w) :
    CIG P lt (stepG P w (.delGlobal x)) := by
  rcases stepG_delGlobal P w x with href | ⟨st', hop, heq⟩
  · rw [href w rfl rfl]; exact h
  · rw [heq w rfl rfl]
    obtain ⟨hsp, hgl⟩ := apply_spec P.kw w.sm st' (keysOK_of_inv h.inv) (.delGlobal x) hop
    exact cig_global hw h x (inv_apply P.kw w.sm st' _ h.inv hop) hsp (fun y hy => by rw [hgl y]; simp [hy]) _
      (fun _ _ => rfl)

theorem stepG_cig (ho : StrictOrder lt) (w : W) (op : OpG) (hw : WF (w.env P) lt) (h : CIG P lt w) :
    CIG P lt (stepG P w op) := by
  cases op with
  | setGlobal x v => exact stepG_setGlobal_cig w x v hw h
  | delGlobal x => exact stepG_delGlobal_cig w x hw h
  | op o =>
    rcases op_cases o with ⟨o', rfl⟩ | hv
    · exact stepG_struct_cig w o' hw h
    · rw [stepG_value P w o hv]; exact step_value_cig ho w o hv hw h

variable (P lt)

def AdmissibleG : W → List OpG → Prop
  | _, [] => True
  | w, op :: ops => WF ((stepG P w op).env P) lt ∧ AdmissibleG (stepG P w op) ops

theorem admissibleG_of_sources
    (hnc : ∀ v key, NsNoCatch (P.srcOf v key)) (hao : ∀ v key, NsAttrOnly (P.srcOf v key))
    (hcalls : ∀ v key, NsNoCalls (P.srcOf v key)) :
    ∀ (ops : List OpG) (w : W), AdmissibleG P lt w ops := by
  intro ops
  induction ops with
  | nil => intro w; trivial
  | cons op rest ih =>
    intro w
    exact ⟨wf_envOf_attrOnly P _ _ lt hnc hao hcalls, ih _⟩

variable {P lt}

theorem runG_cig (ho : StrictOrder lt) : ∀ (ops : List OpG) (w : W), WF (w.env P) lt → CIG P lt w →
    AdmissibleG P lt w ops → CIG P lt (runG P w ops) ∧ WF ((runG P w ops).env P) lt :=
  foldl_inv (stepG P) (AdmissibleG P lt) (fun w => WF (w.env P) lt) (CIG P lt) (fun _ _ _ h => h) (stepG_cig ho)

def isEvalG : OpG → Bool
  | .op o => isEval o
  | _ => false

def noEvalsG (ops : List OpG) : List OpG := ops.filter (fun op => !isEvalG op)

theorem stepG_rg (w : W) (op : OpG) (hw : WF (w.env P) lt) (h : CIG P lt w)
    (hr : RgNoInputs w.ex) : RgNoInputs (stepG P w op).ex := by
  rcases opG_cases op with ⟨o, rfl, hv⟩ | hv
  · rw [stepG_value P w o hv]; exact step_rg w o hw h hr
  · exact (stepG_clearStep w op hv).rg hw h hr

theorem stepG_sim (ho : StrictOrder lt) (w1 w2 : W) (op : OpG) (hw : WF (w1.env P) lt)
    (h1 : CIG P lt w1) (h2 : CIG P lt w2) (r1 : RgNoInputs w1.ex) (r2 : RgNoInputs w2.ex) (hs : Sim w1 w2) :
    Sim (stepG P w1 op) (stepG P w2 op) := by
  rcases opG_cases op with ⟨o, rfl, hv⟩ | hv
  · rw [stepG_value P w1 o hv, stepG_value P w2 o hv]; exact step_sim ho w1 w2 o hw h1 h2 r1 r2 hs
  · exact (stepG_clearStep w1 op hv).sim hw h1 h2 r1 r2 hs

theorem isEvalG_eq {op : OpG} (h : isEvalG op = true) : ∃ q n key, op = .op (.eval q n key) := by
  cases op with
  | op o => obtain ⟨q, n, key, rfl⟩ := isEval_eq h; exact ⟨q, n, key, rfl⟩
  | _ => cases h

theorem runG_sim (ho : StrictOrder lt) : ∀ (ops : List OpG) (w1 w2 : W), WF (w1.env P) lt →
    CIG P lt w1 → CIG P lt w2 → RgNoInputs w1.ex → RgNoInputs w2.ex → Sim w1 w2 → AdmissibleG P lt w1 ops →
    Sim (runG P w1 ops) (runG P w2 (noEvalsG ops)) ∧ CIG P lt (runG P w1 ops) ∧
      CIG P lt (runG P w2 (noEvalsG ops)) ∧ WF ((runG P w1 ops).env P) lt :=
  Edit.foldl_sim (stepG P) (AdmissibleG P lt) (CIG P lt) isEvalG (fun _ _ _ h => h) (stepG_cig ho) stepG_rg
    (fun w1 w2 op he hw h1 r1 hs => by
      obtain ⟨q, n, key, rfl⟩ := isEvalG_eq he
      exact step_eval_sim ho w1 w2 q n key hw h1 r1 hs)
    (stepG_sim ho)

end MxModel.Edit
