import MxModel.Proofs.StructMechEffect
/-!
# Only valid names ever become names (C11)

`NamesOK kw st`: every component of every space id and every name with a definition (cells or reference)
is a valid name (`Names.isValidName kw`: an identifier, not a keyword, not starting with an underscore).
NOT the model-level references: `model.name = value` (`ModelImpl.set_attr`) tests no name, `model._x = 1`
is accepted by the code (`St.setGlobal`), so nothing can be said about their names.  With `Inv` (a member
that is there is defined somewhere along the linearisation) the same holds for every member, derived or
not (`NamesOK.mems`).  Preserved by every accepted operation:
each creating operation checks the name it introduces (`new_cells` the name the cells GETS), everything
else only moves or removes names - read off `apply_spec`.
-/
namespace MxModel.SM
open MxModel.C3

structure NamesOK (kw : List String) (st : St) : Prop where
  ids : ∀ q ∈ st.ids, ∀ c ∈ q, Names.isValidName kw c = true
  defs : ∀ a q n, (st.defd a q n).isSome = true → Names.isValidName kw n = true

theorem NamesOK.mems {kw : List String} {st : St} (hn : NamesOK kw st) (h : Inv st) (a : Attr) (q : Path)
    (n : String) (hm : (st.mem a q n).isSome = true) : Names.isValidName kw n = true := by
  obtain ⟨b, _, hb⟩ := h.def_source a q n hm
  exact hn.defs a b n hb

theorem namesOK_empty (kw : List String) : NamesOK kw ({} : St) := by
  refine ⟨?_, ?_⟩
  · intro q hq; cases hq
  · intro a q n hd
    rw [St.defd_of_not_mem _ a q n (by simp [St.ids])] at hd; cases hd

theorem setRefs_valid (kw : List String) (p : Path) (refs : List (String × Nat)) :
    ∀ (st st' : St), st.setRefs kw p refs = some st' → ∀ e ∈ refs, Names.isValidName kw e.1 = true := by
  induction refs with
  | nil => intro _ _ _ e he; cases he
  | cons x rest ih =>
    intro st st' hop e he
    obtain ⟨s, hs, hrest⟩ := setRefs_cons_some hop
    rcases List.mem_cons.mp he with rfl | he
    · exact (setRef_some hs).2.1
    · exact ih s st' hrest e he

theorem refsDef_isSome (refs : List (String × Nat)) (n : String) :
    ∀ d : Option Nat, (refsDef d refs n).isSome = true → d.isSome = true ∨ ∃ e ∈ refs, e.1 = n := by
  induction refs with
  | nil => intro d h; exact Or.inl h
  | cons x rest ih =>
    intro d h
    simp only [refsDef, List.foldl_cons] at h
    rcases ih _ h with h1 | ⟨e, he, hen⟩
    · by_cases hx : x.1 = n
      · exact Or.inr ⟨x, by simp, hx⟩
      · simp only [hx, if_false] at h1; exact Or.inl h1
    · exact Or.inr ⟨e, List.mem_cons_of_mem _ he, hen⟩

theorem namesOK_apply (kw : List String) (st st' : St) (op : Op) (h : Inv st) (hn : NamesOK kw st)
    (hop : st.apply kw op = some st') : NamesOK kw st' := by
  have E := apply_spec kw st st' h.wf.keys op hop
  -- the two generic shapes: "one name defined / everything else as before" and "nothing new"
  have hdefines : ∀ (a : Attr) (p : Path) (name : String) (v : Nat), Shape st st' → Defines st st' a p name v →
      Names.isValidName kw name = true → NamesOK kw st' := by
    intro a p name v hs hd hv
    refine ⟨by rw [hs.ids]; exact hn.ids, ?_⟩
    intro a' q n' hd'
    rw [hd a' q n'] at hd'
    split at hd'
    · rename_i hc; rw [hc.2.2]; exact hv
    · exact hn.defs a' q n' hd'
  have hsub : (∀ q ∈ st'.ids, q ∈ st.ids) → (∀ a q n, (st'.defd a q n).isSome = true → (st.defd a q n).isSome = true) →
      NamesOK kw st' := by
    intro h1 h2
    exact ⟨fun q hq => hn.ids q (h1 q hq), fun a q n hd => hn.defs a q n (h2 a q n hd)⟩
  cases op with
  | newSpace parent name bases refs =>
    obtain ⟨hfresh, hids, hglob, _, hdefs⟩ := E
    obtain ⟨st1, hs1, hrefs⟩ := newSpaceRefs_some hop
    obtain ⟨hpar, _, _, hvalid, _, _⟩ := newSpace_some hs1
    refine ⟨?_, ?_⟩
    · intro q hq c hc
      rw [hids, List.mem_append, List.mem_singleton] at hq
      rcases hq with hq | rfl
      · exact hn.ids q hq c hc
      · rw [List.mem_append, List.mem_singleton] at hc
        rcases hc with hc | rfl
        · rcases hpar with rfl | hp
          · cases hc
          · exact hn.ids parent hp c hc
        · exact hvalid
    · intro a q n hd
      rw [hdefs a q n] at hd
      split at hd
      · rcases refsDef_isSome refs n none hd with h0 | ⟨e, he, hen⟩
        · cases h0
        · rw [← hen]; exact setRefs_valid kw _ refs st1 st' hrefs e he
      · exact hn.defs a q n hd
  | delSpace p =>
    apply hsub
    · intro q hq; exact ((E.ids q).mp hq).1
    · intro a q n hd
      rw [E.defs a q n] at hd
      split at hd
      · cases hd
      · exact hd
  | newCells p name fname v =>
    obtain ⟨s, _, hs, _⟩ := newCellsNamed_some hop
    obtain ⟨_, hvalid, _⟩ := newCells_some hs
    exact hdefines .cells p _ v E.1 E.2 hvalid
  | setFormula p name v =>
    obtain ⟨hm, _⟩ := of_eq_ite_some (setFormula_eq st p name v) hop
    exact hdefines .cells p name v E.1 E.2 (hn.mems h .cells p name hm)
  | delCells p name | delRef p name =>
    apply hsub
    · intro q hq; rw [E.1.ids] at hq; exact hq
    · intro a q n hd
      rw [E.2 a q n] at hd
      split at hd
      · cases hd
      · exact hd
  | renameCells p old new =>
    obtain ⟨m, hold, hnew, _⟩ := renameCells_some hop
    refine ⟨by rw [E.1.ids]; exact hn.ids, ?_⟩
    intro a q n hd
    by_cases hc : a = .refs ∨ (n ≠ old ∧ n ≠ new)
    · rw [E.2 a q n hc] at hd; exact hn.defs a q n hd
    · have hc2 : ¬ (n ≠ old ∧ n ≠ new) := fun h' => hc (Or.inr h')
      by_cases ho : n = old
      · subst ho; exact hn.mems h .cells p n (by rw [hold]; rfl)
      · by_cases hw : n = new
        · subst hw; exact hnew
        · exact absurd ⟨ho, hw⟩ hc2
  | addBases p bs | removeBases p bs =>
    apply hsub
    · intro q hq; rw [E.ids] at hq; exact hq
    · intro a q n hd; rw [E.defs a q n] at hd; exact hd
  | setRef p name v =>
    obtain ⟨_, hvalid, _⟩ := setRef_some hop
    exact hdefines .refs p name v E.1 E.2 hvalid
  | setGlobal name | delGlobal name =>
    refine ⟨?_, ?_⟩
    · intro q hq; rw [St.ids_of_spaces E.1] at hq; exact hn.ids q hq
    · intro a q n hd
      unfold St.defd at hd
      rw [St.mem_of_spaces E.1] at hd
      exact hn.defs a q n hd

/-- the invariant of the mechanism with the name clause (C11: "only valid identifiers not starting with
an underscore ever become names") -/
structure InvN (kw : List String) (st : St) : Prop extends Inv st where
  names : NamesOK kw st

theorem invN_apply (kw : List String) (st st' : St) (op : Op) (h : InvN kw st)
    (hop : st.apply kw op = some st') : InvN kw st' :=
  ⟨inv_apply kw st st' op h.toInv hop, namesOK_apply kw st st' op h.toInv h.names hop⟩

theorem invN_step (kw : List String) (st : St) (op : Op) (h : InvN kw st) : InvN kw (st.step kw op).1 :=
  St.step_keeps kw (invN_apply kw) st op h

theorem invN_run (kw : List String) (ops : List Op) : ∀ (st : St), InvN kw st → InvN kw (St.run kw st ops) :=
  St.run_keeps kw (invN_apply kw) ops

theorem run_invN (kw : List String) (ops : List Op) : InvN kw (St.run kw {} ops) :=
  invN_run kw ops {} ⟨inv_empty, namesOK_empty kw⟩

end MxModel.SM
