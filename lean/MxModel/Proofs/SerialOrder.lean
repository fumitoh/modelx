import MxModel.Kernels.SerialWF
/-! A closed-form sufficient condition for `NoRefOverrideOrder`: no reference name is defined by two different
spaces of one space's lineage. -/
namespace MxModel.Serial
open MxModel.PathCodec

def refKeys (m : MDesc) : List (Path × Name) := (refDefs m).map (fun e => (e.1, e.2.name))

/-- along the lineage (the space and its bases in linearisation order) of every space, a reference name has at
most one definer -/
def noRefTwiceInLineage (m : MDesc) : Bool :=
  (ctxOf m).spaces.all (fun s =>
    (lineage (ctxOf m) (baseDefs m) s).all (fun q =>
      (lineage (ctxOf m) (baseDefs m) s).all (fun q' =>
        (refKeys m).all (fun k => !(k.1 == q && (refKeys m).contains (q', k.2)) || q == q'))))

theorem refsPass_of_noRefTwice (m : MDesc) (hkeys : (refKeys m).Nodup) (h : noRefTwiceInLineage m = true) :
    ∀ (pre suf : List (Path × RefD)), refDefs m = pre ++ suf →
      refsPass (gRef (ctxOf m) (baseDefs m)) (pre.map (fun e => (e.1, e.2.name))) suf = true := by
  intro pre suf
  induction suf generalizing pre with
  | nil => intro _; rfl
  | cons e rest ih =>
    intro heq
    simp only [refsPass, gRef, Bool.and_eq_true]
    constructor
    · cases hp : (e.1 == []) with
      | true => rfl
      | false =>
        simp only [Bool.false_or, Bool.not_eq_true']
        cases hc : refConflict (ctxOf m) (baseDefs m) (pre.map (fun e => (e.1, e.2.name))) e.1 e.2.name with
        | false => rfl
        | true =>
          exfalso
          unfold refConflict at hc
          split at hc
          · cases hc
          · split at hc
            · cases hc
            · simp only [List.any_eq_true] at hc
              obtain ⟨s, hs, hhas⟩ := hc
              simp only [subsOf, List.mem_filter, Bool.and_eq_true] at hs
              obtain ⟨hsmem, _, hpin⟩ := hs
              simp only [hasRef, List.any_eq_true] at hhas
              obtain ⟨q, hq, hqdone⟩ := hhas
              -- both (q, x) and (e.1, x) are keys of the description
              have hqk : (q, e.2.name) ∈ refKeys m := by
                have : (q, e.2.name) ∈ pre.map (fun e => (e.1, e.2.name)) := by simpa using hqdone
                simp only [refKeys, heq, List.map_append, List.mem_append]
                exact Or.inl this
              have hek : (e.1, e.2.name) ∈ refKeys m := by
                simp [refKeys, heq]
              have hall := h
              simp only [noRefTwiceInLineage, List.all_eq_true] at hall
              have := hall s hsmem q hq e.1 (by simpa using hpin) (q, e.2.name) hqk
              simp only [beq_self_eq_true, Bool.true_and, Bool.or_eq_true, Bool.not_eq_true', beq_iff_eq] at this
              have hqe : q = e.1 := by
                rcases this with h1 | h1
                · have : (refKeys m).contains (e.1, e.2.name) = true := by simpa using hek
                  rw [this] at h1; cases h1
                · exact h1
              -- then the key of `e` occurs twice
              rw [hqe] at hqdone
              have hdup : (e.1, e.2.name) ∈ pre.map (fun e => (e.1, e.2.name)) := by simpa using hqdone
              unfold refKeys at hkeys
              rw [heq, List.map_append, List.map_cons] at hkeys
              have := (List.nodup_append.mp hkeys).2.2 _ hdup _ (List.mem_cons_self)
              exact this rfl
    · have := ih (pre ++ [e]) (by simp [heq])
      simpa using this

end MxModel.Serial
