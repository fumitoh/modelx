import MxModel.Kernels.ItemSpace
/-!
# The operations on the table of dynamic spaces as compositions of two primitive changes (C07)

Every operation of `Kernels/ItemSpace.lean` changes the table by creating ItemSpaces (`createItem`, reached only
through `getItem`: under an existing node, at a key that is not live) and by deleting entries (a `filter` of
`live` that keeps, with an entry, every entry above it).  A relation between tables that is reflexive, transitive
and holds for these two changes holds between the tables before and after every operation, every step of the
world and every history (`Steps.run`): an invariant is proved for the two primitives only.
-/
namespace MxModel.ItemSpace

theorem findLive_some {t : Table} {a : Addr} {e : Entry} (h : findLive t a = some e) : e ∈ t.live ∧ e.addr = a :=
  ⟨List.mem_of_find?_eq_some h, of_decide_eq_true (List.find?_some (p := fun x : Entry => decide (x.addr = a)) h)⟩

theorem findLive_none_iff (t : Table) (a : Addr) : findLive t a = none ↔ t.live.any (·.addr = a) = false := by
  rw [findLive, List.find?_eq_none, List.any_eq_false]

theorem findLive_append_new (t : Table) (l : List Entry) (e : Entry) (h : findLive t e.addr = none) :
    ({ t with live := t.live ++ e :: l } : Table).live.find? (·.addr = e.addr) = some e := by
  unfold findLive at h
  simp [List.find?_append, h]

theorem findLive_append {t t' : Table} {l : List Entry} (h : t'.live = t.live ++ l) {a : Addr} {e : Entry}
    (hf : findLive t a = some e) : findLive t' a = some e := by
  unfold findLive at hf ⊢
  rw [h, List.find?_append, hf]
  rfl

theorem nodeAt_append {defs : Defs} {t t' : Table} {l : List Entry} (h : t'.live = t.live ++ l) {a : Addr}
    {nd : Node} (hn : nodeAt defs t a = some nd) : nodeAt defs t' a = some nd := by
  unfold nodeAt at hn ⊢
  split
  · rename_i hd; rwa [if_pos hd] at hn
  · rename_i hd
    rw [if_neg hd] at hn
    obtain ⟨e, he, hen⟩ := Option.map_eq_some_iff.mp hn
    rw [findLive_append h he]
    exact hn ▸ he ▸ rfl

theorem addEntry_of_live {t : Table} {a : Addr} {e : Entry} (h : findLive t a = some e) (base : SId)
    (isItem : Bool) (sig : Option Sig) (sel : Option Path) : addEntry t a base isItem sig sel = t := by
  have : t.live.any (·.addr = a) = true := by
    cases hx : t.live.any (·.addr = a) with
    | true => rfl
    | false => rw [(findLive_none_iff t a).mpr hx] at h; cases h
  rw [addEntry, if_pos this]

/-- **the guard of `addEntry` does not fire on an address that was looked up and not found** -/
theorem addEntry_of_free {t : Table} {a : Addr} (h : findLive t a = none) (base : SId) (isItem : Bool)
    (sig : Option Sig) (sel : Option Path) :
    addEntry t a base isItem sig sel =
      match cacheGet t.cache a with
      | some hd =>
        { t with live := t.live ++ [⟨a, t.nextImpl, hd, base, isItem, sig, sel⟩], nextImpl := t.nextImpl + 1 }
      | none =>
        { t with live := t.live ++ [⟨a, t.nextImpl, t.nextHandle, base, isItem, sig, sel⟩],
                 cache := t.cache ++ [(a, t.nextHandle)],
                 nextImpl := t.nextImpl + 1, nextHandle := t.nextHandle + 1 } := by
  rw [addEntry, (findLive_none_iff t a).mp h]
  rfl

theorem addEntry_fresh (t : Table) (a : Addr) (base : SId) (isItem : Bool) (sig : Option Sig) (sel : Option Path)
    (h : findLive t a = none) :
    ∃ hd, (addEntry t a base isItem sig sel).live = t.live ++ [⟨a, t.nextImpl, hd, base, isItem, sig, sel⟩] := by
  rw [addEntry_of_free h]
  split <;> exact ⟨_, rfl⟩

/-- the address of the replica of the static space `d` inside the ItemSpace at `item` built from `base` -/
def childAddr (item : Addr) (base : Path) (d : SDef) : Addr :=
  ⟨item.root, item.dkey ++ (d.path.drop base.length).map Seg.name⟩

theorem addChildren_cons (t : Table) (item : Addr) (base : Path) (d : SDef) (ds : List SDef) :
    addChildren t item base (d :: ds) =
      addChildren (addEntry t (childAddr item base d) d.id false d.sig d.sel) item base ds := rfl

theorem addChildren_new (item : Addr) (base : Path) : ∀ (ds : List SDef) (t : Table),
    ∃ l, (addChildren t item base ds).live = t.live ++ l ∧ ∀ e ∈ l, ∃ d ∈ ds, e.addr = childAddr item base d
  | [], t => ⟨[], (List.append_nil _).symm, fun e he => by cases he⟩
  | d :: ds, t => by
    obtain ⟨l2, h2, h2'⟩ := addChildren_new item base ds (addEntry t (childAddr item base d) d.id false d.sig d.sel)
    rw [addChildren_cons, h2]
    cases hf : findLive t (childAddr item base d) with
    | some e =>
      rw [addEntry_of_live hf]
      exact ⟨l2, rfl, fun e he => (h2' e he).imp fun d' hd' => ⟨List.mem_cons_of_mem _ hd'.1, hd'.2⟩⟩
    | none =>
      obtain ⟨hd, h1⟩ := addEntry_fresh t (childAddr item base d) d.id false d.sig d.sel hf
      refine ⟨_ :: l2, by rw [h1, List.append_assoc]; rfl, fun e he => ?_⟩
      rcases List.mem_cons.mp he with rfl | he
      · exact ⟨d, List.mem_cons_self, rfl⟩
      · exact (h2' e he).imp fun d' hd' => ⟨List.mem_cons_of_mem _ hd'.1, hd'.2⟩

theorem createItem_live (defs : Defs) {t : Table} {a : Addr} (base : SDef) (hmiss : findLive t a = none) :
    ∃ hd l, (createItem defs t a base).live = t.live ++ ⟨a, t.nextImpl, hd, base.id, true, base.sig, base.sel⟩ :: l ∧
      ∀ e ∈ l, ∃ d ∈ descendants defs base.path, e.addr = childAddr a base.path d := by
  obtain ⟨hd, h1⟩ := addEntry_fresh t a base.id true base.sig base.sel hmiss
  obtain ⟨l, h2, hl⟩ := addChildren_new a base.path (descendants defs base.path)
    (addEntry t a base.id true base.sig base.sel)
  exact ⟨hd, l, by rw [createItem, h2, h1, List.append_assoc]; rfl, hl⟩

theorem findLive_createItem (defs : Defs) {t : Table} {a : Addr} (base : SDef) (hmiss : findLive t a = none) :
    ∃ hd, findLive (createItem defs t a base) a = some ⟨a, t.nextImpl, hd, base.id, true, base.sig, base.sel⟩ := by
  obtain ⟨hd, l, hlive, _⟩ := createItem_live defs base hmiss
  refine ⟨hd, ?_⟩
  rw [findLive, hlive]
  exact findLive_append_new t l ⟨a, t.nextImpl, hd, base.id, true, base.sig, base.sel⟩ hmiss

/-- the base of a new ItemSpace of the node: the static space its parameter formula names, else the node's own base -/
def baseOf (defs : Defs) (nd : Node) : Option SDef :=
  match nd.sel with
  | some p => findDef defs p
  | none => findId defs nd.base

/-- `GetItem defs t p args kw r`: `r` is what `get_itemspace(args, kw)` of the node at `p` returns.  Only a miss
changes the table; a failure is that the node has no parameters, the spelling does not bind, or the base the
parameter formula names does not exist. -/
inductive GetItem (defs : Defs) (t : Table) (p : Addr) (args : List Val) (kw : KwArgs) : Table × Res → Prop
  | noNode : nodeAt defs t p = none → GetItem defs t p args kw (t, .noNode)
  | failed {nd : Node} {r : Res} : nodeAt defs t p = some nd → r = .typeError ∨ r = .formulaError →
      GetItem defs t p args kw (t, r)
  | hit {nd : Node} {sig : Sig} {key : Key} {e : Entry} : nodeAt defs t p = some nd → nd.sig = some sig →
      bindArgs sig args kw = some key → findLive t ⟨p.root, p.dkey ++ [.key key]⟩ = some e →
      GetItem defs t p args kw (t, .ok e)
  | miss {nd : Node} {sig : Sig} {key : Key} {e : Entry} (base : SDef) : nodeAt defs t p = some nd →
      nd.sig = some sig → bindArgs sig args kw = some key →
      findLive t ⟨p.root, p.dkey ++ [.key key]⟩ = none →
      findLive (createItem defs t ⟨p.root, p.dkey ++ [.key key]⟩ base) ⟨p.root, p.dkey ++ [.key key]⟩ = some e →
      GetItem defs t p args kw (createItem defs t ⟨p.root, p.dkey ++ [.key key]⟩ base, .ok e)

theorem getItem_spec (defs : Defs) (t : Table) (p : Addr) (args : List Val) (kw : KwArgs) :
    GetItem defs t p args kw (getItem defs t p args kw) := by
  unfold getItem
  split
  · rename_i hn; exact .noNode hn
  · rename_i nd hn
    split
    · exact .failed hn (.inl rfl)
    · rename_i sig hs
      split
      · exact .failed hn (.inl rfl)
      · rename_i key hb
        dsimp only
        split
        · rename_i e hf; exact .hit hn hs hb hf
        · rename_i hf
          split
          · exact .failed hn (.inr rfl)
          · rename_i base _
            obtain ⟨hd, hfind⟩ := findLive_createItem defs base hf
            rw [hfind]
            exact .miss base hn hs hb hf hfind

theorem getItem_hit {defs : Defs} {t : Table} {p : Addr} {args : List Val} {kw : KwArgs} {nd : Node}
    {sig : Sig} {key : Key} {e : Entry} (hn : nodeAt defs t p = some nd) (hs : nd.sig = some sig)
    (hb : bindArgs sig args kw = some key) (hf : findLive t ⟨p.root, p.dkey ++ [.key key]⟩ = some e) :
    getItem defs t p args kw = (t, .ok e) := by
  unfold getItem
  simp only [hn, hs, hb, hf]

theorem getItem_miss_creates (defs : Defs) (t : Table) (parent : Addr) (args : List Val) (kw : KwArgs)
    (nd : Node) (sig : Sig) (key : Key) (base : SDef)
    (hn : nodeAt defs t parent = some nd) (hs : nd.sig = some sig) (hb : bindArgs sig args kw = some key)
    (hmiss : findLive t ⟨parent.root, parent.dkey ++ [.key key]⟩ = none)
    (hbase : baseOf defs nd = some base) :
    ∃ hd, getItem defs t parent args kw =
      (createItem defs t ⟨parent.root, parent.dkey ++ [.key key]⟩ base,
        .ok ⟨⟨parent.root, parent.dkey ++ [.key key]⟩, t.nextImpl, hd, base.id, true, base.sig, base.sel⟩) := by
  obtain ⟨hd, hfind⟩ := findLive_createItem defs base hmiss
  refine ⟨hd, ?_⟩
  unfold baseOf at hbase
  unfold getItem
  cases hsel : nd.sel <;> rw [hsel] at hbase <;> simp only [hn, hs, hb, hmiss, hsel, hbase, hfind]

/-- `R` relates a table to what it becomes by creations of ItemSpaces (under a node that exists: of the instances
of `Steps` only `closed_steps` needs that) -/
structure Creates (R : Table → Table → Prop) : Prop where
  refl : ∀ t, R t t
  trans : ∀ {a b c : Table}, R a b → R b c → R a c
  create : ∀ (defs : Defs) (t : Table) (p : Addr) (key : Key) (base : SDef) (nd : Node),
    nodeAt defs t p = some nd → findLive t ⟨p.root, p.dkey ++ [.key key]⟩ = none →
    R t (createItem defs t ⟨p.root, p.dkey ++ [.key key]⟩ base)

def KeepsAbove (t : Table) (p : Entry → Bool) : Prop :=
  ∀ i ∈ t.live, ∀ e ∈ t.live, i.addr.root = e.addr.root → i.addr.dkey <+: e.addr.dkey → p e = true → p i = true

/-- `R` relates a table to what it becomes by deletions (`KeepsAbove`: with an entry go those below it; again
only `closed_steps` needs it) -/
structure Deletes (R : Table → Table → Prop) : Prop where
  refl : ∀ t, R t t
  trans : ∀ {a b c : Table}, R a b → R b c → R a c
  filter : ∀ (t : Table) (p : Entry → Bool), KeepsAbove t p → R t { t with live := t.live.filter p }

structure Steps (R : Table → Table → Prop) : Prop extends Creates R, Deletes R

variable {R : Table → Table → Prop}

theorem Deletes.clear (h : Deletes R) (t : Table) : R t { t with live := [] } := by
  have := h.filter t (fun _ => false) (fun _ _ _ _ _ _ he => he)
  rwa [List.filter_eq_nil_iff.mpr (fun _ _ => Bool.false_ne_true)] at this

theorem Deletes.deleteAt (h : Deletes R) (t : Table) (a : Addr) : R t (deleteAt t a) := by
  refine h.filter t _ fun i _ e _ hr hp he => ?_
  -- an entry above a kept one is not below `a`, or the kept one would be
  simp only [Bool.not_eq_true', Bool.and_eq_false_iff, decide_eq_false_iff_not] at he ⊢
  refine he.imp (fun h1 => hr ▸ h1) fun h2 => ?_
  cases hx : a.dkey.isPrefixOf i.addr.dkey with
  | false => rfl
  | true => rw [List.isPrefixOf_iff_prefix.mpr ((List.isPrefixOf_iff_prefix.mp hx).trans hp)] at h2; cases h2

/-- `clearItems`, `clearSubsRootItems` and `dynRefsChange` are `deleteAll` of a list of addresses -/
theorem Deletes.deleteAll (h : Deletes R) : ∀ (l : List Addr) (t : Table), R t (deleteAll t l)
  | [], t => h.refl t
  | a :: as, t => h.trans (h.deleteAt t a) (h.deleteAll as (ItemSpace.deleteAt t a))

theorem Deletes.nsChange (h : Deletes R) (t : Table) (b : SId) : R t (nsChange t b) :=
  h.trans (h.deleteAll _ t) (h.deleteAll _ _)

theorem Deletes.applyEdit (h : Deletes R) (t : Table) (k : EditKind) (b : SId) : R t (applyEdit t k b) := by
  cases k with
  | newCells => exact h.trans (h.nsChange t b) (h.deleteAll _ _)
  | setFormula => exact h.deleteAll _ t
  | renameCells => exact h.trans (h.deleteAll _ t) (h.nsChange _ b)
  | delCells | newChild | delChild => exact h.nsChange t b
  | newRef | delRef | changeRef => exact h.trans (h.nsChange t b) (h.deleteAll _ _)
  | setParamFormula => exact h.trans (h.deleteAll _ t) (h.deleteAll _ _)
  | modelRef => exact h.clear t

theorem Deletes.foldl (h : Deletes R) {α : Type} (f : Table → α → Table) (hf : ∀ t x, R t (f t x)) :
    ∀ (l : List α) (t : Table), R t (l.foldl f t)
  | [], t => h.refl t
  | x :: xs, t => h.trans (hf t x) (h.foldl f hf xs (f t x))

theorem Deletes.delSpace (h : Deletes R) (defs : Defs) (t : Table) (d : SDef) : R t (delSpace defs t d).2 := by
  unfold ItemSpace.delSpace
  refine h.trans (h.trans ?_ (h.foldl _ (fun t (x : SDef) => h.nsChange t x.id) _ _))
    (h.foldl _ (fun t (x : SDef) => h.trans (h.deleteAll _ t) (h.deleteAll _ _)) _ _)
  split
  · exact h.nsChange t _
  · exact h.refl t

theorem Deletes.clearAll (h : Deletes R) (defs : Defs) (t : Table) (a : Addr) : R t (clearAll defs t a) := by
  unfold ItemSpace.clearAll
  split
  · split
    · exact h.refl t
    · exact h.filter t _ fun i _ e _ hr _ he => hr ▸ he
  · refine h.filter t _ fun i _ e _ hr hp he => ?_
    cases hx : (!(decide (i.addr.root = a.root) && a.dkey.isPrefixOf i.addr.dkey && i.addr.dkey != a.dkey &&
        (i.addr.dkey.drop a.dkey.length).any Seg.isKey)) with
    | true => rfl
    | false =>
      -- `i` is deleted, so `e` below it is: it is below `a`, longer than `i`, and has the key `i` has
      simp only [Bool.not_eq_false', Bool.and_eq_true, decide_eq_true_eq, bne_iff_ne, ne_eq] at hx
      obtain ⟨⟨⟨h1, h2⟩, h3⟩, h4⟩ := hx
      have hai := List.isPrefixOf_iff_prefix.mp h2
      have hne : e.addr.dkey ≠ a.dkey := fun he' =>
        h3 (List.IsPrefix.eq_of_length_le (he' ▸ hp) hai.length_le)
      obtain ⟨r1, hr1⟩ := hai
      obtain ⟨r2, hr2⟩ := hp
      have hany : (e.addr.dkey.drop a.dkey.length).any Seg.isKey = true := by
        rw [← hr1, List.drop_left] at h4
        rw [← hr2, ← hr1, List.append_assoc, List.drop_left, List.any_append, h4]; rfl
      have hae : a.dkey.isPrefixOf e.addr.dkey = true :=
        List.isPrefixOf_iff_prefix.mpr ⟨r1 ++ r2, by rw [← List.append_assoc, hr1, hr2]⟩
      simp [← hr, h1, hae, hne, hany] at he

theorem Deletes.delItem (h : Deletes R) (t : Table) (p : Addr) (key : Key) : R t (delItem t p key).1 := by
  unfold ItemSpace.delItem
  dsimp only
  split
  · exact h.deleteAt _ _
  · exact h.refl t

theorem Deletes.clearAt (h : Deletes R) (defs : Defs) (t : Table) (p : Addr) (args : List Val) (kw : KwArgs) :
    R t (clearAt defs t p args kw).1 := by
  unfold ItemSpace.clearAt
  split
  · exact h.refl t
  · split
    · exact h.refl t
    · split
      · exact h.refl t
      · dsimp only
        split
        · exact h.deleteAt t _
        · exact h.refl t

theorem Creates.getItem (h : Creates R) (defs : Defs) (t : Table) (p : Addr) (args : List Val) (kw : KwArgs) :
    R t (getItem defs t p args kw).1 := by
  have hs := getItem_spec defs t p args kw
  generalize ItemSpace.getItem defs t p args kw = r at hs
  cases hs with
  | miss _ hn _ _ hm _ => exact h.create defs t p _ _ _ hn hm
  | _ => exact h.refl t

theorem Creates.walk (h : Creates R) (defs : Defs) : ∀ (chain : List ChainSeg) (t : Table) (a : Addr),
    R t (walk defs t a chain).1
  | [], t, a => h.refl t
  | .call args kw :: rest, t, a => by
    unfold ItemSpace.walk
    split
    · exact h.refl t
    · split
      · exact h.refl t
      · have hg := h.getItem defs t a args kw
        generalize ItemSpace.getItem defs t a args kw = r at hg
        obtain ⟨t', res⟩ := r
        cases res with
        | ok e => exact h.trans hg (h.walk defs rest t' e.addr)
        | _ => exact hg
  | .child n :: rest, t, a => by
    unfold ItemSpace.walk
    split
    · split
      · exact h.walk defs rest t _
      · exact h.refl t
    · split
      · exact h.walk defs rest t _
      · exact h.refl t

theorem Creates.stepItem (h : Creates R) (w : World) (root : Path) (chain : List ChainSeg) :
    R w.tbl (step w (.item root chain)).1.tbl := by
  simp only [step]
  split
  · exact h.refl _
  · exact h.walk _ _ _ _

/-- the shape the `clearAt` / `delItem` / `clearItems` / `clearAll` branches of `step` share: follow a chain,
then act (`f`) where it leads -/
theorem Steps.afterWalk (h : Steps R) (w : World) (a : Addr) (chain : List ChainSeg)
    (f : Table → Addr → World × WalkRes) (hf : ∀ t p, R t (f t p).1.tbl) :
    R w.tbl (match walk w.defs w.tbl a chain with
      | (t, .at p) => f t p
      | (t, e) => ({ w with tbl := t }, e)).1.tbl := by
  have hw := h.toCreates.walk w.defs chain w.tbl a
  generalize walk w.defs w.tbl a chain = r at hw
  obtain ⟨t, res⟩ := r
  cases res with
  | «at» p => exact h.trans hw (hf t p)
  | _ => exact hw

theorem Steps.step (h : Steps R) (w : World) (op : Op) : R w.tbl (step w op).1.tbl := by
  have hd := h.toDeletes
  cases op with
  | newSpace path sig sel =>
    simp only [ItemSpace.step]
    split
    · exact h.refl _
    · dsimp only
      split
      · exact hd.applyEdit _ _ _
      · exact h.refl _
  | setParam path sig sel =>
    simp only [ItemSpace.step]
    split
    · exact h.refl _
    · dsimp only; exact hd.applyEdit _ _ _
  | delSpace path =>
    simp only [ItemSpace.step]
    split
    · exact h.refl _
    · dsimp only; exact hd.delSpace _ _ _
  | edit k path =>
    simp only [ItemSpace.step]
    split
    · exact h.refl _
    · dsimp only; exact hd.applyEdit _ _ _
  | item root chain => exact h.toCreates.stepItem w root chain
  | clearAt root chain args kw =>
    simp only [ItemSpace.step]
    split
    · exact h.refl _
    · exact h.afterWalk w _ chain _ fun t p => hd.clearAt w.defs t p args kw
  | delItem root chain key =>
    simp only [ItemSpace.step]
    split
    · exact h.refl _
    · exact h.afterWalk w _ chain _ fun t p => hd.delItem t p key
  | clearItems root chain =>
    simp only [ItemSpace.step]
    split
    · exact h.refl _
    · exact h.afterWalk w _ chain _ fun t p => hd.deleteAll _ t
  | clearAll root chain =>
    simp only [ItemSpace.step]
    split
    · exact h.refl _
    · exact h.afterWalk w _ chain _ fun t p => hd.clearAll w.defs t p

theorem Steps.run (h : Steps R) : ∀ (ops : List Op) (w : World), R w.tbl (run w ops).tbl
  | [], w => h.refl w.tbl
  | op :: rest, w => h.trans (h.step w op) (h.run rest (ItemSpace.step w op).1)

theorem Steps.vstep (h : Steps R) (vw : VWorld) (op : VOp) : R vw.w.tbl (vw.step op).w.tbl := by
  cases op with
  | op o => exact h.step vw.w o
  | assign root chain c k v =>
    simp only [VWorld.step]
    split
    · exact h.refl _
    · rename_i a _
      have hw := h.toCreates.walk vw.w.defs chain vw.w.tbl a
      generalize walk vw.w.defs vw.w.tbl a chain = r at hw
      obtain ⟨t, res⟩ := r
      cases res with
      | «at» p => dsimp only; split <;> exact hw
      | _ => exact hw

theorem Steps.vrun (h : Steps R) : ∀ (ops : List VOp) (vw : VWorld), R vw.w.tbl (vw.run ops).w.tbl
  | [], vw => h.refl vw.w.tbl
  | op :: rest, vw => h.trans (h.vstep vw op) (h.vrun rest (vw.step op))

end MxModel.ItemSpace
