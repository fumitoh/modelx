import MxModel.Proofs.ExecStep
/-!
# The traceback is the chain that was executing when the escaping exception was raised

Ghost field `excStack` records the call stack at the moment the most recent exception
object was created (`raise` in a formula, `DeepReferenceError` in `append`,
`NoneReturnedError` in `_store_value`).  `runN_tr`: when `_eval_formula` fails, the entries
it appended to `rolledback` that carry the identity of the escaping exception are exactly
the frames of `excStack` above the caller's stack, innermost first – entries of exceptions
that formulas handled carry older identities.

`Proper` excludes one ill-formed behaviour: re-raising "the exception received from a callee"
when the running formula has not received one (`ProperL live`: `reraise` is allowed only after a
call of this formula has failed; between that failure and the `reraise` the formula may make
further calls - an `except …: audit(x); raise` or a `finally:` block - because a call that returns
leaves the caller's exception as it was, `keepExc`).

Identities: `excCount` counts the exception objects created; `curExc` is the one that is
propagating.  `TrL live s s'`: a computation from `s` to `s'` appended to `rolledback` only entries
with identities created meanwhile, and – when `live` – the exception `s'.curExc` was created
meanwhile and its entries are exactly the frames of `excStack` above the stack of `s`.
-/
namespace MxModel.Exec

def ProperL (live : Bool) : Prog → Prop
  | .ret _ => True
  | .raise _ => True
  | .reraise _ => live = true
  | .read _ _ k => ∀ v, ProperL live (k v)
  | .call _ k => (∀ v, ProperL live (k (.ok v))) ∧ (∀ e, ProperL true (k (.err e)))

def Proper (p : Prog) : Prop := ProperL false p

theorem ProperL.mono : ∀ (p : Prog), ProperL false p → ProperL true p := by
  intro p
  induction p with
  | ret v => intro _; trivial
  | raise e => intro _; trivial
  | reraise e => intro _; rfl
  | read a r k ih => intro h v; exact ih _ (h v)
  | call n k ih => intro h; exact ⟨fun v => ih _ (h.1 v), h.2⟩

theorem ProperL.of (live : Bool) (p : Prog) (h : ProperL live p) : ProperL true p := by
  cases live with
  | true => exact h
  | false => exact ProperL.mono p h

structure SameExc (s s' : St) : Prop where
  stack : s'.stack = s.stack
  rolledback : s'.rolledback = s.rolledback
  curExc : s'.curExc = s.curExc
  excCount : s'.excCount = s.excCount
  excStack : s'.excStack = s.excStack

theorem GraphOnly.sameExc {s s' : St} (h : GraphOnly s s') : SameExc s s' := by
  obtain ⟨_, _, rfl⟩ := h
  exact ⟨rfl, rfl, rfl, rfl, rfl⟩

theorem sameExc_hitEdge (s : St) (n : Node) : SameExc s (s.hitEdge n) := (graphOnly_hitEdge s n).sameExc

theorem sameExc_noteRead (s : St) (a : Bool) (r : RefId) : SameExc s (s.noteRead a r) := by
  obtain ⟨_, h⟩ := noteRead_eq s a r
  rw [h]; exact ⟨rfl, rfl, rfl, rfl, rfl⟩

def chainOf (suffix : List (Node × Nat)) (x : Nat) : List Node :=
  (suffix.filter (fun e => e.2 == x)).map (·.1)

theorem chainOf_append (a b : List (Node × Nat)) (x : Nat) :
    chainOf (a ++ b) x = chainOf a x ++ chainOf b x := by
  simp [chainOf, List.filter_append]

theorem chainOf_other (a : List (Node × Nat)) (x : Nat) (h : ∀ e ∈ a, e.2 ≠ x) : chainOf a x = [] := by
  unfold chainOf
  rw [List.filter_eq_nil_iff.mpr]
  · rfl
  · intro e he
    have := h e he
    simpa using this

/-- the exception `s'.curExc` was created after `s`, while the stack of `s` was executing, and
the entries it has in `suf` are the frames above that stack, innermost first -/
structure Live (s : St) (suf : List (Node × Nat)) (s' : St) : Prop where
  lt : s.excCount < s'.curExc
  le : s'.curExc ≤ s'.excCount
  take : s'.excStack.take s.stack.length = s.stack
  chain : chainOf suf s'.curExc = (s'.excStack.drop s.stack.length).reverse

structure TrL (live : Bool) (s s' : St) : Prop where
  stack : s'.stack = s.stack
  mono : s.excCount ≤ s'.excCount
  suffix : ∃ suf, s'.rolledback = s.rolledback ++ suf ∧
    (∀ e ∈ suf, s.excCount < e.2 ∧ e.2 ≤ s'.excCount) ∧ (live = true → Live s suf s')

def isErr : Res → Bool
  | .err _ => true
  | .ok _ => false

theorem TrL.refl (s : St) : TrL false s s :=
  ⟨rfl, Nat.le_refl _, [], by simp, by simp, by intro h; cases h⟩

theorem TrL.weaken {live : Bool} {s s' : St} (h : TrL live s s') : TrL false s s' := by
  obtain ⟨suf, h1, h2, _⟩ := h.suffix
  exact ⟨h.stack, h.mono, suf, h1, h2, by intro h; cases h⟩

theorem TrL.same {live : Bool} {s0 s s' : St} (h : TrL live s0 s) (hs : SameExc s s') : TrL live s0 s' := by
  obtain ⟨suf, h1, h2, h3⟩ := h.suffix
  refine ⟨hs.stack.trans h.stack, by rw [hs.excCount]; exact h.mono, suf, by rw [hs.rolledback]; exact h1, ?_, ?_⟩
  · intro e he; rw [hs.excCount]; exact h2 e he
  · intro hl
    obtain ⟨a, b, c, d⟩ := h3 hl
    exact ⟨by rw [hs.curExc]; exact a, by rw [hs.curExc, hs.excCount]; exact b, by rw [hs.excStack]; exact c,
      by rw [hs.curExc, hs.excStack]; exact d⟩

theorem TrL.newExc {live : Bool} {s0 s : St} (h : TrL live s0 s) : TrL true s0 s.newExc := by
  obtain ⟨suf, h1, h2, _⟩ := h.suffix
  refine ⟨h.stack, by simp only [St.newExc]; have := h.mono; omega, suf, h1, ?_, ?_⟩
  · intro e he; simp only [St.newExc]; have := h2 e he; omega
  · intro _
    refine ⟨by simp only [St.newExc]; have := h.mono; omega, Nat.le_refl _, ?_, ?_⟩
    · simp only [St.newExc]; rw [h.stack]; exact List.take_length
    · simp only [St.newExc]
      rw [chainOf_other suf _ (fun e he => by have := h2 e he; omega), h.stack]
      simp

/-- a callee failed: its exception is the live one -/
theorem TrL.thenErr {live : Bool} {s0 s s1 : St} (h : TrL live s0 s) (hc : TrL true s s1) : TrL true s0 s1 := by
  obtain ⟨suf, h1, h2, _⟩ := h.suffix
  obtain ⟨suf1, g1, g2, g3⟩ := hc.suffix
  obtain ⟨a, b, c, d⟩ := g3 rfl
  refine ⟨hc.stack.trans h.stack, Nat.le_trans h.mono hc.mono, suf ++ suf1, by rw [g1, h1, List.append_assoc], ?_, ?_⟩
  · intro e he
    simp only [List.mem_append] at he
    rcases he with he | he
    · have := h2 e he; have := hc.mono; omega
    · have := g2 e he; have := h.mono; omega
  · intro _
    refine ⟨by have := h.mono; omega, b, by rw [← h.stack]; exact c, ?_⟩
    rw [chainOf_append, chainOf_other suf _ (fun e he => by have := h2 e he; omega), ← h.stack]
    simpa using d

theorem TrL.thenOk {live : Bool} {s0 s s1 : St} (h : TrL live s0 s) (hc : TrL false s s1)
    (hcur : s1.curExc = s.curExc) (hst : s1.excStack = s.excStack) : TrL live s0 s1 := by
  obtain ⟨suf, h1, h2, h3⟩ := h.suffix
  obtain ⟨suf1, g1, g2, _⟩ := hc.suffix
  refine ⟨hc.stack.trans h.stack, Nat.le_trans h.mono hc.mono, suf ++ suf1, by rw [g1, h1, List.append_assoc], ?_, ?_⟩
  · intro e he
    simp only [List.mem_append] at he
    rcases he with he | he
    · have := h2 e he; have := hc.mono; omega
    · have := g2 e he; have := h.mono; omega
  · intro hl
    obtain ⟨a, b, c, d⟩ := h3 hl
    refine ⟨by rw [hcur]; exact a, by rw [hcur]; have := hc.mono; omega, by rw [hst]; exact c, ?_⟩
    rw [hcur, hst, chainOf_append, chainOf_other suf1 _ (fun e he => by have := g2 e he; omega)]
    simpa using d

/-- contract of `_eval_formula` -/
def EvalTr (f : Node → St → Res × St) : Prop := ∀ n s, TrL (isErr (f n s).1) s (f n s).2

/-- contract of `eval_node`: additionally, a call that returns leaves the exception alone -/
def CalleeTr (f : Node → St → Res × St) : Prop :=
  ∀ n s, TrL (isErr (f n s).1) s (f n s).2 ∧
    (∀ v, (f n s).1 = .ok v → (f n s).2.curExc = s.curExc ∧ (f n s).2.excStack = s.excStack)

theorem runBody_tr (env : Env) (f : Node → St → Res × St) (hf : CalleeTr f) :
    ∀ (p : Prog) (live : Bool) (s0 s : St), ProperL live p → TrL live s0 s →
      TrL (isErr (runBody env f p s).1) s0 (runBody env f p s).2 := by
  intro p
  induction p with
  | ret v => intro live s0 s _ h; exact h.weaken
  | raise e => intro live s0 s _ h; exact h.newExc
  | reraise e =>
    intro live s0 s hp h
    simp only [ProperL] at hp
    subst hp
    exact h
  | read a r k ih =>
    intro live s0 s hp h
    simp only [ProperL] at hp
    simp only [runBody]
    exact ih _ live s0 _ (hp _) (h.same (sameExc_noteRead s (a && (env.refs r).isSome) r))
  | call n k ih =>
    intro live s0 s hp h
    simp only [ProperL] at hp
    simp only [runBody]
    obtain ⟨hc, hkeep⟩ := hf n s
    cases hr : (f n s).1 with
    | ok v =>
      rw [hr] at hc
      obtain ⟨h1, h2⟩ := hkeep v hr
      exact ih _ live s0 _ (hp.1 v) (h.thenOk hc h1 h2)
    | err e =>
      rw [hr] at hc
      exact ih _ true s0 _ (hp.2 e) (h.thenErr hc)

theorem evalNode_keepsExc (env : Env) (ef : Node → St → Res × St) (n : Node) (s : St) (v : Val)
    (h : (evalNode env ef n s).1 = .ok v) :
    (evalNode env ef n s).2.curExc = s.curExc ∧ (evalNode env ef n s).2.excStack = s.excStack := by
  have hs := evalNode_step env ef n s
  generalize evalNode env ef n s = q at hs h ⊢
  cases hs with
  | hit w _ _ _ => exact ⟨(sameExc_hitEdge s n).curExc, (sameExc_hitEdge s n).excStack⟩
  | run _ _ => rw [keepExc_fst] at h; rw [keepExc_ok s _ v h]; exact ⟨rfl, rfl⟩
  | dead _ => cases h

theorem evalNode_tr (env : Env) (ef : Node → St → Res × St) (hef : EvalTr ef) :
    CalleeTr (evalNode env ef) := by
  intro n s
  refine ⟨?_, evalNode_keepsExc env ef n s⟩
  have hs := evalNode_step env ef n s
  generalize evalNode env ef n s = q at hs
  cases hs with
  | hit v _ _ _ => exact (TrL.refl s).same (sameExc_hitEdge s n)
  | run _ _ =>
    have h := hef n s
    cases hr : (ef n s).1 with
    | err e => rw [keepExc_err s _ e hr]; exact h
    | ok v =>
      rw [hr] at h
      rw [keepExc_fst, hr, keepExc_ok s _ v hr]
      obtain ⟨suf, a, b, _⟩ := h.suffix
      exact ⟨h.stack, h.mono, suf, a, b, by intro hh; cases hh⟩
  | dead _ =>
    -- the cells does not exist: a new exception in the caller's frame, nothing rolled back
    exact (TrL.refl s).newExc

theorem drop_of_take_snoc {α} (l a : List α) (x : α) (h : l.take (a.length + 1) = a ++ [x]) :
    l.take a.length = a ∧ l.drop a.length = x :: l.drop (a.length + 1) := by
  have hl : l = a ++ [x] ++ l.drop (a.length + 1) := by
    conv => lhs; rw [← List.take_append_drop (a.length + 1) l, h]
  constructor
  · rw [hl]; simp [List.take_append]
  · conv => lhs; rw [hl]
    simp [List.drop_append]

theorem chainOf_snoc_same (suf : List (Node × Nat)) (n : Node) (c : Nat) :
    chainOf (suf ++ [(n, c)]) c = chainOf suf c ++ [n] := by
  simp [chainOf_append, chainOf]

theorem rollback_last (s : St) (n : Node) :
    (s.rollback n).rolledback.getLast? = some (n, (s.rollback n).curExc) := by
  simp [St.rollback, St.removeNode, St.dropFrame]

/-- the frame of `n` is rolled back by the live exception: its entry continues the chain -/
theorem TrL.rollback {env : Env} {s s1 : St} {n : Node} (h : TrL true (s.push env n) s1) :
    TrL true s (s1.rollback n) := by
  obtain ⟨suf, hrb, hids, herr⟩ := h.suffix
  have hstack : s1.stack = s.stack ++ [n] := h.stack
  have hmono : s.excCount ≤ s1.excCount := h.mono
  obtain ⟨hlt, hle, htake, hchain⟩ := herr rfl
  simp only [St.push, List.length_append, List.length_singleton] at htake hchain hlt
  obtain ⟨ht, hd⟩ := drop_of_take_snoc s1.excStack s.stack n htake
  have hst : (s1.rollback n).stack = s.stack := by
    show s1.stack.dropLast = s.stack; rw [hstack, List.dropLast_concat]
  have hrb' : (s1.rollback n).rolledback = s.rolledback ++ (suf ++ [(n, s1.curExc)]) := by
    show s1.rolledback ++ [(n, s1.curExc)] = _; rw [hrb, List.append_assoc]; rfl
  refine ⟨hst, hmono, suf ++ [(n, s1.curExc)], hrb', ?_, ?_⟩
  · intro x hx
    rcases List.mem_append.mp hx with hx | hx
    · exact hids x hx
    · rw [List.mem_singleton.mp hx]; exact ⟨hlt, hle⟩
  · intro _
    refine ⟨hlt, hle, ht, ?_⟩
    show chainOf (suf ++ [(n, s1.curExc)]) s1.curExc = (s1.excStack.drop s.stack.length).reverse
    rw [chainOf_snoc_same, hchain, hd]
    simp

theorem TrL.pop {env : Env} {live : Bool} {s s1 : St} {n : Node} (h : TrL live (s.push env n) s1) :
    TrL false s (s1.pop env n) := by
  obtain ⟨suf, hrb, hids, _⟩ := h.suffix
  have hp := pop_drainSame env s1 n
  refine ⟨?_, ?_, suf, ?_, ?_, by intro he; cases he⟩
  · rw [hp.stack]; show s1.stack.dropLast = s.stack; rw [h.stack]; simp [St.push]
  · rw [hp.excCount]; exact h.mono
  · rw [hp.rolledback]; exact hrb
  · intro e he; rw [hp.excCount]; exact hids e he

def ProperEnv (env : Env) : Prop := ∀ n, Proper (env.formula n)

theorem runN_tr (env : Env) (hp : ProperEnv env) : ∀ d, EvalTr (runN env d) := by
  intro d
  induction d with
  | zero =>
    intro n s
    simp only [runN, isErr]
    exact (TrL.refl s).same (s' := { s with hit := true }) ⟨rfl, rfl, rfl, rfl, rfl⟩ |>.newExc
  | succ d ih =>
    intro n s
    have hb := runBody_tr env _ (evalNode_tr env _ ih) (env.formula n) false _ _ (hp n) (TrL.refl (s.push env n))
    have hcl := runN_succ env d n s
    generalize runBody _ _ _ _ = p at hb hcl
    generalize runN env (d + 1) n s = q at hcl
    cases hcl with
    | fail e s1 => exact hb.rollback
    | noneRet s1 _ _ =>
      -- `NoneReturnedError`: a new exception object while `n` is still on the stack
      exact hb.newExc.rollback
    | stored v s1 _ _ => exact (hb.same (s' := { s1 with data := insert s1.data n v }) ⟨rfl, rfl, rfl, rfl, rfl⟩).pop
    | uncached v s1 _ => exact hb.pop

end MxModel.Exec
