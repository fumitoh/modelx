import MxModel.Exec.Expr
/-! What the proofs about `compile` share: structural induction over `Expr` (a nested inductive: the arguments of a
call are a `List Expr`) with the statement for argument lists proved alongside; the two kinds of call as one
(`callWith`); the classes of behaviours that compiled code stays in (`StaysIn`). -/
namespace MxModel.Exec

theorem Expr.induct {P : Expr → Prop} {Ps : List Expr → Prop}
    (lit : ∀ i, P (.lit i)) (none : P .none) (param : ∀ i, P (.param i))
    (add : ∀ a b, P a → P b → P (.add a b)) (sub : ∀ a b, P a → P b → P (.sub a b))
    (mul : ∀ a b, P a → P b → P (.mul a b)) (lt : ∀ a b, P a → P b → P (.lt a b))
    (ite : ∀ c a b, P c → P a → P b → P (.ite c a b))
    (call : ∀ c args, Ps args → P (.call c args))
    (readN : ∀ r, P (.readN r)) (readA : ∀ r, P (.readA r)) (raise : ∀ k, P (.raise k))
    (try_ : ∀ a c b, P a → P b → P (.try_ a c b)) (tryRe : ∀ a c b, P a → P b → P (.tryRe a c b))
    (tryFin : ∀ a b, P a → P b → P (.tryFin a b))
    (callK : ∀ c args npos kws dflt, Ps args → P (.callK c args npos kws dflt))
    (nil : Ps []) (cons : ∀ e es, P e → Ps es → Ps (e :: es)) : (∀ e, P e) ∧ ∀ es, Ps es :=
  ⟨Expr.rec (motive_1 := P) (motive_2 := Ps) lit none param add sub mul lt ite call readN readA raise try_ tryRe
      tryFin callK nil cons,
    Expr.rec_1 (motive_1 := P) (motive_2 := Ps) lit none param add sub mul lt ite call readN readA raise try_ tryRe
      tryFin callK nil cons⟩

theorem prop_ite {α : Sort _} (P : α → Prop) {c : Prop} [Decidable c] {a b : α} (ha : P a) (hb : P b) :
    P (if c then a else b) := by
  split
  · exact ha
  · exact hb

theorem and_true_imp {x y x' y' : Bool} (hx : x = true → x' = true) (hy : y = true → y' = true)
    (h : (x && y) = true) : (x' && y') = true :=
  Bool.and_eq_true_iff.mpr ⟨hx (Bool.and_eq_true_iff.mp h).1, hy (Bool.and_eq_true_iff.mp h).2⟩

def retK (k : Val → Prog) (hh : Bool → Err → Prog) : Res → Prog :=
  fun r => match r with | .ok v => k v | .err e => hh false e

/-- What a call compiles to, plain or spelled: the callee is loaded, the arguments are evaluated, then bound
(`bind a vs`: the key for a callee with `a` parameters, `none` for a `TypeError` in the caller), then the element is
called; the value goes on, a failure goes to the handler as an exception received from a callee. -/
def callWith (ar : CellId → Option Nat) (params : List Val) (c : CellId) (args : List Expr)
    (bind : Nat → List Val → Option Key) (k : Val → Prog) (h : Bool → Err → Prog) : Prog :=
  match ar c with
  | none => h true (.user kName)
  | some a => compileArgs ar params args (fun vs =>
      match bind a vs with
      | some key => .call (c, key) (retK k h)
      | none => h true (.user kType)) h

theorem compile_call_eq (ar : CellId → Option Nat) (params : List Val) (c : CellId) (args : List Expr)
    (k : Val → Prog) (h : Bool → Err → Prog) :
    compile ar params (.call c args) k h =
      callWith ar params c args (fun a vs => if vs.length = a then some vs else none) k h := by
  simp only [compile, callWith]
  cases ar c with
  | none => rfl
  | some a =>
    refine congrArg (compileArgs ar params args · h) (funext fun vs => ?_)
    by_cases hl : vs.length = a
    · rw [if_pos hl, if_pos hl]; rfl
    · rw [if_neg hl, if_neg hl]

theorem compile_callK_eq (ar : CellId → Option Nat) (params : List Val) (c : CellId) (args : List Expr) (npos : Nat)
    (kws : List Nat) (dflt : List Val) (k : Val → Prog) (h : Bool → Err → Prog) :
    compile ar params (.callK c args npos kws dflt) k h =
      callWith ar params c args (fun a vs => bindKey a dflt (vs.take npos) (kws.zip (vs.drop npos))) k h :=
  rfl

/-! ### Classes of behaviours that compiled code stays in

`compile` is written in continuation-passing style.  `StaysIn K H c` says of a piece of code `c` that still awaits its
continuations that the behaviour is in the class `K` whenever the value continuation stays in `K` and the handler
satisfies `H`.  Whatever `K` and `H` are, as long as a handler that satisfies `H` turns a new exception into a
behaviour in `K` (`hnew`), the combinators from which `compile` is built keep it; what depends on the class are the
`read` and `call` nodes and the handlers `try` installs. -/

def StaysIn {α : Type} (K : Prog → Prop) (H : (Bool → Err → Prog) → Prop)
    (c : (α → Prog) → (Bool → Err → Prog) → Prog) : Prop :=
  ∀ k h, (∀ v, K (k v)) → H h → K (c k h)

section
variable {K : Prog → Prop} {H : (Bool → Err → Prog) → Prop} (hnew : ∀ h, H h → ∀ e, K (h true e))
  {ar : CellId → Option Nat} {params : List Val}
include hnew

theorem staysIn_param (i : Nat) : StaysIn K H (compile ar params (.param i)) := by
  intro k h hk hh
  simp only [compile]; split
  · exact hk _
  · exact hnew h hh _

theorem staysIn_arith (op : Int → Int → Int) (a b : Val) : StaysIn K H (arith op a b) := by
  intro k h hk hh
  unfold arith; split
  · exact hk _
  · exact hnew h hh _

theorem staysIn_binop {ca cb : (Val → Prog) → (Bool → Err → Prog) → Prog} (op : Int → Int → Int)
    (ha : StaysIn K H ca) (hb : StaysIn K H cb) :
    StaysIn K H (fun k h => ca (fun x => cb (fun y => arith op x y k h) h) h) :=
  fun k h hk hh => ha _ h (fun x => hb _ h (fun y => staysIn_arith hnew op x y k h hk hh) hh) hh

theorem staysIn_callWith {c : CellId} {args : List Expr} (bind : Nat → List Val → Option Key)
    (hcall : ∀ key, StaysIn K H (fun k h => .call (c, key) (retK k h)))
    (ih : StaysIn K H (compileArgs ar params args)) : StaysIn K H (callWith ar params c args bind) := by
  intro k h hk hh
  unfold callWith; split
  · exact hnew h hh _
  · refine ih _ h (fun vs => ?_) hh
    split
    · exact hcall _ k h hk hh
    · exact hnew h hh _

end

theorem staysIn_ite {K : Prog → Prop} {H : (Bool → Err → Prog) → Prop}
    {cc ca cb : (Val → Prog) → (Bool → Err → Prog) → Prog} (hc : StaysIn K H cc) (ha : StaysIn K H ca) (hb : StaysIn K H cb) :
    StaysIn K H (fun k h => cc (fun x => if truthy x then ca k h else cb k h) h) := by
  intro k h hk hh
  refine hc _ h (fun x => ?_) hh
  split
  · exact ha k h hk hh
  · exact hb k h hk hh

theorem staysIn_cons {K : Prog → Prop} {H : (Bool → Err → Prog) → Prop} {ar : CellId → Option Nat} {params : List Val}
    {e : Expr} {es : List Expr} (he : StaysIn K H (compile ar params e)) (hes : StaysIn K H (compileArgs ar params es)) :
    StaysIn K H (compileArgs ar params (e :: es)) :=
  fun _ h hk hh => he _ h (fun _ => hes _ h (fun _ => hk _) hh) hh

end MxModel.Exec
