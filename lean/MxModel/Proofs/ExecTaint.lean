import MxModel.Proofs.ExecSound
import MxModel.Proofs.ExecCert
/-!
# Soundness without any hypothesis about the depth limit, for programs that do not turn a depth
error into a value

`runN_ok` (ExecSound) is relative to the ghost flag: "the limit was not hit".  Here the flag is not
used at all.  A set `T` of *tainted* error kinds (containing `DeepReferenceError`) is fixed, and the
programs are such that a tainted failure of a callee makes the caller fail with a tainted error
(`TaintClosed`): then every evaluation, whatever the limit does, keeps every held value sound, every
value it returns is the specification's, and an error it returns is tainted or the specification's.

Two instances: `T = {deep}` – formulas may handle any failure except that they let
`DeepReferenceError` propagate as it is (`DeepPropagates`) –, and `T = everything` – formulas do not
turn a callee's failure into a value (`NoCatch`).  In both the state after an UNCAUGHT depth error
is as `Good` as after any other failure.
-/
namespace MxModel.Exec

variable (env : Env) (inp : Node → Option Val)

def FailsIn (T : Err → Prop) : Prog → Prop
  | .ret _ => False
  | .raise e => T e
  | .reraise e => T e
  | .read _ _ k => ∀ x, FailsIn T (k x)
  | .call _ k => ∀ r, FailsIn T (k r)

def TaintClosed (T : Err → Prop) : Prog → Prop
  | .ret _ => True
  | .raise _ => True
  | .reraise _ => True
  | .read _ _ k => ∀ x, TaintClosed T (k x)
  | .call _ k => (∀ e, T e → FailsIn T (k (.err e))) ∧ ∀ r, TaintClosed T (k r)

def TaintClosedEnv (T : Err → Prop) (env : Env) : Prop := ∀ n, TaintClosed T (env.formula n)

/-- **formulas let `DeepReferenceError` propagate**: whatever else they handle, a depth error
received from a callee ends the formula with that depth error -/
def DeepPropagates (p : Prog) : Prop := TaintClosed (fun e => e = .deep) p

def DeepPropagatesEnv (env : Env) : Prop := ∀ n, DeepPropagates (env.formula n)

theorem failsIn_result (T : Err → Prop) (f : Node → St → Res × St) :
    ∀ (p : Prog), FailsIn T p → ∀ s, ∃ e, (runBody env f p s).1 = .err e ∧ T e := by
  intro p
  induction p with
  | ret v => intro h; exact absurd h (by simp [FailsIn])
  | raise e => intro h s; exact ⟨e, rfl, h⟩
  | reraise e => intro h s; exact ⟨e, rfl, h⟩
  | read a r k ih => intro h s; simp only [runBody]; exact ih _ (h _) _
  | call m k ih => intro h s; simp only [runBody]; exact ih _ (h _) _

theorem failsIn_true_of_fails : ∀ p : Prog, Fails p → FailsIn (fun _ => True) p := by
  intro p
  induction p with
  | ret v => intro h; exact h
  | raise e => intro _; trivial
  | reraise e => intro _; trivial
  | read a r k ih => intro h x; exact ih x (h x)
  | call m k ih => intro h r; exact ih r (h r)

theorem taintClosed_of_noCatch : ∀ p : Prog, NoCatch p → TaintClosed (fun _ => True) p := by
  intro p
  induction p with
  | ret v => intro _; trivial
  | raise e => intro _; trivial
  | reraise e => intro _; trivial
  | read a r k ih => intro h x; exact ih x (h.2 x)
  | call m k ih => intro h; exact ⟨fun e _ => failsIn_true_of_fails _ (h.1 e), fun r => ih r (h.2 r)⟩

theorem taintClosedEnv_of_noCatch (h : NoCatchEnv env) : TaintClosedEnv (fun _ => True) env :=
  fun n => taintClosed_of_noCatch _ (h n)

variable (T : Err → Prop)

def TOr (P : Res → Prop) (r : Res) : Prop := (∃ e, r = .err e ∧ T e) ∨ P r

def CalleeT (f : Node → St → Res × St) : Prop :=
  ∀ n s, Good env inp s → Good env inp (f n s).2 ∧ TOr T (DenC env inp n) (f n s).1

def EvalT (ef : Node → St → Res × St) : Prop :=
  ∀ n s, Good env inp s → (env.cached n.1 = true → inp n = none) →
    Good env inp (ef n s).2 ∧ TOr T (Den env inp n) (ef n s).1

theorem runBody_taint (f : Node → St → Res × St) (hf : CalleeT env inp T f) :
    ∀ (p : Prog), TaintClosed T p → ∀ (s : St), Good env inp s →
      Good env inp (runBody env f p s).2 ∧ TOr T (DenBody env inp p) (runBody env f p s).1 := by
  intro p
  induction p with
  | ret v => intro _ s hs; exact ⟨hs, Or.inr ⟨0, by simp [runBody, denoteBody]⟩⟩
  | raise e =>
    intro _ s hs
    exact ⟨Good.of_sameCache (sameCache_newExc s) hs, Or.inr ⟨0, by simp [runBody, denoteBody]⟩⟩
  | reraise e => intro _ s hs; exact ⟨hs, Or.inr ⟨0, by simp [runBody, denoteBody]⟩⟩
  | read a x k ih =>
    intro ht s hs
    simp only [runBody]
    obtain ⟨hg, hr⟩ := ih (env.refs x) (ht _) _ (Good.of_sameCache (sameCache_noteRead s _ x) hs)
    refine ⟨hg, ?_⟩
    rcases hr with hr | ⟨d, hd⟩
    · exact Or.inl hr
    · exact Or.inr ⟨d, by simpa [denoteBody] using hd⟩
  | call n k ih =>
    intro ht s hs
    simp only [runBody]
    obtain ⟨hg1, hr1⟩ := hf n s hs
    obtain ⟨hg2, hr2⟩ := ih (f n s).1 (ht.2 _) (f n s).2 hg1
    refine ⟨hg2, ?_⟩
    rcases hr1 with ⟨e, he, hTe⟩ | hden
    · -- a tainted failure of the callee: the continuation fails with a tainted error
      left
      rw [he]
      exact failsIn_result env T f _ (ht.1 e hTe) _
    · rcases hr2 with hr2 | hr2
      · exact Or.inl hr2
      · exact Or.inr (DenBody_call n k _ _ hden hr2)

theorem evalNode_taint (ef : Node → St → Res × St) (hef : EvalT env inp T ef) :
    CalleeT env inp T (evalNode env ef) := by
  intro n s hs
  have hst := evalNode_step env ef n s
  generalize evalNode env ef n s = q at hst
  cases hst with
  | hit v ha hc hl =>
    exact ⟨Good.of_sameCache (sameCache_hitEdge s n) hs,
      Or.inr (DenC.of_alive ha (hs.sound n v hc hl))⟩
  | run ha hu =>
    obtain ⟨hg, hr⟩ := hef n s hs (fun hc => hs.inp_none hc (hu hc))
    rw [keepExc_fst]
    exact ⟨Good.of_sameCache (keepExc_excOnly s _).sameCache hg, hr.imp id (DenC.of_alive ha)⟩
  | dead ha =>
    exact ⟨Good.of_sameCache (sameCache_newExc s) hs, Or.inr (DenC.of_dead ha)⟩

theorem runN_taint (hdeep : T .deep) (hT : TaintClosedEnv T env) : ∀ d, EvalT env inp T (runN env d) := by
  intro d
  induction d with
  | zero =>
    intro n s hs _
    exact ⟨⟨hs.sound, hs.inputsHeld⟩, Or.inl ⟨.deep, rfl, hdeep⟩⟩
  | succ d ih =>
    intro n s hs hin
    have hb := runBody_taint env inp T _ (evalNode_taint env inp T _ ih) (env.formula n) (hT n) (s.push env n)
      (Good.of_sameCache (sameCache_push env s n) hs)
    have hcl := runN_succ env d n s
    generalize runBody _ _ _ _ = p at hb hcl
    generalize runN env (d + 1) n s = q at hcl
    obtain ⟨hg, ⟨e, he, hTe⟩ | hden⟩ := hb
    · -- a tainted failure of the formula: the frame is rolled back, the error passes unchanged
      rw [show p = (.err e, p.2) from Prod.ext he rfl] at hcl
      cases hcl
      exact ⟨Good.of_sameCache (sameCache_rollback _ n) hg, Or.inl ⟨e, rfl, hTe⟩⟩
    · have hd := hcl.den hden hin
      exact ⟨hcl.good hg hd hin, Or.inr hd⟩

theorem evalTop_taint (hdeep : T .deep) (hT : TaintClosedEnv T env) (n : Node) (s : St)
    (hg : Good env inp s) :
    Good env inp (evalTop env n s).2 ∧
    (∀ v, (evalTop env n s).1 = .ok v → Den env inp n (.ok v)) ∧
    (∀ e tb, (evalTop env n s).1 = .formulaError e tb → T e ∨ Den env inp n (.err e)) := by
  have hs := evalTop_step env n s
  generalize evalTop env n s = q at hs
  cases hs with
  | held v hc hl => exact ⟨hg, fun w hw => by cases hw; exact hg.sound n v hc hl, fun e tb h => by cases h⟩
  | ok v s1 hu hr =>
    have hok := runN_taint env inp T hdeep hT (env.maxdepth + 1) n s hg (fun hc => hg.inp_none hc (hu hc))
    rw [hr] at hok
    refine ⟨⟨hok.1.sound, hok.1.inputsHeld⟩, fun w hw => ?_, fun e tb h => by cases h⟩
    cases hw
    rcases hok.2 with ⟨e, he, _⟩ | h
    · cases he
    · exact h
  | err e s1 hu hr =>
    have hok := runN_taint env inp T hdeep hT (env.maxdepth + 1) n s hg (fun hc => hg.inp_none hc (hu hc))
    rw [hr] at hok
    refine ⟨⟨hok.1.sound, hok.1.inputsHeld⟩, fun w hw => (by cases hw), fun e' tb h => ?_⟩
    cases h
    rcases hok.2 with ⟨e2, he, hTe⟩ | h
    · cases he; exact Or.inl hTe
    · exact Or.inr h

end MxModel.Exec
