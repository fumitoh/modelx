import MxModel.Proofs.ExecEdits
import MxModel.Proofs.ExecCert
/-!
# "Computed once": the execution log of an evaluation

`St.log` (ghost) records every formula execution (`CallStack.append`), `St.rolledback` every frame
that failed.  In the regime of the graph invariant (`Ranked`: terminating programs) an evaluation
* never executes an element of a cached cells that holds a value, and
* executes an element of a cached cells **once per outcome**: every execution is either rolled back
  (it failed: it appears in the roll-back list) or is THE execution that stored the element's value.
  (An element whose execution failed holds nothing and is executed again when it is called again –
  by a handler, or by a `finally` block – that is what "retry" means.)
Hence, when no execution fails (in particular: `NoCatch` programs whose top-level call returns), no
element of a cached cells is executed twice.
-/
namespace MxModel.Exec

/-- `1` when `m` acquired its value between `s` and `s'`: a number, to balance the `count`s of `LogRel` -/
def newly (s s' : St) (m : Node) : Nat :=
  if lookup s.data m = none ∧ (lookup s'.data m).isSome = true then 1 else 0

structure LogRel (env : Env) (s s' : St) : Prop where
  ex : ∃ (new : List Node) (rb : List (Node × Nat)),
    s'.log = new ++ s.log ∧ s'.rolledback = s.rolledback ++ rb ∧
    (∀ m ∈ new, env.cached m.1 = true → lookup s.data m = none) ∧
    (∀ m, env.cached m.1 = true → new.count m = (rb.map (·.1)).count m + newly s s' m)

variable {env : Env} {lt : Node → Node → Prop}

theorem LogRel.of_same {s s' : St} (hl : s'.log = s.log) (hr : s'.rolledback = s.rolledback)
    (hd : s'.data = s.data) : LogRel env s s' := by
  refine ⟨[], [], by simp [hl], by simp [hr], by simp, ?_⟩
  intro m _
  simp only [List.count_nil, List.map_nil, newly, hd, Nat.zero_add]
  split
  · rename_i h; rw [h.1] at h; simp at h
  · rfl

theorem newly_congr {a b a' b' : St} (h1 : a'.data = a.data) (h2 : b'.data = b.data) (m : Node) :
    newly a' b' m = newly a b m := by
  unfold newly; rw [h1, h2]

theorem newly_add {a b c : St} (h1 : Ext a b) (h2 : Ext b c) (m : Node) :
    newly a c m = newly a b m + newly b c m := by
  unfold newly
  cases ha : lookup a.data m with
  | some v =>
    have hb := h1 m v ha
    simp [hb]
  | none =>
    cases hb : lookup b.data m with
    | some v => have hc := h2 m v hb; simp [hc]
    | none => simp

theorem LogRel.trans {a b c : St} (h1 : LogRel env a b) (h2 : LogRel env b c) (e1 : Ext a b) (e2 : Ext b c) :
    LogRel env a c := by
  obtain ⟨n1, r1, l1, rb1, a1, c1⟩ := h1.ex
  obtain ⟨n2, r2, l2, rb2, a2, c2⟩ := h2.ex
  refine ⟨n2 ++ n1, r1 ++ r2, by rw [l2, l1, List.append_assoc], by rw [rb2, rb1, List.append_assoc], ?_, ?_⟩
  · intro m hm hc
    simp only [List.mem_append] at hm
    rcases hm with hm | hm
    · have := a2 m hm hc
      cases ha : lookup a.data m with
      | none => rfl
      | some v => rw [e1 m v ha] at this; cases this
    · exact a1 m hm hc
  · intro m hc
    rw [List.count_append, c1 m hc, c2 m hc, List.map_append, List.count_append, newly_add e1 e2]
    omega

theorem rides_logRel (env : Env) : Rides (LogRel env) :=
  ⟨fun hl hr hd => LogRel.of_same hl hr hd, fun h1 h2 e1 e2 => h1.trans h2 e1 e2⟩

/-- the frame of `n` ends: its execution is accounted for by the roll-back entry `rb` appends for it
or by the value `n` acquires (`hbal`; an element of an uncached cells is not counted) -/
theorem LogRel.close {s s1 s' : St} {n : Node} (h : LogRel env (s.push env n) s1)
    (hnone : lookup s.data n = none) (hl : s'.log = s1.log) (rb : List (Node × Nat))
    (hrb : s'.rolledback = s1.rolledback ++ rb)
    (hbal : ∀ m, env.cached m.1 = true →
      [n].count m + newly (s.push env n) s1 m = (rb.map (·.1)).count m + newly s s' m) :
    LogRel env s s' := by
  obtain ⟨nb, rbb, lb, rb1, ab, cb⟩ := h.ex
  refine ⟨nb ++ [n], rbb ++ rb, by rw [hl, lb]; simp [St.push], by rw [hrb, rb1, List.append_assoc]; rfl,
    fun m hm hc => ?_, fun m hc => ?_⟩
  · rcases List.mem_append.mp hm with hm | hm
    · exact ab m hm hc
    · rw [List.mem_singleton.mp hm]; exact hnone
  · have h1 := cb m hc
    have h2 := hbal m hc
    rw [List.count_append, List.map_append, List.count_append]
    omega

theorem LogRel.rollback {s s1 : St} {n : Node} (h : LogRel env (s.push env n) s1)
    (hnone : lookup s.data n = none) : LogRel env s (s1.rollback n) := by
  refine h.close hnone rfl [(n, s1.curExc)] rfl (fun m _ => ?_)
  simp only [List.map_cons, List.map_nil]
  exact congrArg (List.count m [n] + ·) (newly_congr rfl rfl m)

theorem runN_log (ho : StrictOrder lt) (hr : Ranked env lt) : ∀ d, EvalGL env lt (LogRel env) (runN env d) := by
  intro d
  induction d with
  | zero =>
    intro m s g hi hl hb hn
    exact ⟨(runN_graph ho hr 0 m s g hi hl hb hn).1, LogRel.of_same rfl rfl rfl⟩
  | succ d ih =>
    intro n s g hidx hlen hbelow hnone
    refine ⟨(runN_graph ho hr (d + 1) n s g hidx hlen hbelow hnone).1, ?_⟩
    have hb := runBody_graphL (rides_logRel env) ho _ (evalNode_graphL (rides_logRel env) _ ih) s.stack n
      (s.push env n).idx hbelow (env.formula n) (hr n) (s.push env n) (g.push n hnone) rfl rfl
      (IdxOK.push hidx hlen n) (by simp [St.push, hlen])
    have hcl := runN_succ env d n s
    generalize runBody _ _ _ _ = p at hb hcl
    generalize runN env (d + 1) n s = q at hcl
    obtain ⟨hG, hL⟩ := hb
    cases hcl with
    | fail e s1 => exact hL.rollback hnone
    | noneRet s1 _ _ => exact LogRel.rollback (s1 := s1.newExc) ⟨hL.ex⟩ hnone
    | stored v s1 hc _ =>
      -- the one successful execution: `n`, which was executing and held nothing, acquires its value
      have hun1 : lookup s1.data n = none := hG.1.stackUnheld n (by rw [hG.2.1]; simp)
      have hp := pop_drainSame env ({ s1 with data := insert s1.data n v } : St) n
      have hd : (({ s1 with data := insert s1.data n v } : St).pop env n).data = insert s1.data n v := hp.data
      refine hL.close hnone hp.log [] (hp.rolledback.trans (List.append_nil _).symm) (fun m _ => ?_)
      simp only [newly, hd, lookup_insert]
      by_cases hmn : n = m
      · subst hmn; simp [hun1, hnone]
      · simp [hmn]; rfl
    | uncached v s1 hc =>
      have hp := pop_drainSame env s1 n
      have hd : (s1.pop env n).data = s1.data := hp.data
      refine hL.close hnone hp.log [] (hp.rolledback.trans (List.append_nil _).symm) (fun m hcm => ?_)
      have hmn : n ≠ m := by intro h; subst h; rw [hc] at hcm; cases hcm
      rw [List.count_cons_of_ne hmn]
      exact congrArg (List.count m [] + ·) (newly_congr rfl hd.symm m)

/-- under `NoCatch` a failed callee makes the caller fail: a call that RETURNS has rolled nothing back -/
theorem runBody_noRb (f : Node → St → Res × St)
    (hf : ∀ m s w, (f m s).1 = .ok w → (f m s).2.rolledback = s.rolledback) :
    ∀ (p : Prog), NoCatch p → ∀ (s : St) (v : Val), (runBody env f p s).1 = .ok v →
      (runBody env f p s).2.rolledback = s.rolledback := by
  intro p
  induction p with
  | ret v0 => intro _ s v _; rfl
  | raise e => intro _ s v h; simp [runBody] at h
  | reraise e => intro _ s v h; simp [runBody] at h
  | read a r k ih =>
    intro hnc s v h
    simp only [NoCatch] at hnc
    simp only [runBody] at h ⊢
    rw [ih _ (hnc.2 _) _ v h]
    unfold St.noteRead; split <;> rfl
  | call m k ih =>
    intro hnc s v h
    simp only [NoCatch] at hnc
    simp only [runBody] at h ⊢
    cases hres : (f m s).1 with
    | err e => rw [hres] at h; exact absurd h (fails_not_ok env f _ (hnc.1 e) _ v)
    | ok w => rw [hres] at h; rw [ih _ (hnc.2 _) _ v h]; exact hf m s w hres

theorem runN_noRb (hnc : NoCatchEnv env) : ∀ d m s w, (runN env d m s).1 = .ok w →
    (runN env d m s).2.rolledback = s.rolledback := by
  intro d
  induction d with
  | zero => intro m s w h; cases h
  | succ d ih =>
    intro n s w h
    have hev : ∀ m s w, (evalNode env (runN env d) m s).1 = .ok w →
        (evalNode env (runN env d) m s).2.rolledback = s.rolledback := by
      intro m s w hw
      have hs := evalNode_step env (runN env d) m s
      generalize evalNode env (runN env d) m s = q at hs hw ⊢
      cases hs with
      | hit v _ _ _ => exact (graphOnly_hitEdge s m).rolledback
      | run _ _ =>
        rw [keepExc_fst] at hw
        exact (keepExc_excOnly s _).rolledback.trans (ih m s w hw)
      | dead _ => cases hw
    have hb := runBody_noRb (env := env) _ hev (env.formula n) (hnc n) (s.push env n)
    have hcl := runN_succ env d n s
    generalize runBody _ _ _ _ = p at hb hcl
    generalize runN env (d + 1) n s = q at hcl h ⊢
    cases hcl with
    | fail e s1 => cases h
    | noneRet s1 _ _ => cases h
    | stored v s1 _ _ => exact (pop_drainSame env _ n).rolledback.trans (hb v rfl)
    | uncached v s1 _ => exact (pop_drainSame env s1 n).rolledback.trans (hb v rfl)

/-- **one top-level call**: `new` = the formula executions it made (newest first), `rb` = the frames
it rolled back (`_eval_formula`'s list just before `_start_exec` clears it) -/
theorem evalTop_log (ho : StrictOrder lt) (hr : Ranked env lt) {s : St} (g : GI env lt s)
    (hst : s.stack = []) (hidx : s.idx = []) (n : Node) :
    ∃ (new : List Node) (rb : List (Node × Nat)),
      (evalTop env n s).2.log = new ++ s.log ∧
      (∀ m ∈ new, env.cached m.1 = true → lookup s.data m = none) ∧
      (∀ m, env.cached m.1 = true → new.count m = (rb.map (·.1)).count m + newly s (evalTop env n s).2 m) ∧
      ((if env.cached n.1 = true then lookup s.data n else none) = none →
        (runN env (env.maxdepth + 1) n s).2.rolledback = s.rolledback ++ rb) ∧
      (NoCatchEnv env → ∀ v, (evalTop env n s).1 = .ok v → rb = []) := by
  have hs := evalTop_step env n s
  generalize evalTop env n s = q at hs
  have hrun : (env.cached n.1 = true → lookup s.data n = none) →
      ∃ new rb, (runN env (env.maxdepth + 1) n s).2.log = new ++ s.log ∧
        (runN env (env.maxdepth + 1) n s).2.rolledback = s.rolledback ++ rb ∧
        (∀ m ∈ new, env.cached m.1 = true → lookup s.data m = none) ∧
        (∀ m, env.cached m.1 = true →
          new.count m = (rb.map (·.1)).count m + newly s (runN env (env.maxdepth + 1) n s).2 m) ∧
        (NoCatchEnv env → ∀ w, (runN env (env.maxdepth + 1) n s).1 = .ok w → rb = []) := by
    intro hu
    obtain ⟨new, rb, l1, r1, a1, c1⟩ := (runN_log ho hr (env.maxdepth + 1) n s g
      (by intro j i hji; rw [hidx] at hji; simp at hji) (by simp [hst, hidx])
      (by intro a ha; rw [hst] at ha; cases ha) (g.unheld_of hu)).2.ex
    refine ⟨new, rb, l1, r1, a1, c1, fun hnc w hw => ?_⟩
    have := runN_noRb hnc (env.maxdepth + 1) n s w hw
    rw [r1] at this
    exact List.append_right_eq_self.mp this
  cases hs with
  | held v hc hl =>
    refine ⟨[], [], rfl, fun m hm => (by cases hm), fun m _ => ?_, fun h => ?_, fun _ _ _ => rfl⟩
    · simp only [newly, List.count_nil, List.map_nil, Nat.zero_add]
      split
      · rename_i h; rw [h.1] at h; simp at h
      · rfl
    · rw [if_pos hc, hl] at h; cases h
  | ok v s1 hu hr' =>
    obtain ⟨new, rb, l1, r1, a1, c1, hnr⟩ := hrun hu
    rw [hr'] at l1 c1 hnr
    exact ⟨new, rb, l1, a1, c1, fun _ => r1, fun hnc _ _ => hnr hnc v rfl⟩
  | err e s1 hu hr' =>
    obtain ⟨new, rb, l1, r1, a1, c1, _⟩ := hrun hu
    rw [hr'] at l1 c1
    exact ⟨new, rb, l1, a1, c1, fun _ => r1, fun _ _ hw => by cases hw⟩

end MxModel.Exec
