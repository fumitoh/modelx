import MxModel.Proofs.ExecCertRunOps
/-!
# The example programs of `Props/C02.lean` (non-vacuity, witnesses)

`xEnv`: space 0 holds `c0(x) = x + r0` (reference `r0` of space 0, by name), the uncached
`c1(x) = c0(x) + r1` (`r1` lives in space 1: attribute path) and `c3() = c2(1) + r0` (by attribute path
`_space.r0`); space 1 holds `c2(x) = c1(x) * r1` (`r1` by name).  `xOps`: a history with reference and
value edits; `yOps`: one in which `c0` is deleted and created again; `zOps`: one with a flag and a
formula edit.  `cEnv`, `dEnv`: the two-cells witnesses for the hypothesis `NoCatchEnv`.
-/
namespace MxModel.C02
open MxModel.Exec

def xCells : CellId → Option Expr
  | 0 => some (.add (.param 0) (.readN 0))
  | 1 => some (.add (.call 0 [.param 0]) (.readA 1))
  | 2 => some (.mul (.call 1 [.param 0]) (.readN 1))
  | 3 => some (.add (.call 2 [.lit 1]) (.readA 0))
  | _ => none

def xAr : CellId → Option Nat
  | 0 => some 1 | 1 => some 1 | 2 => some 1 | 3 => some 0 | _ => none

def xEnv : Env :=
  tableEnv xCells xAr [0, 1, 2, 3] (fun c => c != 1) (fun _ => false)
    (fun c => if c = 2 then 1 else 0) (fun r => if r = 1 then 1 else 0)
    (fun r => if r = 0 then some (.int 10) else if r = 1 then some (.int 2) else none) 50

theorem xEnv_wf : WF xEnv idLt :=
  tableEnv_wf_aux _ _ _ _ _ _ _ _ _ _ _
    (by intro i e h
        match i, h with
        | 0, _ => simp
        | 1, _ => simp
        | 2, _ => simp
        | 3, _ => simp)
    (by intro i e h
        match i, h with
        | 0, h => cases h; exact ⟨rfl, rfl⟩
        | 1, h => cases h; exact ⟨rfl, rfl⟩
        | 2, h => cases h; exact ⟨rfl, rfl⟩
        | 3, h => cases h; exact ⟨rfl, rfl⟩)

def xOps : List Op :=
  [.eval (3, []), .eval (0, [.int 5]), .setRef 1 (.int 3), .eval (3, []), .setRef 0 (.int 20), .eval (3, []),
   .setValue (0, [.int 1]) (.int 100), .eval (3, []), .delRef 1, .eval (3, []), .setRef 1 (.int 1), .eval (3, [])]

/-- not about `xOps` alone: any history without formula edits, flag edits and creations of cells is
admissible -/
theorem xOps_admissible : ∀ (ops : List Op) (st : Env × St), WF st.1 idLt →
    (∀ op ∈ ops, match op with
      | .setFormula _ _ => False | .setCached _ _ => False | .newCell _ _ _ _ => False | _ => True) →
    Admissible idLt st ops := by
  intro ops
  induction ops with
  | nil => intro _ _ _; trivial
  | cons op rest ih =>
    intro st hw hall
    obtain ⟨env, s⟩ := st
    have hstep : WF (step (env, s) op).1 idLt := by
      have := hall op (by simp)
      cases op with
      | setRef r v => exact wf_withRef hw r (some v)
      | delRef r => simp only [step]; split; exact wf_withRef hw r none; exact hw
      | delCell c => simp only [step]; split; exact wf_withAlive hw c false; exact hw
      | maxdepth k => exact wf_withMaxdepth hw k
      | setFormula _ _ | setCached _ _ | newCell _ _ _ _ => exact this.elim
      | _ => exact hw
    exact ⟨hstep, ih _ hstep (fun op' h' => hall op' (by simp [h']))⟩

def yOps : List Op :=
  [.eval (3, []), .eval (0, [.int 5]), .setValue (0, [.int 9]) (.int 100), .delCell 0, .eval (3, []),
   .newCell 0 (fun _ => .ret (.int 1)) true false, .eval (3, [])]

theorem yOps_admissible : Admissible idLt (xEnv, {}) yOps := by
  have w0 := xEnv_wf
  have w1 : WF (xEnv.withAlive 0 false) idLt := wf_withAlive w0 0 false
  have w2 : WF ((xEnv.withAlive 0 false).withCell 0 (fun _ => .ret (.int 1)) true false) idLt :=
    wf_withCell w1 0 _ true false (fun _ => ⟨trivial, trivial, trivial⟩)
  exact ⟨w0, w0, w0, w1, w1, w2, w2, trivial⟩

/-- the new formula of `c3`: `c3() = c0(1)` -/
def zK : Res → Prog
  | .ok v => .ret v
  | .err e => .reraise e

def zF : Key → Prog := fun _ => .call (0, [.int 1]) zK

/-- a history with a switch of `is_cached` (the uncached `c1` becomes cached) and a FORMULA EDIT (of
`c3`) between evaluations and a reference edit -/
def zOps : List Op :=
  [.eval (3, []), .setCached 1 true, .eval (3, []), .setFormula 3 zF, .eval (3, []), .setRef 0 (.int 7),
   .eval (3, [])]

theorem zOps_admissible : Admissible idLt (xEnv, {}) zOps := by
  have w0 := xEnv_wf
  have w1 : WF (xEnv.withCached 1 true) idLt := wf_withCached w0 1 true
  have w2 : WF ((xEnv.withCached 1 true).withFormula 3 zF) idLt :=
    wf_withFormula w1 3 zF (fun _ => ⟨⟨by show (0 : Nat) < 3; omega, fun r => by cases r <;> trivial⟩,
      ⟨fun _ => trivial, fun r => by cases r <;> trivial⟩, fun r => by cases r <;> trivial⟩)
  have w3 : WF (((xEnv.withCached 1 true).withFormula 3 zF).withRef 0 (some (.int 7))) idLt :=
    wf_withRef w2 0 _
  exact ⟨w0, w1, w1, w2, w2, w3, w3, trivial⟩

def cCells : CellId → Option Expr
  | 0 => some (.ite (.lt (.readN 0) (.lit 1)) (.raise kValue) (.readN 0))
  | 1 => some (.try_ (.call 0 []) .all (.lit (-1)))
  | _ => none

def cAr : CellId → Option Nat
  | 0 => some 0 | 1 => some 0 | _ => none

def cEnv : Env :=
  tableEnv cCells cAr [0, 1] (fun _ => true) (fun _ => false) (fun c => if c = 1 then 1 else 0) (fun _ => 0)
    (fun r => if r = 0 then some (.int 0) else none) 50

def dCells : CellId → Option Expr
  | 0 => some (.lit 5)
  | 1 => some (.try_ (.call 0 []) .all (.lit (-1)))
  | _ => none

def dEnv : Env :=
  tableEnv dCells cAr [0, 1] (fun _ => true) (fun _ => false) (fun c => if c = 1 then 1 else 0) (fun _ => 0)
    (fun _ => none) 50 (fun i c => if c = 0 then some (i == 1) else none) (fun c => c != 0)

end MxModel.C02
