import MxModel.Proofs.ExecStep
/-!
# A returned element of a cached cells is held, under one cache entry

No invariant is needed: `_eval_formula` stores the value under the node it was asked for
(`insert`: the old binding, if any, is replaced), and `pop` does not touch the cache.
-/
namespace MxModel.Exec

theorem filter_eq_filter_ne_nil (d : List (Node × Val)) (n : Node) :
    (d.filter (fun e => e.1 != n)).filter (fun e => e.1 == n) = [] := by
  rw [List.filter_filter, List.filter_eq_nil_iff]
  intro e _
  by_cases h : e.1 = n <;> simp [h]

theorem insert_one_entry (d : List (Node × Val)) (n : Node) (v : Val) :
    (insert d n v).filter (fun e => e.1 == n) = [(n, v)] := by
  unfold insert
  rw [List.filter_cons]
  simp only [beq_self_eq_true, if_true, filter_eq_filter_ne_nil]

theorem runN_ok_held (env : Env) (d : Nat) (n : Node) (s : St) (v : Val) (hc : env.cached n.1 = true)
    (h : (runN env d n s).1 = .ok v) :
    lookup (runN env d n s).2.data n = some v ∧
      (runN env d n s).2.data.filter (fun e => e.1 == n) = [(n, v)] := by
  cases d with
  | zero => cases h
  | succ d =>
    have hcl := runN_succ env d n s
    generalize runBody _ _ _ _ = p at hcl
    generalize runN env (d + 1) n s = q at hcl h ⊢
    cases hcl with
    | fail e s1 => cases h
    | noneRet s1 _ _ => cases h
    | stored w s1 _ _ =>
      cases h
      rw [(sameCache_pop env _ n).data]
      exact ⟨by simp [lookup_insert], insert_one_entry _ _ _⟩
    | uncached w s1 hc' => rw [hc] at hc'; cases hc'

theorem evalTop_ok_held (env : Env) (n : Node) (s : St) (v : Val) (hc : env.cached n.1 = true)
    (h : (evalTop env n s).1 = .ok v) : lookup (evalTop env n s).2.data n = some v := by
  have hs := evalTop_step env n s
  generalize evalTop env n s = q at hs h ⊢
  cases hs with
  | held w _ hl => cases h; exact hl
  | ok w s1 _ hr =>
    cases h
    have := runN_ok_held env _ n s v hc (by rw [hr])
    rw [hr] at this
    exact this.1
  | err e s1 _ _ => cases h

theorem evalTop_ok_one_entry (env : Env) (n : Node) (s : St) (v : Val) (hc : env.cached n.1 = true)
    (hl : lookup s.data n = none) (h : (evalTop env n s).1 = .ok v) :
    (evalTop env n s).2.data.filter (fun e => e.1 == n) = [(n, v)] := by
  have hs := evalTop_step env n s
  generalize evalTop env n s = q at hs h ⊢
  cases hs with
  | held w _ hl' => rw [hl] at hl'; cases hl'
  | ok w s1 _ hr =>
    cases h
    have := runN_ok_held env _ n s v hc (by rw [hr])
    rw [hr] at this
    exact this.2
  | err e s1 _ _ => cases h

end MxModel.Exec
