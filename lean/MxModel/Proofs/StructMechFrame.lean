import MxModel.Proofs.StructMechCoreOps
/-!
# Which spaces an edit of a member touches (frame lemmas for the structural mechanism)

`St.touched st p = p :: st.subs p`: the space of the edit and the sub spaces `SpaceManager` walks.
For `new_cells`, `set_cells_property` (formula) and `del_cells` / `del_ref`: the member tables
(cells AND references) of every other space are literally unchanged, and the set of spaces, the
base relation and the model-level references are unchanged (`Shape`) – hence the namespace of every
space outside `touched` is unchanged.
-/
namespace MxModel.SM

def St.touched (st : St) (p : Path) : List Path := p :: st.subs p

theorem cont_foldl_other (f : St → Path → St)
    (hf : ∀ s q' a' q, q ≠ q' → (f s q').cont a' q = s.cont a' q)
    (L : List Path) (s : St) (a' : Attr) (q : Path) (hq : q ∉ L) : (L.foldl f s).cont a' q = s.cont a' q :=
  foldl_rel (fun s s' => s'.cont a' q = s.cont a' q) (fun _ => rfl) (fun h h' => h'.trans h) f L
    (fun s x hx => hf s x a' q (fun e => hq (e ▸ hx))) s

theorem cont_updateDerived_other (st : St) (q' : Path) (a' : Attr) (q : Path) (h : q ≠ q') :
    (st.updateDerived q').cont a' q = st.cont a' q := by
  unfold St.updateDerived
  rw [cont_onInherit_other _ _ _ _ _ (fun hh => h hh.1), cont_onInherit_other _ _ _ _ _ (fun hh => h hh.1)]

structure Frame (st st' : St) (p : Path) : Prop where
  shape : Shape st st'
  cont : ∀ a q, q ∉ st.touched p → st'.cont a q = st.cont a q

theorem frame_define (st : St) (a : Attr) (p : Path) (name : String) (v : Nat) (f : St → Path → St)
    (hf : ∀ s q, DerivedSet s (f s q) a q name) (st1 : St)
    (hst1 : st.setMem a p name { derived := false, payload := v } = st1) :
    Frame st ((st1.subs p).foldl f st1) p := by
  have hs1 : Shape st st1 := hst1 ▸ shape_setMem st a p name _
  refine ⟨hs1.trans (shape_foldl f (fun s q' => (hf s q').shape) _ _), fun a' q hq => ?_⟩
  simp only [St.touched, List.mem_cons, not_or] at hq
  rw [cont_foldl_other f (fun s q' a' q hne => (hf s q').cont_other a' q hne) _ _ a' q
    (by rw [hs1.subs]; exact hq.2), ← hst1]
  rw [cont_setMem]; simp [hq.1]

theorem newCells_frame (kw : List String) (st st' : St) (p : Path) (name : String) (v : Nat)
    (h : st.newCells kw p name v = some st') : Frame st st' p := by
  obtain ⟨_, _, _, rfl⟩ := newCells_some h
  exact frame_define st .cells p name v _ (fun s q => newMemberSub_derivedSet s .cells p name v q) _ rfl

theorem setFormula_frame (st st' : St) (p : Path) (name : String) (v : Nat)
    (h : st.setFormula p name v = some st') : Frame st st' p := by
  obtain ⟨_, rfl⟩ := of_eq_ite_some (setFormula_eq st p name v) h
  exact frame_define st .cells p name v _ (fun s q => changeMemberSub_derivedSet s .cells p name v q) _ rfl

theorem delMember_frame (st st' : St) (a0 : Attr) (p : Path) (name : String)
    (h : st.delMember a0 p name = some st') : Frame st st' p := by
  obtain ⟨_, rfl⟩ := of_eq_ite_some (delMember_eq st a0 p name) h
  have hs1 := shape_delMem st a0 p name
  refine ⟨hs1.trans (shape_updateAll _ _), ?_⟩
  intro a q hq
  unfold St.updateAll
  simp only [St.touched, List.mem_cons, not_or] at hq
  rw [cont_foldl_other _ (fun s q' a' q hne => cont_updateDerived_other s q' a' q hne) _ _ a q
    (by rw [hs1.subs]; simp only [List.mem_cons, not_or]; exact hq)]
  rw [cont_delMem]; simp [hq.1]

theorem Frame.changed_mem {st st' : St} {p : Path} (h : Frame st st' p) (a : Attr) (q : Path) (n : String)
    (hne : st'.mem a q n ≠ st.mem a q n) : q ∈ st.touched p := by
  apply Classical.byContradiction
  intro hq
  exact hne (by rw [St.mem_eq, St.mem_eq, h.cont a q hq])

end MxModel.SM
