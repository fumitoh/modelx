import MxModel.Proofs.StructMechOps5
/-!
# The API calls that are compositions of the mechanism's operations

`new_space(..., refs=...)` (= `newSpace` then one `setRef` per constructor reference, all or nothing),
`new_cells` with the naming rule of `CellsImpl.__init__` (the name given / the formula's / the next
automatic one, = `newCells` under the resolved name plus the counter of the space's auto-namer), and
`delSpace` forgetting the counters of the deleted spaces.  The counters (`St.namers`) are read by
nothing but `autoCells`, so the invariant does not see them.
-/
namespace MxModel.SM

theorem inv_namers {st : St} (h : Inv st) (x : List (Path × Nat)) : Inv { st with namers := x } :=
  inv_of_spaces_eq h rfl h.disj.glob

theorem inv_setRefs (kw : List String) (p : Path) (refs : List (String × Nat)) :
    ∀ (st st' : St), Inv st → st.setRefs kw p refs = some st' → Inv st' := by
  induction refs with
  | nil =>
    intro st st' h hop
    cases hop; exact h
  | cons e rest ih =>
    intro st st' h hop
    obtain ⟨s, hs, hrest⟩ := setRefs_cons_some hop
    exact ih s st' (inv_setRef kw st s h p e.1 e.2 hs) hrest

theorem inv_newSpaceRefs (kw : List String) (st st' : St) (h : Inv st) (parent : Path) (name : String)
    (bases : List Path) (refs : List (String × Nat))
    (hop : st.newSpaceRefs kw parent name bases refs = some st') : Inv st' := by
  obtain ⟨st1, hs, hrefs⟩ := newSpaceRefs_some hop
  exact inv_setRefs kw _ refs st1 st' (inv_newSpace kw st st1 h parent name bases hs) hrefs

theorem inv_newCellsNamed (kw : List String) (st st' : St) (h : Inv st) (p : Path) (name fname : String)
    (v : Nat) (hop : st.newCellsNamed kw p name fname v = some st') : Inv st' := by
  obtain ⟨s, x, hs, rfl⟩ := newCellsNamed_some hop
  exact inv_namers (inv_newCells kw st s h p _ v hs) x

theorem inv_delSpaceOp (st st' : St) (h : Inv st) (p : Path) (hop : st.delSpaceOp p = some st') : Inv st' := by
  obtain ⟨s, x, hs, rfl⟩ := delSpaceOp_some hop
  exact inv_namers (inv_delSpace st s h p hs) x

end MxModel.SM
