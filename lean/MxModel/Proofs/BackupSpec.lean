import MxModel.Kernels.Backup
/-! The words in which the theorems of C14 are stated: what a slot holds, the order of the generations kept,
sequences of saves with and without faults. -/
namespace MxModel.Backup

def Slot.isDir : Slot → Bool
  | .good .dir _ => true
  | .part .dir _ => true
  | _ => false

def Slot.isPart : Slot → Bool
  | .part _ _ => true
  | _ => false

def Slot.isGood : Slot → Bool
  | .good _ _ => true
  | _ => false

def Slot.gen : Slot → Option Nat
  | .absent => none
  | .good _ g => some g
  | .part _ g => some g

def NoPartialZip (fs : FS) : Prop := ∀ j g, fs j ≠ .part .zip g

def Ordered (fs : FS) : Prop :=
  ∀ i j a b, i < j → (fs i).gen = some a → (fs j).gen = some b → b < a

def Below (g : Nat) (fs : FS) : Prop := ∀ i a, (fs i).gen = some a → a < g

def saveOk (maxB : Nat) (sv : Save) (fs : FS) : FS × Bool :=
  save maxB sv (plan maxB sv fs).length fs

def runOk (maxB : Nat) (fs : FS) : List Save → FS
  | [] => fs
  | sv :: rest => runOk maxB (saveOk maxB sv fs).1 rest

def copyOf (l : List Save) (j : Nat) : Slot :=
  match l[j]? with
  | some sv => Slot.good sv.kind sv.g
  | none => Slot.absent

/-- for every complete copy there is one at least as recent at the path or the first backup:
"the most recent completely written copy is at the path or at its first backup" -/
def LatestAtFront (fs : FS) : Prop :=
  ∀ j c g, fs j = .good c g → ∃ i, i ≤ 1 ∧ ∃ c' g', fs i = .good c' g' ∧ g ≤ g'

def startsWhole (maxB : Nat) (fs : FS) : List (Save × Nat) → Bool
  | [] => true
  | (sv, k) :: rest => !(fs 0).isPart && startsWhole maxB (save maxB sv k fs).1 rest

def GensIncrease : Nat → List (Save × Nat) → Prop
  | _, [] => True
  | g0, (sv, _) :: rest => g0 ≤ sv.g ∧ GensIncrease (sv.g + 1) rest

/-- no save of the sequence has its `OSError` swallowed by a truncating retry of `zipfile` -/
def noTruncation (maxB : Nat) (fs : FS) : List (Save × Nat) → Bool
  | [] => true
  | (sv, k) :: rest =>
    decide (faultKind sv.pol (plan maxB sv fs) k ≠ .truncates) && noTruncation maxB (save maxB sv k fs).1 rest

end MxModel.Backup
