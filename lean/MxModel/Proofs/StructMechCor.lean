import MxModel.Proofs.StructMechRun
/-!
# Consequences of `Inv` used by the property theorems (C03, C11, C12, C13)
-/
namespace MxModel.SM
open MxModel.C3

/-- a state reached from the empty model by any sequence of operations (rejected ones change nothing) -/
def Reachable (kw : List String) (st : St) : Prop := ∃ ops, st = St.run kw {} ops

theorem Reachable.inv {kw : List String} {st : St} (h : Reachable kw st) : Inv st := by
  obtain ⟨ops, rfl⟩ := h
  exact run_inv kw ops

theorem Reachable.step {kw : List String} {st : St} (h : Reachable kw st) (op : Op) :
    Reachable kw (st.step kw op).1 := by
  obtain ⟨ops, rfl⟩ := h
  refine ⟨ops ++ [op], ?_⟩
  unfold St.run
  rw [List.foldl_append]
  rfl

theorem Reachable.apply {kw : List String} {st st' : St} (h : Reachable kw st) (op : Op)
    (hop : st.apply kw op = some st') : Reachable kw st' := by
  have := h.step op
  unfold St.step at this
  rw [hop] at this
  exact this

/-- **the member table is the derivation from scratch**: what a space holds under a name is its own
definition if it has one, otherwise a derived copy of the first definition along the tail of its
linearisation, otherwise nothing -/
theorem Inv.mem_eq_derivation {st : St} (h : Inv st) (a : Attr) (q : Path) (n : String) :
    st.mem a q n =
      match st.defd a q n with
      | some v => some { derived := false, payload := v }
      | none => (st.firstDef a (st.tail q) n).map (fun d => { derived := true, payload := d.2 }) := by
  have hg := h.good a q n
  unfold Good1 at hg
  unfold St.defd
  cases hm : st.mem a q n with
  | none =>
    rw [hm] at hg
    simp [hg]
  | some m =>
    rw [hm] at hg
    obtain ⟨dv, pl⟩ := m
    cases dv with
    | false => simp
    | true =>
      obtain ⟨b, hb⟩ := hg rfl
      simp [hb]

theorem mem_definedNames_iff {st : St} (hk : KeysOK st) (a : Attr) (b : Path) (n : String) :
    n ∈ st.definedNames a b ↔ (st.defd a b n).isSome = true := by
  constructor
  · intro hn
    rw [definedNames_eq] at hn
    obtain ⟨⟨k, m⟩, he, hen⟩ := List.mem_filterMap.mp hn
    unfold St.defd
    cases hd : m.derived with
    | true => simp [hd] at hen
    | false =>
      simp only [hd, Bool.false_eq_true, if_false, Option.some.injEq] at hen
      subst hen
      rw [St.mem_eq, mget_of_mem _ (hk a b) k m he]
      simp [hd]
  · intro hs
    cases hd : st.defd a b n with
    | none => rw [hd] at hs; cases hs
    | some v => exact mem_definedNames st a b n v hd

inductive BaseReach (st : St) : Path → Path → Prop
  | base {q b : Path} : b ∈ st.basesOf q → BaseReach st q b
  | trans {q x b : Path} : BaseReach st q x → b ∈ st.basesOf x → BaseReach st q b

theorem WF.reach_mem_tail {st : St} (h : WF st) {q x : Path} (hr : BaseReach st q x) : x ∈ st.tail q := by
  induction hr with
  | base hb => exact h.bases_mem_tail _ _ hb
  | trans _ hb ih => exact h.tail_subset _ _ ih _ (h.bases_mem_tail _ _ hb)

theorem WF.acyclic {st : St} (h : WF st) (q : Path) : ¬ BaseReach st q q :=
  fun hr => h.not_mem_tail_self q (h.reach_mem_tail hr)

theorem ids_updateAll (s : St) (ds : List Path) : (s.updateAll ds).ids = s.ids := (shape_updateAll s ds).ids

theorem ids_delSpace (st st' : St) (p : Path) (hop : st.delSpace p = some st') (q : Path) :
    q ∈ st'.ids ↔ q ∈ st.ids ∧ isPrefix p q = false := by
  obtain ⟨_, _, rfl⟩ := delSpace_some hop
  rw [ids_updateAll, mem_ids_without, mem_removedBy]
  constructor
  · rintro ⟨h1, h2⟩
    exact ⟨h1, by simpa [h1] using h2⟩
  · rintro ⟨h1, h2⟩
    exact ⟨h1, fun h' => by rw [h2] at h'; cases h'.2⟩

theorem defd_delMember (st st' : St) (hk : KeysOK st) (a : Attr) (p : Path) (name : String)
    (hop : st.delMember a p name = some st') : st'.defd a p name = none := by
  obtain ⟨_, rfl⟩ := of_eq_ite_some (delMember_eq st a p name) hop
  rw [(rederived_updateAll _ (keysOK_delMem st hk a p name) _).defs]
  unfold St.defd
  rw [mem_delMem]
  simp

end MxModel.SM
