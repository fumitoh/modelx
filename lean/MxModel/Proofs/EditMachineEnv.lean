import MxModel.Proofs.EditMachineClear
import MxModel.Proofs.StructMechRun
/-!
# The definitions read off the structural state: identities, growth of the tables

`AllocOK t st`: every member of `st`, every slot of a model-level reference and every declared slot
has an identity.  `Tabs.grow` establishes it and only appends (`Ext`); what it appends are identities
of non-members, on which the definitions `envOf P t st` do not depend (`envOf_ext_*`, `wf_ext`,
`ci_ext`).
-/
namespace MxModel.Edit
open MxModel.Exec MxModel.C02 MxModel.SM

theorem addAll_spec (l : List (Path × String)) : ∀ tab : List (Path × String),
    ∃ l', addAll tab l = tab ++ l' ∧ (∀ e ∈ l', e ∉ tab) ∧ (∀ e ∈ l, e ∈ addAll tab l) := by
  induction l with
  | nil => intro tab; exact ⟨[], by simp [addAll], (fun _ h => nomatch h), (fun _ h => nomatch h)⟩
  | cons a l ih =>
    intro tab
    obtain ⟨l1, h1, h2, ha⟩ : ∃ l1, (if tab.contains a then tab else tab ++ [a]) = tab ++ l1 ∧ (∀ e ∈ l1, e ∉ tab) ∧
        a ∈ tab ++ l1 := by
      by_cases hc : tab.contains a = true
      · exact ⟨[], by rw [if_pos hc, List.append_nil], (fun _ h => nomatch h), by simpa using hc⟩
      · exact ⟨[a], by rw [if_neg hc], fun e he => by simpa [List.mem_singleton.mp he] using hc, by simp⟩
    obtain ⟨l2, h3, h4, h5⟩ := ih (tab ++ l1)
    have hstep : addAll tab (a :: l) = addAll (tab ++ l1) l := by rw [← h1]; rfl
    rw [hstep, h3]
    refine ⟨l1 ++ l2, List.append_assoc .., ?_, ?_⟩
    · intro e he
      rcases List.mem_append.mp he with he | he
      · exact h2 e he
      · exact fun hc => h4 e he (List.mem_append_left _ hc)
    · intro e he
      rcases List.mem_cons.mp he with rfl | he
      · exact List.mem_append_left _ ha
      · exact h3 ▸ h5 e he

structure Ext (t t' : Tabs) : Prop where
  cells : ∃ l, t'.ctab = t.ctab ++ l ∧ ∀ e ∈ l, e ∉ t.ctab
  refs : ∃ l, t'.rtab = t.rtab ++ l ∧ ∀ e ∈ l, e ∉ t.rtab
  slots : t'.slots = t.slots
  gv : t'.gv = t.gv
  spell : t'.spell = t.spell

theorem Ext.refl (t : Tabs) : Ext t t :=
  ⟨⟨[], (List.append_nil _).symm, fun _ h => nomatch h⟩, ⟨[], (List.append_nil _).symm, fun _ h => nomatch h⟩, rfl, rfl, rfl⟩

theorem ext_grow (t : Tabs) (st : SM.St) : Ext t (t.grow st) := by
  obtain ⟨l1, h1, h2, _⟩ := addAll_spec (cellMembers st) t.ctab
  obtain ⟨l2, h3, h4, _⟩ := addAll_spec (refMembers st) t.rtab
  obtain ⟨l3, h5, h6, _⟩ := addAll_spec (globalSlots st) (addAll t.rtab (refMembers st))
  refine ⟨⟨l1, h1, h2⟩, ⟨l2 ++ l3, ?_, ?_⟩, rfl, rfl, rfl⟩
  · show addAll (addAll t.rtab (refMembers st)) (globalSlots st) = _
    rw [h5, h3, List.append_assoc]
  · intro e he
    rcases List.mem_append.mp he with he | he
    · exact h4 e he
    · exact fun hc => h6 e he (by rw [h3]; exact List.mem_append_left _ hc)

theorem conts_eq_cont (st : SM.St) (a : Attr) (q : Path) : conts st a q = st.cont a q := rfl

theorem mem_conts (st : SM.St) (a : Attr) (q : Path) (n : String) : st.mem a q n = mget (conts st a q) n :=
  St.mem_eq st a q n

theorem mem_keys_of_isSome (st : SM.St) (a : Attr) (q : Path) (n : String) (h : (st.mem a q n).isSome = true) :
    n ∈ (conts st a q).map (·.1) := by
  rw [mem_conts] at h
  exact (mget_isSome_iff _ n).mp h

theorem isSome_of_mem_keys (st : SM.St) (a : Attr) (q : Path) (n : String) (h : n ∈ (conts st a q).map (·.1)) :
    (st.mem a q n).isSome = true := by
  rw [mem_conts]
  exact (mget_isSome_iff _ n).mpr h

theorem mem_ids_of_isSome (st : SM.St) (a : Attr) (q : Path) (n : String) (h : (st.mem a q n).isSome = true) :
    q ∈ st.ids := by
  apply Classical.byContradiction
  intro hq
  rw [St.mem_of_not_mem st a q n hq] at h; cases h

theorem mem_members (st : SM.St) (a : Attr) (q : Path) (n : String) (h : (st.mem a q n).isSome = true) :
    (q, n) ∈ st.spaces.flatMap (fun s => (s.get a).map (fun e => (s.id, e.1))) := by
  have hk := mem_keys_of_isSome st a q n h
  unfold conts at hk
  cases hf : st.find q with
  | none => rw [hf] at hk; cases hk
  | some s =>
    rw [hf] at hk
    obtain ⟨hs, hid⟩ := find_some_mem st q s hf
    obtain ⟨e, he, hen⟩ := List.mem_map.mp hk
    exact List.mem_flatMap.mpr ⟨s, hs, List.mem_map.mpr ⟨e, he, by rw [hid, hen]⟩⟩

theorem mem_cellMembers (st : SM.St) (q : Path) (n : String) (h : (st.mem .cells q n).isSome = true) :
    (q, n) ∈ cellMembers st := mem_members st .cells q n h

theorem mem_refMembers (st : SM.St) (q : Path) (n : String) (h : (st.mem .refs q n).isSome = true) :
    (q, n) ∈ refMembers st := mem_members st .refs q n h

structure AllocOK (t : Tabs) (st : SM.St) : Prop where
  cells : ∀ q n, (st.mem .cells q n).isSome = true → (q, n) ∈ t.ctab
  refs : ∀ q x, (st.mem .refs q x).isSome = true → (q, x) ∈ t.rtab
  /-- the slots through which a model-level reference is seen -/
  gslots : ∀ q x, q ∈ st.ids → x ∈ st.globals → (q, x) ∈ t.rtab
  slots : ∀ e ∈ t.slots, e ∈ t.rtab

theorem allocOK_grow (t : Tabs) (st : SM.St) (hs : ∀ e ∈ t.slots, e ∈ t.rtab) : AllocOK (t.grow st) st := by
  obtain ⟨_, _, _, h3⟩ := addAll_spec (cellMembers st) t.ctab
  obtain ⟨l2, h4, _, h6⟩ := addAll_spec (refMembers st) t.rtab
  obtain ⟨l3, h7, _, h9⟩ := addAll_spec (globalSlots st) (addAll t.rtab (refMembers st))
  have hsub : ∀ e, e ∈ addAll t.rtab (refMembers st) → e ∈ (t.grow st).rtab := by
    intro e he
    show e ∈ addAll (addAll t.rtab (refMembers st)) (globalSlots st)
    rw [h7]; exact List.mem_append_left _ he
  refine ⟨fun q n h => h3 _ (mem_cellMembers st q n h), fun q x h => hsub _ (h6 _ (mem_refMembers st q x h)), ?_, ?_⟩
  · intro q x hq hx
    apply h9
    simp only [globalSlots, List.mem_flatMap, List.mem_map]
    exact ⟨q, hq, x, hx, rfl⟩
  · intro e he
    apply hsub
    rw [h4]; exact List.mem_append_left _ (hs e he)

theorem allocOK_init (slots : List (Path × String)) : AllocOK (W.init slots).tabs ({} : SM.St) := by
  have hno : ∀ a q n, ¬ (({} : SM.St).mem a q n).isSome = true := by
    intro a q n h
    rw [St.mem_of_not_mem _ a q n (by simp [St.ids])] at h
    cases h
  exact ⟨fun q n h => absurd h (hno _ q n), fun q n h => absurd h (hno _ q n), fun q x hq _ => by simp [St.ids] at hq,
    fun e he => he⟩

theorem allocOK_empty : AllocOK {} ({} : SM.St) := allocOK_init []

theorem ids_of_has (st : SM.St) (q : Path) (h : st.has q = true) : q ∈ st.ids := (has_iff_mem_ids st q).mp h

theorem refPay_member {t : Tabs} {st : SM.St} {q : Path} {x : String} {m : Member} (hm : st.mem .refs q x = some m) :
    refPay t st q x = some m.payload := by
  unfold refPay; rw [hm]

theorem refPay_global {t : Tabs} {st : SM.St} {q : Path} {x : String} (hs : (refPay t st q x).isSome = true)
    (hm : st.mem .refs q x = none) :
    st.has q = true ∧ st.mem .cells q x = none ∧ st.globals.contains x = true := by
  unfold refPay at hs
  rw [hm] at hs
  simp only at hs
  split at hs
  · rename_i hc
    simp only [Bool.and_eq_true, Option.isNone_iff_eq_none] at hc
    refine ⟨hc.1, hc.2, ?_⟩
    unfold gpay at hs
    split at hs
    · assumption
    · cases hs
  · cases hs

theorem AllocOK.pay {t : Tabs} {st : SM.St} (ha : AllocOK t st) (q : Path) (x : String)
    (h : (refPay t st q x).isSome = true) : (q, x) ∈ t.rtab := by
  cases hm : st.mem .refs q x with
  | some m => exact ha.refs q x (by rw [hm]; rfl)
  | none =>
    obtain ⟨hq, _, hg⟩ := refPay_global h hm
    exact ha.gslots q x (ids_of_has st q hq) (by simpa using hg)

theorem getElem?_idxOf_of_mem {l : List (Path × String)} {e : Path × String} (h : e ∈ l) :
    l[l.idxOf e]? = some e := by
  have hlt : l.idxOf e < l.length := List.idxOf_lt_length_iff.mpr h
  rw [List.getElem?_eq_getElem hlt, List.getElem_idxOf hlt]

theorem cellOf_cid (t : Tabs) (q : Path) (n : String) (h : (q, n) ∈ t.ctab) : t.cellOf (t.cid q n) = some (q, n) :=
  getElem?_idxOf_of_mem h

theorem refOf_rid (t : Tabs) (q : Path) (x : String) (h : (q, x) ∈ t.rtab) : t.refOf (t.rid q x) = some (q, x) :=
  getElem?_idxOf_of_mem h

theorem idxOf_ext {l l' : List (Path × String)} {e : Path × String} (h : e ∈ l) :
    (l ++ l').idxOf e = l.idxOf e := by
  rw [List.idxOf_append, if_pos h]

theorem Ext.cid {t t' : Tabs} (h : Ext t t') (q : Path) (n : String) (hm : (q, n) ∈ t.ctab) :
    t'.cid q n = t.cid q n := by
  obtain ⟨l, h1, _⟩ := h.cells
  unfold Tabs.cid
  rw [h1, idxOf_ext hm]

theorem Ext.rid {t t' : Tabs} (h : Ext t t') (q : Path) (x : String) (hm : (q, x) ∈ t.rtab) :
    t'.rid q x = t.rid q x := by
  obtain ⟨l, h1, _⟩ := h.refs
  unfold Tabs.rid
  rw [h1, idxOf_ext hm]

theorem Ext.refOf {t t' : Tabs} (h : Ext t t') (r : RefId) :
    t'.refOf r = t.refOf r ∨ (t.refOf r = none ∧ ∀ e, t'.refOf r = some e → e ∉ t.rtab) := by
  obtain ⟨l, h1, h2⟩ := h.refs
  unfold Tabs.refOf
  rw [h1]
  by_cases hr : r < t.rtab.length
  · exact Or.inl (List.getElem?_append_left hr)
  · have hge : t.rtab.length ≤ r := Nat.le_of_not_lt hr
    refine Or.inr ⟨List.getElem?_eq_none hge, fun e he => h2 e ?_⟩
    rw [List.getElem?_append_right hge] at he
    exact List.mem_of_getElem? he

/-! the fields of `envOf`, to rewrite with: `simp only [envOf]` unfolds all eight at every use and is slow to check -/
section fields
variable (P : Params) (t : Tabs) (st : SM.St)

theorem envOf_formula (n : Node) : (envOf P t st).formula n =
    match cellInfo t st n.1 with
    | some (q, _, m) => resolve (nsAt t st q) (P.srcOf m.payload n.2)
    | none => .raise errDead := rfl

theorem envOf_cached (c : CellId) : (envOf P t st).cached c =
    match cellInfo t st c with
    | some (_, _, m) => P.flagOf m.payload
    | none => false := rfl

theorem envOf_allowNone (c : CellId) : (envOf P t st).allowNone c =
    match cellInfo t st c with
    | some (_, _, m) => P.anOf m.payload
    | none => false := rfl

theorem envOf_alive (c : CellId) : (envOf P t st).alive c = (cellInfo t st c).isSome := rfl

theorem envOf_refs (r : RefId) : (envOf P t st).refs r =
    match t.refOf r with
    | some (q, x) => if t.rid q x == r then (refPay t st q x).map P.valOf else none
    | none => none := rfl

theorem envOf_observers (r : RefId) : (envOf P t st).observers r =
    match t.refOf r with
    | some (q, _) => cellsOf t st q
    | none => [] := rfl

theorem envOf_siblings (c : CellId) : (envOf P t st).siblings c =
    match t.cellOf c with
    | some (q, _) => cellsOf t st q
    | none => [] := rfl

end fields

theorem cellInfo_eq_some {t : Tabs} {st : SM.St} {c : CellId} {q : Path} {x : String} {m : Member} :
    cellInfo t st c = some (q, x, m) ↔ t.cellOf c = some (q, x) ∧ t.cid q x = c ∧ st.mem .cells q x = some m := by
  unfold cellInfo
  cases hd : t.cellOf c with
  | none => exact ⟨fun h => (nomatch h), fun h => (nomatch h.1)⟩
  | some e =>
    obtain ⟨q', x'⟩ := e
    by_cases hb : t.cid q' x' = c
    · simp only [hb, beq_self_eq_true, if_true, Option.map_eq_some_iff, Prod.mk.injEq, Option.some.injEq]
      constructor
      · rintro ⟨m', hm', rfl, rfl, rfl⟩; exact ⟨⟨rfl, rfl⟩, hb, hm'⟩
      · rintro ⟨⟨rfl, rfl⟩, _, hm'⟩; exact ⟨m, hm', rfl, rfl, rfl⟩
    · have hb' : (t.cid q' x' == c) = false := by simpa using hb
      simp only [hb', Bool.false_eq_true, if_false, Option.some.injEq, Prod.mk.injEq]
      exact ⟨fun h => (nomatch h), fun ⟨⟨h1, h2⟩, h3, _⟩ => absurd (h1 ▸ h2 ▸ h3) hb⟩

theorem qualOf_none_of_no_slots (t : Tabs) (h : t.slots = []) (q : Path) (x : String) : qualOf t q x = none := by
  simp [qualOf, h]

theorem nsPlain_ref {t : Tabs} {st : SM.St} {q : Path} {y : String} {r : RefId} (h : nsPlain t st q y = some (.ref r)) :
    r = t.rid q y ∧ (st.globals.contains y = true ∨ (st.mem .refs q y).isSome = true) := by
  unfold nsPlain at h
  by_cases hc : (st.mem .cells q y).isSome = true
  · rw [if_pos hc] at h; cases h
  rw [if_neg hc] at h
  by_cases hg : st.globals.contains y = true
  · rw [if_pos hg] at h; cases h; exact ⟨rfl, Or.inl hg⟩
  rw [if_neg hg] at h
  by_cases hch : (st.childNames q).contains y = true
  · rw [if_pos hch] at h; cases h
  rw [if_neg hch] at h
  by_cases hr : (st.mem .refs q y).isSome = true
  · rw [if_pos hr] at h; cases h; exact ⟨rfl, Or.inr hr⟩
  · rw [if_neg hr] at h; cases h

/-! ## the definitions do not depend on identities of non-members -/

theorem nsPlain_ext {t t' : Tabs} (h : Ext t t') {st : SM.St} (ha : AllocOK t st) (q : Path) (hq : q ∈ st.ids) :
    nsPlain t' st q = nsPlain t st q := by
  funext x
  unfold nsPlain
  by_cases hc : (st.mem .cells q x).isSome = true
  · simp only [hc, if_true, h.cid q x (ha.cells q x hc)]
  · simp only [hc, Bool.false_eq_true, if_false]
    by_cases hg : st.globals.contains x = true
    · simp only [hg, if_true]
      rw [h.rid q x (ha.gslots q x hq (by simpa using hg))]
    · simp only [hg, Bool.false_eq_true, if_false]
      by_cases hch : (st.childNames q).contains x = true
      · simp only [hch, if_true]
      · simp only [hch, Bool.false_eq_true, if_false]
        by_cases hr : (st.mem .refs q x).isSome = true
        · simp only [hr, if_true, h.rid q x (ha.refs q x hr)]
        · simp only [hr, Bool.false_eq_true, if_false]

theorem qualOf_ext {t t' : Tabs} (h : Ext t t') (q : Path) (x : String) : qualOf t' q x = qualOf t q x := by
  unfold qualOf; rw [h.slots, h.spell]

theorem slotBinding_ext {t t' : Tabs} (h : Ext t t') {st : SM.St} (ha : AllocOK t st) (e : Path × String)
    (he : e ∈ t.slots) : slotBinding t' e = slotBinding t e := by
  unfold slotBinding
  rw [h.rid e.1 e.2 (ha.slots e he)]

theorem nsAt_ext {t t' : Tabs} (h : Ext t t') {st : SM.St} (ha : AllocOK t st) (q : Path) (hq : q ∈ st.ids) :
    nsAt t' st q = nsAt t st q := by
  funext x
  unfold nsAt
  rw [qualOf_ext h]
  cases hx : qualOf t q x with
  | some e => exact slotBinding_ext h ha e (List.mem_of_find?_eq_some hx)
  | none => simp only [nsPlain_ext h ha q hq]

theorem refPay_ext {t t' : Tabs} (h : Ext t t') (st : SM.St) (q : Path) (x : String) :
    refPay t' st q x = refPay t st q x := by
  unfold refPay gpay
  rw [h.gv]

theorem cellInfo_ext {t t' : Tabs} (h : Ext t t') {st : SM.St} (ha : AllocOK t st) (c : CellId) :
    cellInfo t' st c = cellInfo t st c := by
  -- an identity that stands for a member is the member's identity in both tables, and decodes to it in both
  have key : ∀ (q : Path) (x : String) (m : Member), st.mem .cells q x = some m → ∀ t2 : Tabs, (q, x) ∈ t2.ctab →
      (cellInfo t2 st c = some (q, x, m) ↔ t2.cid q x = c) :=
    fun q x m hm t2 hmem => cellInfo_eq_some.trans
      ⟨fun h => h.2.1, fun h => ⟨h ▸ cellOf_cid t2 q x hmem, h, hm⟩⟩
  obtain ⟨l, hl, _⟩ := h.cells
  refine Option.ext (fun ⟨q, x, m⟩ => ?_)
  by_cases hm : st.mem .cells q x = some m
  · have hmem := ha.cells q x (by rw [hm]; rfl)
    rw [key q x m hm t' (hl ▸ List.mem_append_left _ hmem), key q x m hm t hmem, h.cid q x hmem]
  · exact ⟨fun h => absurd (cellInfo_eq_some.mp h).2.2 hm, fun h => absurd (cellInfo_eq_some.mp h).2.2 hm⟩

theorem cellsOf_ext {t t' : Tabs} (h : Ext t t') {st : SM.St} (ha : AllocOK t st) (q : Path) :
    cellsOf t' st q = cellsOf t st q := by
  unfold cellsOf
  apply List.map_congr_left
  intro e he
  apply h.cid
  apply ha.cells
  exact isSome_of_mem_keys st .cells q e.1 (List.mem_map_of_mem he)

theorem refsOf_ext {t t' : Tabs} (h : Ext t t') {st : SM.St} (ha : AllocOK t st) (q : Path) :
    refsOf t' st q = refsOf t st q := by
  unfold refsOf
  apply List.map_congr_left
  intro e he
  apply h.rid
  apply ha.refs
  exact isSome_of_mem_keys st .refs q e.1 (List.mem_map_of_mem he)

theorem envOf_ext_formula (P : Params) {t t' : Tabs} (h : Ext t t') {st : SM.St} (ha : AllocOK t st) :
    (envOf P t' st).formula = (envOf P t st).formula := by
  funext n
  simp only [envOf_formula, cellInfo_ext h ha]
  cases hi : cellInfo t st n.1 with
  | none => rfl
  | some i =>
    obtain ⟨q, x, m⟩ := i
    simp only
    rw [nsAt_ext h ha q (mem_ids_of_isSome st .cells q x (by rw [(cellInfo_eq_some.mp hi).2.2]; rfl))]

theorem envOf_ext_refs (P : Params) {t t' : Tabs} (h : Ext t t') {st : SM.St} (ha : AllocOK t st) :
    (envOf P t' st).refs = (envOf P t st).refs := by
  funext r
  simp only [envOf_refs]
  rcases h.refOf r with he | ⟨hn, he⟩
  · rw [he]
    cases hr : t.refOf r with
    | none => rfl
    | some e =>
      obtain ⟨q, x⟩ := e
      simp only
      rw [h.rid q x (List.mem_of_getElem? hr), refPay_ext h]
  · rw [hn]
    cases hc : t'.refOf r with
    | none => rfl
    | some e =>
      obtain ⟨q, x⟩ := e
      have : refPay t st q x = none := Option.not_isSome_iff_eq_none.mp (fun hs => he _ hc (ha.pay q x hs))
      simp [refPay_ext h, this]

theorem envOf_ext_observers (P : Params) {t t' : Tabs} (h : Ext t t') {st : SM.St} (ha : AllocOK t st)
    (r : RefId) (c : CellId) (hc : c ∈ (envOf P t st).observers r) : c ∈ (envOf P t' st).observers r := by
  simp only [envOf_observers] at hc ⊢
  rcases h.refOf r with he | ⟨hn, _⟩
  · rw [he]
    cases hr : t.refOf r with
    | none => rw [hr] at hc; cases hc
    | some e =>
      obtain ⟨q, x⟩ := e
      rw [hr] at hc
      simp only at hc ⊢
      rw [cellsOf_ext h ha]; exact hc
  · rw [hn] at hc; cases hc

theorem nameReadsIn_mono {R R' : RefId → Prop} (hsub : ∀ r, R r → R' r) :
    ∀ p : Prog, NameReadsIn R p → NameReadsIn R' p := by
  intro p
  induction p with
  | ret v => intro h; exact h
  | raise e => intro h; exact h
  | reraise e => intro h; exact h
  | read a r k ih => intro h; exact ⟨fun ha => hsub r (h.1 ha), fun x => ih x (h.2 x)⟩
  | call n k ih => intro h; exact fun r => ih r (h r)

theorem wf_ext (P : Params) {t t' : Tabs} (h : Ext t t') {st : SM.St} (ha : AllocOK t st)
    {lt : Node → Node → Prop} (hw : WF (envOf P t st) lt) : WF (envOf P t' st) lt := by
  refine ⟨?_, ?_, ?_⟩
  · intro n; rw [envOf_ext_formula P h ha]; exact hw.ranked n
  · intro n; rw [envOf_ext_formula P h ha]; exact hw.noCatch n
  · intro n
    rw [envOf_ext_formula P h ha]
    exact nameReadsIn_mono (fun r hr => envOf_ext_observers P h ha r n.1 hr) _ (hw.scoping n)

theorem ci_ext (P : Params) {t t' : Tabs} (h : Ext t t') {st : SM.St} (ha : AllocOK t st)
    {lt : Node → Node → Prop} (hw : WF (envOf P t st) lt) {s : Exec.St} (hci : CI (envOf P t st) lt s) :
    CI (envOf P t' st) lt s :=
  ci_congr hci hw.scoping hw.noCatch
    ⟨fun n _ => by rw [envOf_ext_formula P h ha], fun c _ => by rw [envOf_cached, envOf_cached, cellInfo_ext h ha],
     fun c _ => by rw [envOf_allowNone, envOf_allowNone, cellInfo_ext h ha],
     fun c _ => by rw [envOf_alive, envOf_alive, cellInfo_ext h ha], fun r _ => by rw [envOf_ext_refs P h ha]⟩

end MxModel.Edit
