import MxModel.Proofs.ExecCertClear
/-!
# Removing a successor-closed set preserves the certificates (K1/K2)

`cinv_clr`: let the clearing of an edit take `s` to `s'` (`Clr`), and let the edit change the
environment from `env` to `env'`.  If no certificate of a surviving element mentions anything
the edit changed (**K1** – stated per surviving element, to be discharged from what the
clearing is known to remove), then every surviving element keeps its certificate w.r.t. the
new environment.  **K2** (a removed callee takes its callers with it) is the closure of the
removed set under graph successors, which `Clr` carries.
-/
namespace MxModel.Exec

/-- what one recorded event needs of the change `env ↦ env'` -/
def Stable (env env' : Env) : FEv → Prop
  | .read _ _ r _ => env'.refs r = env.refs r
  | .call m _ => env'.cached m.1 = env.cached m.1
  | .ucall m => env'.cached m.1 = env.cached m.1 ∧ env'.formula m = env.formula m

theorem replay_congr (env env' : Env) : ∀ (tr : Tr) (c : CellId) (p : Prog) (v : Val),
    Replay env tr p v → (∀ ev ∈ flat c tr, Stable env env' ev) → Replay env' tr p v := by
  intro tr
  induction tr with
  | nil => intro c p v h _; exact h
  | read a r x t ih =>
    intro c p v h hs
    obtain ⟨k, rfl, hr⟩ := replay_read.mp h
    exact replay_read.mpr ⟨k, rfl, ih c _ v hr (fun ev hm => hs ev (by simp [flat, hm]))⟩
  | call m w t ih =>
    intro c p v h hs
    obtain ⟨k, rfl, hc, hr⟩ := replay_call.mp h
    have hst : env'.cached m.1 = env.cached m.1 := hs (.call m w) (by simp [flat])
    exact replay_call.mpr ⟨k, rfl, hst.trans hc, ih c _ v hr (fun ev hm => hs ev (by simp [flat, hm]))⟩
  | ucall m w sub t ihs iht =>
    intro c p v h hs
    obtain ⟨k, rfl, hc, hrs, hrt⟩ := replay_ucall.mp h
    have hst : env'.cached m.1 = env.cached m.1 ∧ env'.formula m = env.formula m :=
      hs (.ucall m) (by simp [flat])
    refine replay_ucall.mpr ⟨k, rfl, hst.1.trans hc, ?_, iht c _ v hrt (fun ev hm => hs ev (by simp [flat, hm]))⟩
    rw [hst.2]
    exact ihs m.1 _ w hrs (fun ev hm => hs ev (by simp [flat, hm]))

theorem cinv_clr {env env' : Env} {s s' : St} {R : List GNode} {D : RefId × Node → Prop}
    (hc : Clr s R D s') (hinv : CInv env s)
    (K1 : ∀ n v tr, lookup s.data n = some v → n ∉ s.inputs → GNode.elem n ∉ R → Cert env s n v tr →
      env'.formula n = env.formula n ∧ env'.allowNone n.1 = env.allowNone n.1 ∧
      (∀ ev ∈ flat n.1 tr, Stable env env' ev) ∧
      (∀ c r x, FEv.read c true r x ∈ flat n.1 tr → ¬ D (r, n))) :
    CInv env' s' := by
  intro n v hl hin
  rw [hc.lookup] at hl
  split at hl
  · cases hl
  · rename_i hnR
    have hin0 : n ∉ s.inputs := fun h => hin ((hc.mem_inputs n).mpr ⟨h, hnR⟩)
    obtain ⟨tr, hcert⟩ := hinv n v hl hin0
    obtain ⟨hform, hnone, hstable, hD⟩ := K1 n v tr hl hin0 hnR hcert
    refine ⟨tr, ?_, ?_, ?_, fun a ha => hcert.just a ((hc.mem_ge _).mp ha).1⟩
    · rw [hform]; exact replay_congr env env' tr n.1 _ v hcert.replay hstable
    · intro hv; rw [hnone]; exact hcert.noneOK hv
    · intro ev hm
      have hok := hcert.events ev hm
      have hst := hstable ev hm
      cases ev with
      | read c a r x =>
        refine ⟨by rw [show env'.refs r = env.refs r from hst]; exact hok.1, ?_⟩
        intro ha hx
        subst ha
        exact hc.rgKeep (r, n) (hok.2 rfl hx) hnR (hD c r x hm)
      | call m w =>
        obtain ⟨hlm, hrk, hedge⟩ := hok
        have hmR : GNode.elem m ∉ R := fun h => hnR (hc.closed _ _ hedge h)
        have hmn : m ≠ n := by intro h; subst h; omega
        refine ⟨by rw [hc.lookup, if_neg hmR]; exact hlm, ?_, (hc.mem_ge _).mpr ⟨hedge, hmR, hnR⟩⟩
        rw [hc.data]
        exact rank_filter_lt (keepB R) s.data m n (by simpa [keepB] using hnR) hmn hrk
      | ucall m =>
        have hoR : GNode.obj m.1 ∉ R := fun h => hnR (hc.closed _ _ hok h)
        exact (hc.mem_ge _).mpr ⟨hok, hoR, hnR⟩

theorem GI.nodeHeld {env : Env} {lt : Node → Node → Prop} {s : St} (g : GI env lt s) (hst : s.stack = [])
    {m : Node} (hgn : GNode.elem m ∈ s.gn) : (lookup s.data m).isSome = true :=
  (g.nodesHeld m hgn).elim id (fun h => by rw [hst] at h; cases h)

theorem GI.of_clr {env env' : Env} {lt : Node → Node → Prop} {s s' : St} {R : List GNode}
    {D : RefId × Node → Prop} (g : GI env lt s) (hst : s.stack = []) (hc : Clr s R D s')
    (hflags : ∀ m, GNode.elem m ∈ s'.gn → env'.cached m.1 = env.cached m.1) : GI env' lt s' := by
  have hstack : s'.stack = [] := hc.stack.trans hst
  constructor
  · intro m hm
    obtain ⟨h1, h2⟩ := (hc.mem_gn _).mp hm
    left
    rw [hc.lookup, if_neg h2]
    exact g.nodeHeld hst h1
  · intro m hm
    rw [hc.lookup] at hm
    split at hm
    · cases hm
    · rename_i hnot
      have hin := (hc.mem_gn _).mpr ⟨(g.heldNodes m hm).1, hnot⟩
      exact ⟨hin, by rw [hflags m hin]; exact (g.heldNodes m hm).2⟩
  · intro m hm; rw [hstack] at hm; cases hm
  · intro a b hab; exact g.edgesOrd a b ((hc.mem_ge _).mp hab).1
  · intro a b hab
    obtain ⟨h1, h2, h3⟩ := (hc.mem_ge _).mp hab
    exact ⟨(hc.mem_gn _).mpr ⟨(g.edgeNodes a b h1).1, h2⟩, (hc.mem_gn _).mpr ⟨(g.edgeNodes a b h1).2, h3⟩⟩
  · intro m hm
    obtain ⟨h1, h2⟩ := (hc.mem_inputs m).mp hm
    rw [hc.lookup, if_neg h2]; exact g.inputsHeld m h1
  · intro a m ham hin
    exact g.inputsNoPreds a m ((hc.mem_ge _).mp ham).1 ((hc.mem_inputs m).mp hin).1
  · intro m hm
    rw [hflags m hm]; exact g.elemCached m ((hc.mem_gn _).mp hm).1

theorem GI.edgeOK {env : Env} {lt : Node → Node → Prop} {s : St} (g : GI env lt s) : EdgeOK s :=
  fun x y h => g.edgeNodes x y h

/-! ### facts about traces used to discharge K1 -/

theorem flat_read_frame : ∀ (tr : Tr) (c c' : CellId) (a : Bool) (r : RefId) (x : Option Val),
    FEv.read c' a r x ∈ flat c tr → c' = c ∨ ∃ m, FEv.ucall m ∈ flat c tr ∧ m.1 = c' := by
  intro tr
  induction tr with
  | nil => intro c c' a r x h; simp [flat] at h
  | read a0 r0 x0 t ih =>
    intro c c' a r x h
    simp only [flat, List.mem_cons, FEv.read.injEq] at h
    rcases h with h | h
    · exact Or.inl h.1
    · rcases ih c c' a r x h with h' | ⟨m, hm, hc⟩
      · exact Or.inl h'
      · exact Or.inr ⟨m, by simp [flat, hm], hc⟩
  | call m0 w0 t ih =>
    intro c c' a r x h
    simp only [flat, List.mem_cons, reduceCtorEq, false_or] at h
    rcases ih c c' a r x h with h' | ⟨m, hm, hc⟩
    · exact Or.inl h'
    · exact Or.inr ⟨m, by simp [flat, hm], hc⟩
  | ucall m0 w0 sub t ihs iht =>
    intro c c' a r x h
    simp only [flat, List.mem_cons, reduceCtorEq, false_or, List.mem_append] at h
    rcases h with h | h
    · rcases ihs m0.1 c' a r x h with h' | ⟨m, hm, hc⟩
      · exact Or.inr ⟨m0, by simp [flat], h'.symm⟩
      · exact Or.inr ⟨m, by simp [flat, hm], hc⟩
    · rcases iht c c' a r x h with h' | ⟨m, hm, hc⟩
      · exact Or.inl h'
      · exact Or.inr ⟨m, by simp [flat, hm], hc⟩

theorem replay_ucall_uncached (env : Env) : ∀ (tr : Tr) (c : CellId) (p : Prog) (v : Val),
    Replay env tr p v → ∀ m, FEv.ucall m ∈ flat c tr → env.cached m.1 = false := by
  intro tr
  induction tr with
  | nil => intro c p v _ m hm; simp [flat] at hm
  | read a r x t ih =>
    intro c p v h m hm
    obtain ⟨k, rfl, hr⟩ := replay_read.mp h
    simp only [flat, List.mem_cons, reduceCtorEq, false_or] at hm
    exact ih c _ v hr m hm
  | call m0 w t ih =>
    intro c p v h m hm
    obtain ⟨k, rfl, _, hr⟩ := replay_call.mp h
    simp only [flat, List.mem_cons, reduceCtorEq, false_or] at hm
    exact ih c _ v hr m hm
  | ucall m0 w sub t ihs iht =>
    intro c p v h m hm
    obtain ⟨k, rfl, hunc, hrs, hrt⟩ := replay_ucall.mp h
    simp only [flat, List.mem_cons, FEv.ucall.injEq, List.mem_append] at hm
    rcases hm with rfl | hm | hm
    · exact hunc
    · exact ihs m0.1 _ w hrs m hm
    · exact iht c _ v hrt m hm

theorem replay_not_fails (env : Env) : ∀ (tr : Tr) (p : Prog) (v : Val), Replay env tr p v → Fails p → False := by
  intro tr
  induction tr with
  | nil => intro p v h hf; simp only [Replay] at h; subst h; exact hf
  | read a r x t ih =>
    intro p v h hf
    obtain ⟨k, rfl, hr⟩ := replay_read.mp h
    exact ih _ v hr (hf x)
  | call m w t ih =>
    intro p v h hf
    obtain ⟨k, rfl, _, hr⟩ := replay_call.mp h
    exact ih _ v hr (hf _)
  | ucall m w sub t _ iht =>
    intro p v h hf
    obtain ⟨k, rfl, _, _, hrt⟩ := replay_ucall.mp h
    exact iht _ v hrt (hf _)

/-- recorded uncached callees are uncached; by-name reads obey static scoping; no attribute
path to a missing reference is recorded in a trace that ends in a value -/
theorem replay_facts (env : Env) (hsc : Scoped env) (hnc : NoCatchEnv env) :
    ∀ (tr : Tr) (c : CellId) (p : Prog) (v : Val), Replay env tr p v →
      NameReadsIn (fun r => c ∈ env.observers r) p → NoCatch p →
      (∀ m, FEv.ucall m ∈ flat c tr → env.cached m.1 = false) ∧
      (∀ c' r x, FEv.read c' false r x ∈ flat c tr → c' ∈ env.observers r) ∧
      (∀ c' r, FEv.read c' true r none ∉ flat c tr) := by
  intro tr c p v h hs hn
  refine ⟨replay_ucall_uncached env tr c p v h, ?_⟩
  induction tr generalizing c p v with
  | nil => simp [flat]
  | read a r x t ih =>
    obtain ⟨k, rfl, hr⟩ := replay_read.mp h
    simp only [NameReadsIn, NoCatch] at hs hn
    obtain ⟨i2, i3⟩ := ih c _ v hr (hs.2 x) (hn.2 x)
    refine ⟨?_, ?_⟩
    · intro c' r' x' hm
      simp only [flat, List.mem_cons, FEv.read.injEq] at hm
      rcases hm with ⟨rfl, ha, rfl, _⟩ | hm
      · exact hs.1 ha.symm
      · exact i2 c' r' x' hm
    · intro c' r' hm
      simp only [flat, List.mem_cons, FEv.read.injEq] at hm
      rcases hm with ⟨_, ha, _, hx⟩ | hm
      · subst hx
        exact replay_not_fails env t _ v hr (hn.1 ha.symm)
      · exact i3 c' r' hm
  | call m w t ih =>
    obtain ⟨k, rfl, _, hr⟩ := replay_call.mp h
    simp only [NameReadsIn, NoCatch] at hs hn
    obtain ⟨i2, i3⟩ := ih c _ v hr (hs _) (hn.2 _)
    refine ⟨?_, ?_⟩
    · intro c' r x' hm; simp only [flat, List.mem_cons, reduceCtorEq, false_or] at hm; exact i2 c' r x' hm
    · intro c' r hm; simp only [flat, List.mem_cons, reduceCtorEq, false_or] at hm; exact i3 c' r hm
  | ucall m w sub t ihs iht =>
    obtain ⟨k, rfl, _, hrs, hrt⟩ := replay_ucall.mp h
    simp only [NameReadsIn, NoCatch] at hs hn
    obtain ⟨s2, s3⟩ := ihs m.1 _ w hrs (hsc m) (hnc m)
    obtain ⟨i2, i3⟩ := iht c _ v hrt (hs _) (hn.2 _)
    refine ⟨?_, ?_⟩
    · intro c' r x' hm
      simp only [flat, List.mem_cons, reduceCtorEq, false_or, List.mem_append] at hm
      rcases hm with hm | hm
      · exact s2 c' r x' hm
      · exact i2 c' r x' hm
    · intro c' r hm
      simp only [flat, List.mem_cons, reduceCtorEq, false_or, List.mem_append] at hm
      rcases hm with hm | hm
      · exact s3 c' r hm
      · exact i3 c' r hm

end MxModel.Exec
