import MxModel.Proofs.ExecInputsRun
/-!
# Two runs of one history that differ in the initial flag assignment

The definitions the two runs reach differ at most in the flags (`envStep_flags`); the regime `WF`
does not mention the flags, so admissibility carries over; and a history without assignments leaves
no inputs in either run.
-/
namespace MxModel.C09
open MxModel.Exec

def withFlags (env : Env) (c : CellId → Bool) : Env := { env with cached := c }

end MxModel.C09

namespace MxModel.C02
open MxModel.Exec MxModel.C09

theorem envStep_flags (e1 : Env) (c2 : CellId → Bool) (op : Op) :
    withFlags (envStep e1 op) (envStep (withFlags e1 c2) op).cached = envStep (withFlags e1 c2) op := by
  cases op with
  | delRef r =>
    show withFlags (if (e1.refs r).isSome then _ else _ : Env)
      (if (e1.refs r).isSome then _ else _ : Env).cached = (if (e1.refs r).isSome then _ else _)
    split <;> rfl
  | setFormula c f =>
    show withFlags (if e1.alive c then _ else _ : Env)
      (if e1.alive c then _ else _ : Env).cached = (if e1.alive c then _ else _)
    split <;> rfl
  | setCached c b =>
    show withFlags (if (e1.cached c = b || !e1.alive c) = true then _ else _ : Env)
      (if (c2 c = b || !e1.alive c) = true then _ else _ : Env).cached =
      (if (c2 c = b || !e1.alive c) = true then _ else _)
    split <;> split <;> rfl
  | delCell c =>
    show withFlags (if e1.alive c then _ else _ : Env)
      (if e1.alive c then _ else _ : Env).cached = (if e1.alive c then _ else _)
    split <;> rfl
  | newCell c f b an =>
    show withFlags (if e1.alive c then _ else _ : Env)
      (if e1.alive c then _ else _ : Env).cached = (if e1.alive c then _ else _)
    split <;> rfl
  | _ => rfl

theorem foldl_envStep_flags (ops : List Op) : ∀ (e1 : Env) (c2 : CellId → Bool),
    withFlags (ops.foldl envStep e1) (ops.foldl envStep (withFlags e1 c2)).cached =
      ops.foldl envStep (withFlags e1 c2) := by
  induction ops with
  | nil => intro e1 c2; rfl
  | cons op rest ih =>
    intro e1 c2
    simp only [List.foldl]
    rw [← envStep_flags e1 c2 op]
    exact ih _ _

theorem wf_withFlags {env : Env} {lt : Node → Node → Prop} (h : WF env lt) (c : CellId → Bool) :
    WF (withFlags env c) lt := ⟨h.ranked, h.noCatch, h.scoping⟩

theorem admissible_flags (lt : Node → Node → Prop) (ops : List Op) : ∀ (e1 : Env) (c2 : CellId → Bool) (s s' : St),
    Admissible lt (e1, s) ops → Admissible lt (withFlags e1 c2, s') ops := by
  induction ops with
  | nil => intro _ _ _ _ _; trivial
  | cons op rest ih =>
    intro e1 c2 s s' h
    have a1 : step (e1, s) op = (envStep e1 op, (step (e1, s) op).2) := by rw [← step_env]
    have a2 : step (withFlags e1 c2, s') op = (envStep (withFlags e1 c2) op, (step (withFlags e1 c2, s') op).2) := by
      rw [← step_env]
    simp only [Admissible] at h ⊢
    rw [a1] at h; rw [a2, ← envStep_flags e1 c2 op]
    exact ⟨wf_withFlags h.1 _, ih _ _ _ _ h.2⟩

def isAssign : Op → Bool
  | .setValue _ _ => true
  | _ => false

/-- every operation other than an assignment returns the input map or blanks part of it -/
theorem inpStep_none (env : Env) (op : Op) (h : isAssign op = false) :
    inpStep env (fun _ => none) op = fun _ => none := by
  cases op with
  | setValue _ _ => cases h
  | eval _ | clear _ | setRef _ _ | delRef _ | newCell _ _ _ _ | maxdepth _ | admin _ => rfl
  | clearAt _ | clearAll _ | setFormula _ _ | setCached _ _ | delCell _ =>
    unfold inpStep; simp only [ite_self]

theorem inpRun_none (ops : List Op) (hna : ∀ op ∈ ops, isAssign op = false) : ∀ env : Env,
    inpRun env (fun _ => none) ops = fun _ => none := by
  induction ops with
  | nil => intro _; rfl
  | cons op rest ih =>
    intro env
    simp only [inpRun]
    rw [inpStep_none env op (hna op (List.mem_cons_self ..))]
    exact ih (fun op' h' => hna op' (List.mem_cons_of_mem _ h')) _

end MxModel.C02
