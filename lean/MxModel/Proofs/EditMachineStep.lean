import MxModel.Proofs.EditMachineEnv
/-!
# A covered structural step keeps the certificate invariant

`redef_envOf`: between `envOf P t st` and `envOf P t2 st'` (`t2` with the identities of `t`) the only
definitions that can differ are those of the cells whose member entry differs or whose space's namespace
differs (`ChC`), and the values of the references whose slot denotes something else (`ChR`).
`struct_ci_of_tables`: a clearing that has made all of them `Clean` / reader-free lets `redefine_ci` apply;
`struct_ci` is the case `t2 = t` with `CoversG` – the clauses of the Boolean check `covered` as
propositions – as premise, `global_ci` (`EditMachineGlobals`) the case of a changed model-level
reference.
-/
namespace MxModel.Edit
open MxModel.Exec MxModel.C02 MxModel.SM

def ChC (t t2 : Tabs) (st st' : SM.St) (c : CellId) : Prop :=
  ∃ q x, t.cellOf c = some (q, x) ∧
    (st'.mem .cells q x ≠ st.mem .cells q x ∨
      ((st.mem .cells q x).isSome = true ∧ nsAt t2 st' q ≠ nsAt t st q))

def ChR (t t2 : Tabs) (st st' : SM.St) (r : RefId) : Prop :=
  ∃ q x, t.refOf r = some (q, x) ∧ t.rid q x = r ∧ refPay t2 st' q x ≠ refPay t st q x

theorem cellInfo_of_ctab {t t2 : Tabs} (hct : t2.ctab = t.ctab) (st : SM.St) (c : CellId) :
    cellInfo t2 st c = cellInfo t st c := by
  unfold cellInfo Tabs.cellOf Tabs.cid; rw [hct]

theorem redef_envOf (P : Params) {t t2 : Tabs} (hct : t2.ctab = t.ctab) (hrt : t2.rtab = t.rtab) (st st' : SM.St) :
    Redef (envOf P t st) (envOf P t2 st') (ChC t t2 st st') (ChR t t2 st st') := by
  have key : ∀ c, ¬ ChC t t2 st st' c →
      cellInfo t2 st' c = cellInfo t st c ∧
      (∀ q x m, cellInfo t st c = some (q, x, m) → nsAt t2 st' q = nsAt t st q) := by
    intro c hc
    rw [cellInfo_of_ctab hct]
    refine ⟨Option.ext (fun ⟨q, x, m⟩ => ?_), fun q x m h => ?_⟩
    · rw [cellInfo_eq_some, cellInfo_eq_some]
      exact and_congr_right (fun hd => by rw [Classical.not_not.mp (fun hne => hc ⟨q, x, hd, Or.inl hne⟩)])
    · obtain ⟨hd, _, hm⟩ := cellInfo_eq_some.mp h
      exact Classical.not_not.mp (fun hne => hc ⟨q, x, hd, Or.inr ⟨by rw [hm]; rfl, hne⟩⟩)
  refine ⟨?_, ?_, ?_, ?_, ?_⟩
  · intro n hn
    obtain ⟨h1, h2⟩ := key n.1 hn
    simp only [envOf_formula, h1]
    cases hi : cellInfo t st n.1 with
    | none => rfl
    | some i =>
      obtain ⟨q, x, m⟩ := i
      simp only [h2 q x m hi]
  · intro c hc
    rw [envOf_cached, envOf_cached, (key c hc).1]
  · intro c hc
    rw [envOf_allowNone, envOf_allowNone, (key c hc).1]
  · intro c hc
    rw [envOf_alive, envOf_alive, (key c hc).1]
  · intro r hr
    have hro : t2.refOf r = t.refOf r := by unfold Tabs.refOf; rw [hrt]
    have hri : ∀ q y, t2.rid q y = t.rid q y := fun q y => by unfold Tabs.rid; rw [hrt]
    simp only [envOf_refs, hro, hri]
    cases hd : t.refOf r with
    | none => rfl
    | some e =>
      obtain ⟨q, x⟩ := e
      simp only
      by_cases hrid : t.rid q x = r
      · rw [Classical.not_not.mp (fun hne => hr ⟨q, x, hd, hrid, hne⟩)]
      · rw [if_neg (by simpa using hrid), if_neg (by simpa using hrid)]

theorem alive_iff (P : Params) (t : Tabs) (st : SM.St) (c : CellId) :
    (envOf P t st).alive c = true ↔
      ∃ q x m, t.cellOf c = some (q, x) ∧ st.mem .cells q x = some m ∧ t.cid q x = c := by
  show (cellInfo t st c).isSome = true ↔ _
  rw [Option.isSome_iff_exists]
  constructor
  · rintro ⟨⟨q, x, m⟩, h⟩
    obtain ⟨h1, h2, h3⟩ := cellInfo_eq_some.mp h
    exact ⟨q, x, m, h1, h3, h2⟩
  · rintro ⟨q, x, m, h1, h3, h2⟩
    exact ⟨_, cellInfo_eq_some.mpr ⟨h1, h2, h3⟩⟩

theorem cached_of_info (P : Params) (t : Tabs) (st : SM.St) (c : CellId) (q : Path) (x : String) (m : Member)
    (hd : t.cellOf c = some (q, x)) (hm : st.mem .cells q x = some m) (hcid : t.cid q x = c) :
    (envOf P t st).cached c = P.flagOf m.payload := by
  show (match cellInfo t st c with | some (_, _, m) => P.flagOf m.payload | none => false) = _
  rw [cellInfo_eq_some.mpr ⟨hd, hcid, hm⟩]

theorem mem_cellsOf (t : Tabs) (st : SM.St) (q : Path) (x : String) (h : (st.mem .cells q x).isSome = true) :
    t.cid q x ∈ cellsOf t st q := by
  have := mem_keys_of_isSome st .cells q x h
  simp only [List.mem_map] at this
  obtain ⟨e, he, hx⟩ := this
  simp only [cellsOf, List.mem_map]
  exact ⟨e, he, by rw [hx]⟩

theorem nsPlain_none_of_not_mem (t : Tabs) (st : SM.St) (q : Path) (x : String) (h : x ∉ nsNames st q)
    (hg : x ∉ st.globals) : nsPlain t st q x = none := by
  simp only [nsNames, List.mem_append, not_or] at h
  have c1 : (st.mem .cells q x).isSome = false :=
    Bool.eq_false_iff.mpr (fun hh => h.1.1 (mem_keys_of_isSome st .cells q x hh))
  have c2 : (st.mem .refs q x).isSome = false :=
    Bool.eq_false_iff.mpr (fun hh => h.1.2 (mem_keys_of_isSome st .refs q x hh))
  simp [nsPlain, c1, c2, hg]

theorem sameNs_sound (t : Tabs) (st st' : SM.St) (q : Path) (h : sameNs t st st' q = true) :
    nsAt t st' q = nsAt t st q := by
  funext x
  cases hq : qualOf t q x with
  | some e => unfold nsAt; rw [hq]
  | none =>
    by_cases hx : x ∈ nsNames st q ++ nsNames st' q ++ st.globals ++ st'.globals
    · unfold sameNs at h
      rw [List.all_eq_true] at h
      have := h x hx
      rw [hq] at this
      simp only [Option.isSome_none, Bool.false_or, beq_iff_eq] at this
      exact this.symm
    · simp only [List.mem_append, not_or] at hx
      unfold nsAt
      rw [hq]
      simp only
      rw [nsPlain_none_of_not_mem t st q x hx.1.1.1 hx.1.2, nsPlain_none_of_not_mem t st' q x hx.1.1.2 hx.2]

/-- the first three clauses of `covered` (`covered_sound`); with the fourth, about slots: `CoversG` -/
structure Covers (t : Tabs) (st st' : SM.St) (cl : List Clear) : Prop where
  ns : ∀ q x, (st.mem .cells q x).isSome = true → nsAt t st' q ≠ nsAt t st q → touchedBy cl (t.cid q x) = true
  cells : ∀ q x, (st.mem .cells q x).isSome = true → st'.mem .cells q x ≠ st.mem .cells q x →
    clearedBy cl (t.cid q x) = true
  refsNs : ∀ q x, st'.mem .refs q x ≠ st.mem .refs q x → ∀ c ∈ cellsOf t st q, touchedBy cl c = true
  refsAttr : ∀ q x, st'.mem .refs q x ≠ st.mem .refs q x → (st.mem .refs q x).isSome = true →
    Clear.attr (t.rid q x) ∈ cl

/-- the clauses `struct_ci` needs: namespaces, entries of cells, and the SLOTS (what `(space, name)`
denotes as a reference: the member, or the model-level reference behind it) -/
structure CoversG (t : Tabs) (st st' : SM.St) (cl : List Clear) : Prop where
  ns : ∀ q x, (st.mem .cells q x).isSome = true → nsAt t st' q ≠ nsAt t st q → touchedBy cl (t.cid q x) = true
  cells : ∀ q x, (st.mem .cells q x).isSome = true → st'.mem .cells q x ≠ st.mem .cells q x →
    clearedBy cl (t.cid q x) = true
  slotNs : ∀ q x, refPay t st' q x ≠ refPay t st q x → ∀ c ∈ cellsOf t st q, touchedBy cl c = true
  slotAttr : ∀ q x, refPay t st' q x ≠ refPay t st q x → (refPay t st q x).isSome = true →
    Clear.attr (t.rid q x) ∈ cl

theorem covered_sound (t : Tabs) (st st' : SM.St) (cl : List Clear) (h : covered t st st' cl = true) :
    Covers t st st' cl := by
  -- the first three clauses of the check, for a space of either state
  have H : ∀ q, q ∈ st.ids ∨ q ∈ st'.ids →
      (sameNs t st st' q = true ∨ ∀ c ∈ cellsOf t st q, touchedBy cl c = true) ∧
      (∀ e ∈ conts st .cells q, st'.mem .cells q e.1 = st.mem .cells q e.1 ∨ clearedBy cl (t.cid q e.1) = true) ∧
      (∀ x, x ∈ (conts st .refs q).map (·.1) ∨ x ∈ (conts st' .refs q).map (·.1) →
        st'.mem .refs q x = st.mem .refs q x ∨ ((∀ c ∈ cellsOf t st q, touchedBy cl c = true) ∧
          ((st.mem .refs q x).isNone = true ∨ Clear.attr (t.rid q x) ∈ cl))) := by
    intro q hq
    have := List.all_eq_true.mp h q (List.mem_append.mpr hq)
    simp only [Bool.and_eq_true, Bool.or_eq_true, List.all_eq_true, beq_iff_eq, List.mem_append,
      List.contains_iff_mem] at this
    exact ⟨this.1.1.1, this.1.1.2, this.1.2⟩
  have hids := fun a q x (hm : (st.mem a q x).isSome = true) => Or.inl (b := q ∈ st'.ids) (mem_ids_of_isSome st a q x hm)
  refine ⟨?_, ?_, ?_, ?_⟩
  · intro q x hm hne
    exact ((H q (hids _ q x hm)).1.resolve_left (fun h1 => hne (sameNs_sound t st st' q h1))) _ (mem_cellsOf t st q x hm)
  · intro q x hm hne
    obtain ⟨e, he, rfl⟩ := List.mem_map.mp (mem_keys_of_isSome st .cells q x hm)
    exact ((H q (hids _ q e.1 hm)).2.1 e he).resolve_left hne
  · intro q x hne c hc
    have hsome : (st.mem .refs q x).isSome = true ∨ (st'.mem .refs q x).isSome = true := by
      apply Classical.byContradiction
      intro hn
      rw [not_or, Option.not_isSome_iff_eq_none, Option.not_isSome_iff_eq_none] at hn
      exact hne (by rw [hn.1, hn.2])
    have hq := hsome.imp (mem_ids_of_isSome st .refs q x) (mem_ids_of_isSome st' .refs q x)
    have hx := hsome.imp (mem_keys_of_isSome st .refs q x) (mem_keys_of_isSome st' .refs q x)
    exact (((H q hq).2.2 x hx).resolve_left hne).1 c hc
  · intro q x hne hs
    have h4 := ((H q (hids _ q x hs)).2.2 x (Or.inl (mem_keys_of_isSome st .refs q x hs))).resolve_left hne
    exact h4.2.resolve_left (fun h5 => by rw [Option.isNone_iff_eq_none.mp h5] at hs; cases hs)

variable {lt : Node → Node → Prop}

/-- `t2` has the identities of `t`; the values of the model-level references may differ.  The readers of a slot need
clearing only where the slot has an identity (`globalAttr` walks the identities). -/
theorem struct_ci_of_tables (P : Params) {t t2 : Tabs} {st st' : SM.St} {s : Exec.St} {cl : List Clear}
    (hct : t2.ctab = t.ctab) (hrt : t2.rtab = t.rtab) (hw : WF (envOf P t st) lt) (hci : CI (envOf P t st) lt s)
    (hns : ∀ q x, (st.mem .cells q x).isSome = true → nsAt t2 st' q ≠ nsAt t st q → touchedBy cl (t.cid q x) = true)
    (hcells : ∀ q x, (st.mem .cells q x).isSome = true → st'.mem .cells q x ≠ st.mem .cells q x →
      clearedBy cl (t.cid q x) = true)
    (hslotNs : ∀ q x, refPay t2 st' q x ≠ refPay t st q x → ∀ c ∈ cellsOf t st q, touchedBy cl c = true)
    (hslotAttr : ∀ q x, (q, x) ∈ t.rtab → refPay t2 st' q x ≠ refPay t st q x → (refPay t st q x).isSome = true →
      Clear.attr (t.rid q x) ∈ cl) :
    CI (envOf P t2 st') lt (doClears (envOf P t st) s cl) := by
  obtain ⟨h1, _, _, _, hT, hCl, hA, _⟩ := doClears_facts hw.scoping hw.noCatch cl s hci
  refine redefine_ci h1 hw.scoping hw.noCatch (redef_envOf P hct hrt st st') ?_ ?_ ?_ ?_
  · intro c hc
    by_cases hal : (envOf P t st).alive c = true
    · obtain ⟨q, x, m, hd, hm, hcid⟩ := (alive_iff P t st c).mp hal
      obtain ⟨q', x', hd', hch⟩ := hc
      rw [hd] at hd'
      cases hd'
      have hs : (st.mem .cells q x).isSome = true := by rw [hm]; rfl
      rcases hch with hch | ⟨_, hch⟩
      · exact hcid ▸ (hCl _ (hcells q x hs hch)).clean
      · exact hcid ▸ hT _ (hns q x hs hch)
    · have hal' : (envOf P t st).alive c = false := by simpa using hal
      exact (noNodes_of_dead h1 c hal').clean
  · intro n hn hc
    have hheld := h1.gi.inputsHeld n hn
    have hgn := (h1.gi.heldNodes n hheld).1
    have hca := (h1.gi.heldNodes n hheld).2
    have hal : (envOf P t st).alive n.1 = true := h1.alive.nodes _ hgn
    obtain ⟨⟨q, x, m⟩, hi⟩ := Option.isSome_iff_exists.mp hal
    obtain ⟨hd, hcid, hm⟩ := cellInfo_eq_some.mp hi
    have hsame : st'.mem .cells q x = st.mem .cells q x := by
      apply Classical.byContradiction
      intro hne
      have := hCl _ (hcells q x (by rw [hm]; rfl) hne)
      rw [hcid] at this
      exact this _ hgn rfl
    have hi' : cellInfo t2 st' n.1 = some (q, x, m) :=
      (cellInfo_of_ctab hct st' n.1).trans (cellInfo_eq_some.mpr ⟨hd, hcid, hsame.trans hm⟩)
    rw [envOf_cached, hi] at hca
    rw [envOf_cached, envOf_alive, hi']
    exact ⟨hca, rfl⟩
  · intro r hr c hc
    obtain ⟨q, x, hd, _, hne⟩ := hr
    simp only [envOf_observers, hd] at hc
    exact hT c (hslotNs q x hne c hc)
  · intro r hr hs
    obtain ⟨q, x, hd, hrid, hne⟩ := hr
    simp only [envOf_refs, hd, hrid, beq_self_eq_true, if_true, Option.isSome_map] at hs
    exact hrid ▸ hA _ (hslotAttr q x (List.mem_of_getElem? hd) hne hs)

theorem struct_ci (P : Params) {t : Tabs} {st st' : SM.St} {s : Exec.St} {cl : List Clear}
    (hw : WF (envOf P t st) lt) (hci : CI (envOf P t st) lt s) (hcov : CoversG t st st' cl) :
    CI (envOf P t st') lt (doClears (envOf P t st) s cl) :=
  struct_ci_of_tables P rfl rfl hw hci hcov.ns hcov.cells hcov.slotNs (fun q x _ => hcov.slotAttr q x)

end MxModel.Edit
