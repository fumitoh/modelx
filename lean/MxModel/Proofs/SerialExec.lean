import MxModel.Proofs.SerialBasic
/-! Executing the scheduled instructions of a written description, phase by phase (`run_phase0`, `run_bases`,
`run_loads`, `run_refs`, `run_dyn`; put together in `SerialMain.run_write`): every check passes.  No ItemSpace is
deleted because `dynSeen` stays empty until the last phase, so `dropFor` changes nothing before (`dropFor_noDyn`). -/
namespace MxModel.Serial
open MxModel.PathCodec MxModel.Generated

theorem runE_append {σ α : Type} (f : σ → α → Except Err σ) (s : σ) (l l' : List α) :
    runE f s (l ++ l') = (runE f s l).bind (fun s' => runE f s' l') := by
  induction l generalizing s with
  | nil => rfl
  | cons a as ih =>
    simp only [runE, List.cons_append]
    cases f s a with
    | error e => rfl
    | ok s1 => exact ih s1

theorem dropFor_noDyn (ctx : Ctx) (st : RState) (p : Path) (h : st.dynSeen = []) : dropFor ctx st p = st := by
  cases st
  simp_all [dropFor]

theorem step_phase0 (ctx : Ctx) (st : RState) (e : Path × Op) (hd : st.dynSeen = [])
    (h : e.2.phase = some 0) : step ctx st e = .ok st := by
  obtain ⟨p, o⟩ := e
  cases o with
  | setDoc _ => rfl
  | setFormula _ => simp [step, dropFor_noDyn ctx st p hd]
  | setAllowNone _ => rfl
  | newCells _ _ => simp [step, dropFor_noDyn ctx st p hd]
  | cellsDoc _ _ => rfl
  | cellsAllowNone _ _ => rfl
  | cellsCached _ _ => rfl
  | addBases b => cases (phase_addBases b).symm.trans h
  | loadPickle c es => cases (phase_loadPickle c es).symm.trans h
  | setAttr x v => cases (phase_setAttr x v).symm.trans h
  | setRef x v m => cases (phase_setRef x v m).symm.trans h
  | dynInput r k v => cases (phase_dynInput r k v).symm.trans h

theorem run_phase0 (ctx : Ctx) (st : RState) (l : List (Path × Op)) (hd : st.dynSeen = [])
    (h : ∀ e ∈ l, e.2.phase = some 0) : runE (step ctx) st l = .ok st := by
  induction l with
  | nil => rfl
  | cons e rest ih =>
    simp only [runE, step_phase0 ctx st e hd (h e (by simp))]
    exact ih (fun e' he' => h e' (by simp [he']))

def basesOp (model : Name) (e : Path × List Path) : Path × Op := (e.1, Op.addBases (e.2.map (dotted model)))

theorem resolveBases_dotted (ctx : Ctx) (hmodel : validName ctx.model = true) (bs : List Path)
    (h : ∀ b ∈ bs, ctx.spaces.contains b = true ∧ b.all validName = true) :
    resolveBases ctx (bs.map (dotted ctx.model)) = .ok bs := by
  have := mapE_map_ok (fun b => match resolveBase ctx.model b with
        | some q => if ctx.spaces.contains q then Except.ok q else Except.error Err.noBase
        | none => Except.error Err.noBase) (dotted ctx.model) id bs (by
      intro b hb
      have hm : b ∈ ctx.spaces := by simpa using (h b hb).1
      simp [resolveBase_dotted ctx.model b hmodel (h b hb).2, hm])
  rw [List.map_id] at this
  exact this

theorem run_bases (ctx : Ctx) (hmodel : validName ctx.model = true) (l : BaseRel) (st : RState)
    (hd : st.dynSeen = [])
    (hok : ∀ e ∈ l, ∀ b ∈ e.2, ctx.spaces.contains b = true ∧ b.all validName = true)
    (hpass : basesPass ctx st.bases l = true) :
    runE (step ctx) st (l.map (basesOp ctx.model)) = .ok { st with bases := st.bases ++ l } := by
  induction l generalizing st with
  | nil => cases st; simp [runE]
  | cons e rest ih =>
    simp only [basesPass, Bool.and_eq_true] at hpass
    simp only [List.map_cons, runE]
    have hstep : step ctx st (basesOp ctx.model e) = .ok { st with bases := st.bases ++ [e] } := by
      obtain ⟨p, bs⟩ := e
      show stepBases ctx st p (bs.map (dotted ctx.model)) = _
      unfold stepBases
      rw [resolveBases_dotted ctx hmodel bs (hok (p, bs) (by simp))]
      simp only [hpass.1, if_true]
      rw [dropFor_noDyn]
      exact hd
    rw [hstep]
    simp only
    rw [ih { st with bases := st.bases ++ [e] } hd (fun e' he' => hok e' (by simp [he'])) hpass.2]
    simp

theorem run_loads (ctx : Ctx) (st : RState) (l : List (Path × CellsD))
    (hids : ∀ e ∈ l, ∀ x ∈ e.2.inputs, ctx.pickle.contains x.1 = true ∧ ctx.pickle.contains x.2 = true) :
    runE (step ctx) st (l.map (fun e => (e.1, Op.loadPickle e.2.name e.2.inputs))) = .ok st := by
  induction l with
  | nil => rfl
  | cons e rest ih =>
    have : e.2.inputs.all (fun x => ctx.pickle.contains x.1 && ctx.pickle.contains x.2) = true :=
      List.all_eq_true.mpr (fun x hx => Bool.and_eq_true_iff.mpr (hids e (by simp) x hx))
    simp only [List.map_cons, runE, step, this, if_true]
    exact ih (fun e' he' => hids e' (by simp [he']))

theorem elemIds_absToRelTuple (model : Name) (path : Path) (addr : List Elem) :
    ∀ x ∈ (absToRelTuple (idt model path ++ addr) (idt model path)).flatMap elemIds, x ∈ addr.flatMap elemIds := by
  intro x hx
  simp only [absToRelTuple, List.flatMap_cons, show ∀ s, elemIds (Elem.str s) = [] from fun _ => rfl,
    List.nil_append, List.mem_flatMap] at hx ⊢
  obtain ⟨el, hel, hxel⟩ := hx
  rcases List.mem_append.mp (List.mem_of_mem_drop hel) with h | h
  · simp only [idt, List.mem_map] at h
    obtain ⟨n, _, rfl⟩ := h
    cases hxel
  · exact ⟨el, h, hxel⟩

theorem run_dyn (ctx : Ctx) (st : RState) (l : List (Path × DynInput))
    (hids : ∀ e ∈ l, ∀ x ∈ [e.2.key, e.2.val] ++ e.2.addr.flatMap elemIds, ctx.pickle.contains x = true) :
    ∃ st', runE (step ctx) st (l.map (fun e => (e.1, dynOpOf ctx.model e.1 e.2))) = .ok st' ∧
      st'.dropped = st.dropped := by
  induction l generalizing st with
  | nil => exact ⟨st, rfl, rfl⟩
  | cons e rest ih =>
    have hstep : step ctx st (e.1, dynOpOf ctx.model e.1 e.2) = .ok { st with dynSeen := st.dynSeen ++ [e.1] } := by
      have h := hids e (by simp)
      have h3 : ((absToRelTuple (idt ctx.model e.1 ++ e.2.addr) (idt ctx.model e.1)).flatMap elemIds).all
          ctx.pickle.contains = true :=
        List.all_eq_true.mpr (fun x hx => h x (List.mem_append_right _ (elemIds_absToRelTuple _ _ _ x hx)))
      simp only [step, dynOpOf, h e.2.key (by simp), h e.2.val (by simp), h3, dynAddr_roundtrip, Bool.and_self,
        Bool.not_true, Bool.false_eq_true, if_false]
    obtain ⟨st', hrun, hdrop⟩ := ih { st with dynSeen := st.dynSeen ++ [e.1] }
      (fun e' he' => hids e' (by simp [he']))
    exact ⟨st', by simp only [List.map_cons, runE, hstep, hrun], hdrop⟩

/-- the instruction filed for reference definition `e` -/
def refOpAt (model : Name) (e : Path × RefD) : Path × Op :=
  (e.1, refOpOf (e.1 == []) model e.1 (e.2.name, e.2.val, e.2.mode.text))

theorem decodedIds_decodedOf (model : Name) (owner : Path) (v : RefVal) :
    decodedIds (decodedOf model owner v) = refValIds v := by
  cases v <;> rfl

theorem step_ref (ctx : Ctx) (st : RState) (e : Path × RefD) (hd : st.dynSeen = [])
    (hids : ∀ x ∈ refValIds e.2.val, ctx.pickle.contains x = true)
    (hwf : refValWF ctx st.bases e.2.val = true)
    (h1 : gRef ctx st.bases st.done e.1 e.2 = true) (h2 : gRel ctx st.bases st.done e.1 e.2 = true) :
    step ctx st (refOpAt ctx.model e) = .ok { st with done := st.done ++ [(e.1, e.2.name)] } := by
  obtain ⟨p, name, val, mode⟩ := e
  -- each guard of `stepRef` falls to one hypothesis: the ids to `hids`, ..
  have gids : (decodedIds (decodedOf ctx.model p val)).all ctx.pickle.contains = true := by
    rw [decodedIds_decodedOf]
    exact List.all_eq_true.mpr hids
  -- .. `refConflict` to `h1` and `relConflict` to `h2` (neither is asked of the model itself), ..
  have gref : p ≠ [] → refConflict ctx st.bases st.done p name = false := fun hp => by
    simpa [gRef, hp] using h1
  have grel : ∀ t, p ≠ [] → val = .interface t → mode = .relative →
      relConflict ctx st.bases st.done p name t = false := fun t hp hv hm => by
    subst hv hm
    simpa [gRel, hp, relTarget] using h2
  have hstep : step ctx st (refOpAt ctx.model (p, ⟨name, val, mode⟩)) = stepRef ctx st p name
      (decodedOf ctx.model p val) (if (!(p == []) && isInterface val) = true then mode else .auto) := by
    unfold refOpAt refOpOf step
    by_cases c : (!(p == []) && isInterface val) = true <;>
      simp only [c, Bool.false_eq_true, ↓reduceIte, mode_parse_text]
  rw [hstep]
  unfold stepRef
  rw [gids, dropFor_noDyn ctx st p hd]
  by_cases hp : p = []
  · cases val <;> simp [hp, decodedOf, resolveRel_roundtrip]
    -- .. and the target to `hwf`
    exact hwf
  · cases val with
    | interface t =>
      have hex : targetExists ctx st.bases t = true := hwf
      simp only [decodedOf, resolveRel_roundtrip, hex, hp, gref hp]
      cases mode <;> simp [hp, isInterface, grel t hp rfl]
    | _ => simp [decodedOf, hp, gref hp]

theorem run_refs (ctx : Ctx) (l : List (Path × RefD)) (st : RState) (hd : st.dynSeen = [])
    (hids : ∀ e ∈ l, ∀ x ∈ refValIds e.2.val, ctx.pickle.contains x = true)
    (hwf : ∀ e ∈ l, refValWF ctx st.bases e.2.val = true)
    (h1 : refsPass (gRef ctx st.bases) st.done l = true) (h2 : refsPass (gRel ctx st.bases) st.done l = true) :
    runE (step ctx) st (l.map (refOpAt ctx.model)) =
      .ok { st with done := st.done ++ l.map (fun e => (e.1, e.2.name)) } := by
  induction l generalizing st with
  | nil => cases st; simp [runE]
  | cons e rest ih =>
    simp only [refsPass, Bool.and_eq_true] at h1 h2
    simp only [List.map_cons, runE,
      step_ref ctx st e hd (hids e (by simp)) (hwf e (by simp)) h1.1 h2.1]
    rw [ih { st with done := st.done ++ [(e.1, e.2.name)] } hd (fun e' he' => hids e' (by simp [he']))
      (fun e' he' => hwf e' (by simp [he'])) h1.2 h2.2]
    simp

end MxModel.Serial
