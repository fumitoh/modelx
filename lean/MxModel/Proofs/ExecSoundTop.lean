import MxModel.Proofs.ExecSound
import MxModel.Proofs.ExecGhost
import MxModel.Proofs.ExecKeep
/-!
# Top-level calls: soundness and completeness relative to "the limit is not hit in THIS call"

`evalTop_sound_flag` / `evalTop_complete_flag` are the statements relative to the sticky ghost flag
(flag down after the call; for completeness: down before it).  Because the flag is a ghost (`ExecGhost`), they transfer to
the hypothesis that speaks about the evaluation at hand only: `LimitNotCaughtInThisCall` – the same
evaluation, started with the flag lowered, ends with the flag down – whatever earlier evaluations
did to the flag.
-/
namespace MxModel.Exec

variable (env : Env) (inp : Node → Option Val)

/-- **the recursion limit is not hit during THIS top-level evaluation** (not even inside a `try`):
the evaluation from the same state with the ghost flag lowered ends with the flag down.  No
condition on earlier evaluations. -/
def LimitNotCaughtInThisCall (env : Env) (n : Node) (s : St) : Prop :=
  (evalTop env n s.clearHit).2.hit = false

/-- the sticky-flag form (flag down before the call and after it) implies it -/
theorem LimitNotCaughtInThisCall.of_flag {env : Env} {n : Node} {s : St} (h0 : s.hit = false)
    (hend : (evalTop env n s).2.hit = false) : LimitNotCaughtInThisCall env n s := by
  unfold LimitNotCaughtInThisCall; rw [s.clearHit_of_hit_false h0]; exact hend

theorem LimitNotCaughtInThisCall.hit_after {env : Env} {n : Node} {s : St}
    (h : LimitNotCaughtInThisCall env n s) : (evalTop env n s).2.hit = s.hit := by
  rw [evalTop_hit, h, Bool.or_false]

theorem Good.clearHit {s : St} (g : Good env inp s) : Good env inp s.clearHit := g.of_data rfl

/-- between two good states of which the second keeps what the first holds, no value of a cached
cells has changed: there is one specification value per element -/
theorem Good.kept {s s' : St} (hg : Good env inp s) (hg' : Good env inp s') (hk : Keeps s s') {m : Node} {v : Val}
    (hc : env.cached m.1 = true) (hl : lookup s.data m = some v) : lookup s'.data m = some v := by
  have hsome := hk.1 m (by rw [hl]; rfl)
  cases hl' : lookup s'.data m with
  | none => rw [hl'] at hsome; cases hsome
  | some w => cases Den_det env inp m _ _ (hg'.sound m w hc hl') (hg.sound m v hc hl); rfl

theorem evalTop_sound_flag (n : Node) (s : St)
    (hg : Good env inp s) (hend : (evalTop env n s).2.hit = false) :
    (∀ v, (evalTop env n s).1 = .ok v → Den env inp n (.ok v)) ∧
    (∀ e tb, (evalTop env n s).1 = .formulaError e tb → Den env inp n (.err e)) ∧
    Good env inp (evalTop env n s).2 := by
  have hs := evalTop_step env n s
  generalize evalTop env n s = q at hs hend
  have hrun : (env.cached n.1 = true → lookup s.data n = none) →
      (runN env (env.maxdepth + 1) n s).2.hit = false →
      Good env inp (runN env (env.maxdepth + 1) n s).2 ∧ Den env inp n (runN env (env.maxdepth + 1) n s).1 :=
    fun hu => (runN_ok env inp (env.maxdepth + 1) n s (fun _ => hg)
      (fun _ hc => hg.inp_none hc (hu hc))).2
  cases hs with
  | held v hc hl => exact ⟨fun w hw => (by cases hw; exact hg.sound n v hc hl), fun e tb h => (by cases h), hg⟩
  | ok v s1 hu hr =>
    have := hrun hu
    rw [hr] at this
    obtain ⟨h1, h2⟩ := this hend
    exact ⟨fun w hw => (by cases hw; exact h2), fun e tb h => (by cases h), ⟨h1.sound, h1.inputsHeld⟩⟩
  | err e s1 hu hr =>
    have := hrun hu
    rw [hr] at this
    obtain ⟨h1, h2⟩ := this hend
    exact ⟨fun w hw => (by cases hw), fun e' tb h => (by cases h; exact h2), ⟨h1.sound, h1.inputsHeld⟩⟩

theorem evalTop_complete_flag (n : Node) (s : St) (r : Res)
    (hg : Good env inp s) (h0 : s.hit = false)
    (hd : denoteN env inp (env.maxdepth + 1) n = (r, false)) :
    (evalTop env n s).2.hit = false ∧
    (∀ v, r = .ok v → (evalTop env n s).1 = .ok v) ∧
    (∀ e, r = .err e → ∃ tb, (evalTop env n s).1 = .formulaError e tb) := by
  have hs := evalTop_step env n s
  generalize evalTop env n s = q at hs
  have hrun : (env.cached n.1 = true → lookup s.data n = none) →
      (runN env (env.maxdepth + 1) n s).1 = r ∧ (runN env (env.maxdepth + 1) n s).2.hit = false :=
    fun hu => runN_complete env inp (env.maxdepth + 1) n s r hg h0 (fun hc => hg.inp_none hc (hu hc)) hd
  cases hs with
  | held v hc hl =>
    have := Den_det env inp n _ _ (hg.sound n v hc hl) ⟨_, hd⟩
    subst this
    exact ⟨h0, fun w hw => (by cases hw; rfl), fun e he => (by cases he)⟩
  | ok v s1 hu hr =>
    have := hrun hu
    rw [hr] at this
    obtain ⟨rfl, hh⟩ := this
    exact ⟨hh, fun w hw => (by cases hw; rfl), fun e he => (by cases he)⟩
  | err e s1 hu hr =>
    have := hrun hu
    rw [hr] at this
    obtain ⟨rfl, hh⟩ := this
    exact ⟨hh, fun w hw => (by cases hw), fun e' he => (by cases he; exact ⟨_, rfl⟩)⟩

theorem evalTop_sound (n : Node) (s : St) (hg : Good env inp s)
    (hlim : LimitNotCaughtInThisCall env n s) :
    (∀ v, (evalTop env n s).1 = .ok v → Den env inp n (.ok v)) ∧
    (∀ e tb, (evalTop env n s).1 = .formulaError e tb → Den env inp n (.err e)) ∧
    Good env inp (evalTop env n s).2 := by
  obtain ⟨h1, h2, h3⟩ := evalTop_sound_flag env inp n s.clearHit (hg.clearHit env inp) hlim
  rw [evalTop_fst_clearHit] at h1 h2
  exact ⟨h1, h2, h3.of_data (evalTop_data_clearHit env n s).1.symm⟩

theorem evalTop_complete (n : Node) (s : St) (r : Res) (hg : Good env inp s)
    (hd : denoteN env inp (env.maxdepth + 1) n = (r, false)) :
    LimitNotCaughtInThisCall env n s ∧
    (∀ v, r = .ok v → (evalTop env n s).1 = .ok v) ∧
    (∀ e, r = .err e → ∃ tb, (evalTop env n s).1 = .formulaError e tb) := by
  obtain ⟨h1, h2, h3⟩ := evalTop_complete_flag env inp n s.clearHit r (hg.clearHit env inp) rfl hd
  rw [evalTop_fst_clearHit] at h2 h3
  exact ⟨h1, h2, h3⟩

end MxModel.Exec
