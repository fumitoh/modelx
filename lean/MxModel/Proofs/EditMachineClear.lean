import MxModel.Edit.Machine
import MxModel.Proofs.ExecCertRunOps
/-!
# Clear first, redefine afterwards

The clearing modelx performs for a structural edit is a sequence of primitives (`Edit.Clear`):
`clear_obj` of a cells, a namespace notifying its cells, `clear_attr_referrers` of a reference, the
clearing of a deleted space's cells.  Each of them keeps the certificate invariant for the definitions
in force (`doClear_ci`), and leaves behind facts that later primitives cannot undo (`doClears_facts`):
`Clean s c` (established by a notification of `c`, by `clear_obj c`, by the deletion clearing),
`NoNodes s c` (`clear_obj`, deletion) and `NoRg s r` (`clear_attr_referrers r`) – the hypotheses of
`redefine_ci` (`Proofs/ExecCertRedef.lean`).
-/
namespace MxModel.Edit
open MxModel.Exec MxModel.C02

variable {env env' : Env} {lt : Node → Node → Prop}

theorem doClear_clr (env : Env) (s : Exec.St) (he : EdgeOK s) (k : Clear) :
    ∃ R D, Clr s R D (doClear env s k) := by
  cases k with
  | obj c => obtain ⟨R, h, _⟩ := (clears_clearObj s (fun _ => False) he c).clr; exact ⟨R, _, h⟩
  | ns L => obtain ⟨R, h, _⟩ := (clears_notifyAll env s (fun _ => False) he L).clr; exact ⟨R, _, h⟩
  | attr r => obtain ⟨R, h, _⟩ := (clears_clearAttrReferrers s he r).clr; exact ⟨R, _, h⟩
  | del c =>
    obtain ⟨R1, h1, _⟩ := (clears_clearAllValues s (fun _ => False) he c true).clr
    simp only [doClear]
    split
    · exact ⟨R1, _, h1⟩
    · obtain ⟨R2, h2, _⟩ := (clears_clearObj (s.clearAllValues c true) (fun _ => False) (h1.edgeOK he) c).clr
      exact ⟨R1 ++ R2, _, h1.trans h2⟩

/-- `clear_attr_referrers(r)` keeps the invariant (no recorded attribute-path read of a missing
reference: `NoCatchEnv`) -/
theorem clearAttrReferrers_ci {s : Exec.St} (h : CI env lt s) (hsc : Scoped env) (hnc : NoCatchEnv env)
    (r : RefId) : CI env lt (s.clearAttrReferrers r) := by
  obtain ⟨R, hc, hR⟩ := (clears_clearAttrReferrers s h.gi.edgeOK r).clr
  exact h.of_clr_dropOf (P := True) hsc hnc (hc.weaken fun _ hd => ⟨trivial, hd⟩) (fun _ => trivial)
    (fun _ n hrn hgn => hR _ ⟨n, hrn, rfl⟩ hgn)

theorem notifyAll_ci {s : Exec.St} (h : CI env lt s) (L : List CellId) : CI env lt (s.notifyAll env L) := by
  obtain ⟨R, hc, _⟩ := (clears_notifyAll env s (fun _ => False) h.gi.edgeOK L).clr
  exact h.of_clr_same hc

theorem doClear_ci {s : Exec.St} (h : CI env lt s) (hsc : Scoped env) (hnc : NoCatchEnv env) (k : Clear) :
    CI env lt (doClear env s k) := by
  cases k with
  | obj c => exact clearObj_ci h c
  | ns L => exact notifyAll_ci h L
  | attr r => exact clearAttrReferrers_ci h hsc hnc r
  | del c =>
    simp only [doClear]
    split
    · exact clearAllValues_ci h c true
    · exact clearObj_ci (clearAllValues_ci h c true) c

theorem del_noNodes {s : Exec.St} (h : CI env lt s) (c : CellId) : NoNodes (doClear env s (.del c)) c := by
  simp only [doClear]
  split
  · rename_i hca
    obtain ⟨R, hclr, hR⟩ := (clears_clearAllValues s (fun _ => False) h.gi.edgeOK c true).clr
    intro x hx hxc
    obtain ⟨h1, h2⟩ := (hclr.mem_gn x).mp hx
    cases x with
    | obj c' =>
      simp only [GNode.cell] at hxc
      subst hxc
      have := h.alive.objs _ h1
      rw [hca] at this; cases this
    | elem m =>
      simp only [GNode.cell] at hxc
      exact h2 (hR _ ⟨m, rfl, hxc, h.nodeHeld h1, Or.inl rfl⟩ h1)
  · exact clearObj_noNodes _ (clearAllValues_ci h c true).gi.edgeOK c

theorem clearAttrReferrers_noRg (s : Exec.St) (r : RefId) : NoRg (s.clearAttrReferrers r) r := by
  -- the edges of `r` are filtered out first; every later step only filters
  have : ∀ e ∈ (s.clearAttrReferrers r).rg, e.1 ≠ r := by
    unfold Exec.St.clearAttrReferrers
    refine List.foldlRecOn (motive := fun s0 : Exec.St => ∀ e ∈ s0.rg, e.1 ≠ r) _ _ ?_ ?_
    · intro e he
      simp only [List.mem_filter, Bool.and_eq_true, bne_iff_ne, ne_eq] at he
      exact he.2.1
    · intro s0 h0 n _
      split
      · intro e he
        simp only [Exec.St.dropValues, Exec.St.rgRemoveReferred, Exec.St.removeNodes, List.mem_filter] at he
        exact h0 e he.1
      · exact h0
  exact fun n hn => this (r, n) hn rfl

theorem clearedBy_cons (k : Clear) (cl : List Clear) (c : CellId) :
    clearedBy (k :: cl) c = (clearedBy [k] c || clearedBy cl c) := by
  simp only [clearedBy, List.any_cons, List.any_nil, Bool.or_false]

theorem touchedBy_cons (k : Clear) (cl : List Clear) (c : CellId) :
    touchedBy (k :: cl) c = (touchedBy [k] c || touchedBy cl c) := by
  simp only [touchedBy, List.any_cons, List.any_nil, Bool.or_false]

theorem doClear_noNodes {s : Exec.St} (h : CI env lt s) {k : Clear} {c : CellId} (hc : clearedBy [k] c = true) :
    NoNodes (doClear env s k) c := by
  cases k with
  | obj c' =>
    obtain rfl : c' = c := by simpa [clearedBy] using hc
    exact clearObj_noNodes s h.gi.edgeOK c'
  | del c' =>
    obtain rfl : c' = c := by simpa [clearedBy] using hc
    exact del_noNodes h c'
  | ns L => cases hc
  | attr r => cases hc

theorem doClear_clean {s : Exec.St} (h : CI env lt s) {k : Clear} {c : CellId} (hc : touchedBy [k] c = true) :
    Clean (doClear env s k) c := by
  cases k with
  | ns L =>
    obtain ⟨R, hclr, hR⟩ := (clears_notifyAll env s (fun _ => False) h.gi.edgeOK L).clr
    exact clean_of_seeds (C := (· ∈ L)) h hclr hR (fun _ hc => Or.inl hc) c (by simpa [touchedBy] using hc)
  | obj c' => exact (doClear_noNodes h (c := c) (by simpa [touchedBy, clearedBy] using hc)).clean
  | del c' => exact (doClear_noNodes h (c := c) (by simpa [touchedBy, clearedBy] using hc)).clean
  | attr r => cases hc

theorem doClears_facts (hsc : Scoped env) (hnc : NoCatchEnv env) : ∀ (cl : List Clear) (s : Exec.St),
    CI env lt s →
    CI env lt (doClears env s cl) ∧
    (∀ c, Clean s c → Clean (doClears env s cl) c) ∧
    (∀ c, NoNodes s c → NoNodes (doClears env s cl) c) ∧
    (∀ r, NoRg s r → NoRg (doClears env s cl) r) ∧
    (∀ c, touchedBy cl c = true → Clean (doClears env s cl) c) ∧
    (∀ c, clearedBy cl c = true → NoNodes (doClears env s cl) c) ∧
    (∀ r, Clear.attr r ∈ cl → NoRg (doClears env s cl) r) ∧
    (∀ m ∈ (doClears env s cl).inputs, m ∈ s.inputs) := by
  intro cl
  induction cl with
  | nil =>
    intro s h
    exact ⟨h, fun _ h => h, fun _ h => h, fun _ h => h, (fun _ hc => nomatch hc), (fun _ hc => nomatch hc),
      (fun _ hr => nomatch hr), fun _ h => h⟩
  | cons k cl ih =>
    -- what the first primitive establishes, the later ones keep
    intro s h
    obtain ⟨R, D, hclr⟩ := doClear_clr env s h.gi.edgeOK k
    obtain ⟨i1, i2, i3, i4, i5, i6, i7, i8⟩ := ih (doClear env s k) (doClear_ci h hsc hnc k)
    refine ⟨i1, fun c hc => i2 c (hc.of_clr hclr), fun c hc => i3 c (hc.of_clr hclr),
      fun r hr => i4 r (hr.of_clr hclr), fun c hc => ?_, fun c hc => ?_, fun r hr => ?_,
      fun m hm => ((hclr.mem_inputs m).mp (i8 m hm)).1⟩
    · rw [touchedBy_cons, Bool.or_eq_true] at hc
      exact hc.elim (fun hc => i2 c (doClear_clean h hc)) (i5 c)
    · rw [clearedBy_cons, Bool.or_eq_true] at hc
      exact hc.elim (fun hc => i3 c (doClear_noNodes h hc)) (i6 c)
    · rcases List.mem_cons.mp hr with rfl | hr
      · exact i4 r (clearAttrReferrers_noRg s r)
      · exact i7 r hr

end MxModel.Edit
