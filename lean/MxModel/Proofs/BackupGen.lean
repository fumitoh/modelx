import MxModel.Proofs.BackupPolicy
/-! The result of an *uninterrupted* rotation and save (C14, generations kept in order). -/
namespace MxModel.Backup

def Runs (ps : List Prim) (fs fs' : FS) : Prop := ∀ k, ps.length ≤ k → run ps k fs = (fs', true)

theorem Runs.nil (fs : FS) : Runs [] fs fs := fun k _ => run_nil k fs

theorem Runs.cons {p : Prim} {ps : List Prim} {fs fs1 fs' : FS} (h : step p fs = some fs1)
    (hps : Runs ps fs1 fs') : Runs (p :: ps) fs fs' := by
  intro k hk
  cases k with
  | zero => cases hk
  | succ k' => rw [run_succ_cons, h]; exact hps k' (Nat.le_of_succ_le_succ hk)

theorem Runs.append {a b : List Prim} {fs fs1 fs' : FS} (ha : Runs a fs fs1) (hb : Runs b fs1 fs') :
    Runs (a ++ b) fs fs' := by
  intro k hk
  rw [List.length_append] at hk
  rw [run_append, ha k (Nat.le_trans (Nat.le_add_right _ _) hk)]
  exact hb _ (Nat.le_sub_of_add_le' hk)

theorem Runs.tmps (ts : List TmpKind) (fs : FS) : Runs (ts.map .tmp) fs fs := by
  induction ts with
  | nil => exact Runs.nil fs
  | cons t ts ih => exact Runs.cons (step_tmp t fs) ih

theorem runs_rmTree (i : Nat) : ∀ (c : Nat) (fs : FS), (fs i).isDir = true →
    Runs (List.replicate c (.rm i false) ++ [.rm i true]) fs (fs.set i .absent) := by
  intro c
  induction c with
  | zero =>
    intro fs hd
    refine Runs.cons ?_ (Runs.nil _)
    rw [step_rm, if_pos ⟨ne_absent_of_isDir hd, .inl rfl⟩]; rfl
  | succ c ih =>
    intro fs hd
    have hstep : step (.rm i false) fs = some (fs.set i (fs i).damaged) := by
      rw [step_rm, if_pos ⟨ne_absent_of_isDir hd, .inr hd⟩]; rfl
    have := ih (fs.set i (fs i).damaged) (by rw [set_same, isDir_damaged]; exact hd)
    rw [set_set] at this
    exact Runs.cons hstep this

theorem runs_rot_zero (fs : FS) (nrm n : Nat) : Runs (rot fs nrm 0 n) fs (fs.set n .absent) := by
  rw [rot_zero]
  by_cases hn : fs n = .absent
  · rw [if_pos hn, set_eq_self hn]; exact Runs.nil fs
  · rw [if_neg hn]
    by_cases hd : (fs n).isDir = true
    · rw [if_pos hd]; exact runs_rmTree n _ fs hd
    · rw [if_neg hd]
      refine Runs.cons ?_ (Runs.nil _)
      rw [step_rm, if_pos ⟨hn, .inl rfl⟩]; rfl

def shift (fs : FS) (n m : Nat) : FS :=
  fun j => if j = n then .absent else if n < j ∧ j ≤ m then fs (j - 1) else fs j

theorem shift_self (fs : FS) (n m : Nat) : shift fs n m n = .absent := if_pos rfl

theorem shift_inside (fs : FS) {n m j : Nat} (h1 : n < j) (h2 : j ≤ m) :
    shift fs n m j = fs (j - 1) := by
  unfold shift; rw [if_neg (Nat.ne_of_gt h1), if_pos ⟨h1, h2⟩]

theorem shift_below (fs : FS) {n j : Nat} (m : Nat) (h : j < n) : shift fs n m j = fs j := by
  unfold shift; rw [if_neg (Nat.ne_of_lt h), if_neg (fun hc => Nat.lt_asymm h hc.1)]

theorem shift_above (fs : FS) {n m j : Nat} (h1 : n < j) (h2 : m < j) : shift fs n m j = fs j := by
  unfold shift; rw [if_neg (Nat.ne_of_gt h1), if_neg (fun hc => Nat.not_le_of_lt h2 hc.2)]

theorem shift_same (fs : FS) (n : Nat) : shift fs n n = fs.set n .absent := by
  funext j
  rcases Nat.lt_trichotomy j n with h | rfl | h
  · rw [set_other _ _ (Nat.ne_of_lt h), shift_below fs n h]
  · rw [shift_self, set_same]
  · rw [set_other _ _ (Nat.ne_of_gt h), shift_above fs h h]

/-- the rename of slot `n` after the slots above it have moved -/
theorem shift_step (fs : FS) {n m : Nat} (h : n < m) :
    ((shift fs (n + 1) m).set (n + 1) (fs n)).set n .absent = shift fs n m := by
  funext j
  rcases Nat.lt_trichotomy j n with hlt | rfl | hgt
  · rw [set_other _ _ (Nat.ne_of_lt hlt), set_other _ _ (Nat.ne_of_lt (Nat.lt_succ_of_lt hlt)),
      shift_below fs m (Nat.lt_succ_of_lt hlt), shift_below fs m hlt]
  · rw [set_same, shift_self]
  · rw [set_other _ _ (Nat.ne_of_gt hgt)]
    rcases Nat.eq_or_lt_of_le hgt with rfl | hgt1
    · rw [set_same, shift_inside fs (Nat.lt_succ_self n) h]; rfl
    · rw [set_other _ _ (Nat.ne_of_gt hgt1)]
      by_cases hm : j ≤ m
      · rw [shift_inside fs hgt1 hm, shift_inside fs hgt hm]
      · rw [shift_above fs hgt1 (Nat.lt_of_not_le hm), shift_above fs hgt (Nat.lt_of_not_le hm)]

/-- the first free slot among `n, …, n + f - 1`; `n + f` if there is none (the recursion of
`rot`) -/
def gap (fs : FS) : Nat → Nat → Nat
  | 0, n => n
  | f + 1, n => if fs n = .absent then n else gap fs f (n + 1)

theorem le_gap (fs : FS) : ∀ f n, n ≤ gap fs f n
  | 0, n => Nat.le_refl n
  | f + 1, n => by
    unfold gap
    split
    · exact Nat.le_refl n
    · exact Nat.le_of_succ_le (le_gap fs f (n + 1))

theorem lt_gap (fs : FS) {f n : Nat} (hf : 0 < f) (hn : fs n ≠ .absent) : n < gap fs f n := by
  cases f with
  | zero => cases hf
  | succ f => unfold gap; rw [if_neg hn]; exact le_gap fs f (n + 1)

theorem gap_le (fs : FS) : ∀ f n, gap fs f n ≤ f + n
  | 0, n => Nat.le_of_eq (Nat.zero_add n).symm
  | f + 1, n => by
    unfold gap
    split
    · exact Nat.le_add_left n (f + 1)
    · exact Nat.le_trans (gap_le fs f (n + 1)) (Nat.le_of_eq (Nat.succ_add f n).symm)

theorem gap_absent (fs : FS) : ∀ f n, gap fs f n < f + n → fs (gap fs f n) = .absent
  | 0, n => fun h => absurd (Nat.lt_of_lt_of_eq h (Nat.zero_add n)) (Nat.lt_irrefl n)
  | f + 1, n => by
    unfold gap
    split
    · exact fun _ => ‹fs n = .absent›
    · exact fun h => gap_absent fs f (n + 1) (Nat.lt_of_lt_of_eq h (Nat.succ_add f n))

theorem runs_rot (fs : FS) (nrm : Nat) : ∀ (f n : Nat),
    Runs (rot fs nrm f n) fs (shift fs n (gap fs f n))
  | 0, n => by rw [gap, shift_same]; exact runs_rot_zero fs nrm n
  | f + 1, n => by
    rw [rot_succ, gap]
    by_cases hn : fs n = .absent
    · rw [if_pos hn, if_pos hn, shift_same, set_eq_self hn]; exact Runs.nil fs
    · rw [if_neg hn, if_neg hn]
      have hm : n < gap fs f (n + 1) := le_gap fs f (n + 1)
      refine (runs_rot fs nrm f (n + 1)).append (Runs.cons ?_ (Runs.nil _))
      rw [step_rename, shift_below fs _ (Nat.lt_succ_self n), shift_self, if_pos ⟨hn, rfl⟩,
        shift_step fs hm]

theorem runs_writes (g : Nat) : ∀ (body : List (Option TmpKind)) (fs : FS), (fs 0).isDir = true →
    Runs (body.map (dirOp g) ++ [.write g true]) fs (fs.set 0 (.good .dir g)) := by
  intro body
  induction body with
  | nil =>
    intro fs hd
    refine Runs.cons ?_ (Runs.nil _)
    rw [step_write, if_pos hd]; rfl
  | cons o body ih =>
    intro fs hd
    cases o with
    | none =>
      refine Runs.cons (fs1 := fs.set 0 (.part .dir g)) ?_ ?_
      · rw [dirOp, step_write, if_pos hd]; rfl
      · have := ih (fs.set 0 (.part .dir g)) (by rw [set_same]; rfl)
        rwa [set_set] at this
    | some t => exact Runs.cons (step_tmp t fs) (ih fs hd)

theorem runs_writer (sv : Save) (fs : FS) (h0 : fs 0 = .absent) :
    Runs (writer sv) fs (fs.set 0 (.good sv.kind sv.g)) := by
  unfold writer
  cases sv.kind with
  | dir =>
    refine Runs.cons (fs1 := fs.set 0 (.part .dir sv.g)) ?_ ?_
    · rw [step_mkroot, if_pos h0]
    · have := runs_writes sv.g sv.body (fs.set 0 (.part .dir sv.g)) (by rw [set_same]; rfl)
      rwa [set_set] at this
  | zip =>
    have hmove : step (.move sv.g) fs = some (fs.set 0 (.good .zip sv.g)) := by
      rw [step_move, h0]; rfl
    rw [zipWriter, ← List.map_replicate (f := Prim.tmp)]
    exact ((Runs.tmps sv.pre fs).append (Runs.cons hmove (Runs.nil _))).append (Runs.tmps _ _)

theorem runs_plan (maxB : Nat) (sv : Save) (fs : FS) :
    Runs (plan maxB sv fs) fs ((shift fs 0 (gap fs maxB 0)).set 0 (.good sv.kind sv.g)) :=
  (runs_rot fs sv.nrm maxB 0).append (runs_writer sv _ (shift_self fs 0 _))

theorem save_done (maxB : Nat) (sv : Save) (k : Nat) (fs : FS)
    (hnt : faultKind sv.pol (plan maxB sv fs) k ≠ .truncates)
    (hdone : (save maxB sv k fs).2 = true) :
    (save maxB sv k fs).1 = (shift fs 0 (gap fs maxB 0)).set 0 (.good sv.kind sv.g) := by
  obtain ⟨k', heq⟩ := save_eq_run maxB sv k fs hnt
  rw [heq] at hdone ⊢
  rw [runs_plan maxB sv fs k' (Nat.le_of_not_lt fun hlt => by
    rw [run_short _ _ _ hlt] at hdone; cases hdone)]

theorem copyOf_cons_succ (sv : Save) (l : List Save) (j : Nat) :
    copyOf (sv :: l) (j + 1) = copyOf l j := by simp [copyOf]

theorem copyOf_eq_absent {l : List Save} {j : Nat} : copyOf l j = .absent ↔ l.length ≤ j := by
  unfold copyOf
  constructor
  · intro h
    apply Nat.le_of_not_lt
    intro hlt
    rw [List.getElem?_eq_getElem hlt] at h
    cases h
  · intro h; rw [List.getElem?_eq_none h]

/-- `l` lists the saves newest first: slot `j ≤ max` holds the `j`-th newest, nothing else exists -/
def Holds (maxB : Nat) (l : List Save) (fs : FS) : Prop :=
  ∀ j, fs j = if j ≤ maxB then copyOf l j else Slot.absent

theorem saveOk_holds (maxB : Nat) (sv : Save) (l : List Save) (fs : FS) (h : Holds maxB l fs) :
    Holds maxB (sv :: l) (saveOk maxB sv fs).1 := by
  unfold saveOk
  rw [save_at_length, runs_plan maxB sv fs _ (Nat.le_refl _)]
  have hle : gap fs maxB 0 ≤ maxB := gap_le fs maxB 0
  intro j
  show ((shift fs 0 (gap fs maxB 0)).set 0 (Slot.good sv.kind sv.g)) j = _
  cases j with
  | zero => rw [set_same, if_pos (Nat.zero_le _)]; rfl
  | succ j =>
    rw [set_other _ _ (Nat.succ_ne_zero j), copyOf_cons_succ]
    by_cases hjm : j + 1 ≤ gap fs maxB 0
    · -- moved up from slot `j`
      rw [shift_inside fs (Nat.succ_pos j) hjm, if_pos (Nat.le_trans hjm hle)]
      exact (h j).trans (if_pos (Nat.le_of_succ_le (Nat.le_trans hjm hle)))
    · -- beyond the first free slot: nothing there, and the list is shorter than `j`
      have hgj : gap fs maxB 0 < j + 1 := Nat.lt_of_not_le hjm
      rw [shift_above fs (Nat.succ_pos j) hgj, h (j + 1)]
      by_cases hjB : j + 1 ≤ maxB
      · rw [if_pos hjB, if_pos hjB]
        have hfree := gap_absent fs maxB 0 (Nat.lt_of_lt_of_le hgj hjB)
        rw [h, if_pos hle, copyOf_eq_absent] at hfree
        have hlj : l.length ≤ j := Nat.le_trans hfree (Nat.le_of_lt_succ hgj)
        rw [copyOf_eq_absent.mpr (Nat.le_succ_of_le hlj), copyOf_eq_absent.mpr hlj]
      · rw [if_neg hjB, if_neg hjB]

theorem runOk_holds (maxB : Nat) : ∀ (svs l : List Save) (fs : FS), Holds maxB l fs →
    Holds maxB (svs.reverse ++ l) (runOk maxB fs svs) := by
  intro svs
  induction svs with
  | nil => intro l fs h; simpa [runOk] using h
  | cons sv rest ih =>
    intro l fs h
    have := ih (sv :: l) _ (saveOk_holds maxB sv l fs h)
    simpa [runOk, List.reverse_cons, List.append_assoc] using this

end MxModel.Backup
