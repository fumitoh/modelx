import MxModel.Proofs.StructMechInv
/-!
# The truly incremental walks: `changeMemberSub` / `newMemberSub` over the sub spaces

After `p` got a (new) definition of `name` every space is *good unless its first definer of `name`
is `p`* (`GoodUnless`): if the first definer after the change is not `p`, it was the first definer
before the change.  One step of the walk repairs one sub space; the walk visits every space that
has `p` in its linearisation, so every space is good afterwards.
-/
namespace MxModel.SM
open MxModel.C3

theorem WF.of_shape {st st' : St} (h : WF st) (hs : Shape st st') (hk : KeysOK st') : WF st' where
  nodup := by rw [hs.ids]; exact h.nodup
  bases := by intro q b hb; rw [hs.basesOf] at hb; rw [hs.ids]; exact h.bases q b hb
  mro := by intro q hq; rw [hs.ids] at hq; rw [hs.mro]; exact h.mro q hq
  keys := hk
  tree := by intro q hq; rw [hs.ids] at hq ⊢; exact h.tree q hq

def GoodUnless (st : St) (a : Attr) (q : Path) (n : String) (p : Path) : Prop :=
  (∃ w, st.firstDef a (st.tail q) n = some (p, w)) ∨ Good1 st a q n

theorem GoodUnless.congr {st st' : St} {a : Attr} {q : Path} {n : String} {p : Path}
    (h : GoodUnless st a q n p) (hm : st'.mem a q n = st.mem a q n) (hs : Shape st st')
    (hd : SameDefs st st') : GoodUnless st' a q n p := by
  rcases h with ⟨w, hw⟩ | h
  · left
    exact ⟨w, by rw [hs.tail, hd.firstDef]; exact hw⟩
  · right
    exact h.congr hm (hs.tail q) (fun b _ => hd a b n)

theorem keysOK_setMem (st : St) (hk : KeysOK st) (a : Attr) (p : Path) (n : String) (m : Member) :
    KeysOK (st.setMem a p n m) := by
  intro a' q
  rw [cont_setMem]
  split
  · exact nodup_mset _ _ _ (hk a p)
  · exact hk a' q

theorem keysOK_delMem (st : St) (hk : KeysOK st) (a : Attr) (p : Path) (n : String) :
    KeysOK (st.delMem a p n) := by
  intro a' q
  rw [cont_delMem]
  split
  · exact nodup_mdel _ _ (hk a p)
  · exact hk a' q

theorem defd_setMem (st : St) (a : Attr) (p : Path) (n : String) (m : Member) (hp : p ∈ st.ids)
    (a' : Attr) (q : Path) (n' : String) :
    (st.setMem a p n m).defd a' q n' =
      if q = p ∧ a' = a ∧ n' = n then (if m.derived then none else some m.payload) else st.defd a' q n' := by
  unfold St.defd
  rw [mem_setMem st a p n m hp]
  by_cases h : q = p ∧ a' = a ∧ n' = n
  · simp only [h, and_self, if_true]
  · simp only [h, if_false]

theorem sameDefs_setMem_derived (st : St) (a : Attr) (q : Path) (n : String) (v : Nat) (hq : q ∈ st.ids)
    (h : st.defd a q n = none) : SameDefs st (st.setMem a q n { derived := true, payload := v }) := by
  intro a' q' n'
  rw [defd_setMem st a q n _ hq]
  split
  · rename_i hc
    obtain ⟨rfl, rfl, rfl⟩ := hc
    simp [h]
  · rfl

theorem DerivedSet.sameDefs {s s' : St} {a : Attr} {q : Path} {name : String} (h : DerivedSet s s' a q name)
    (hq : q ∈ s.ids) : SameDefs s s' := by
  rcases h with rfl | ⟨w, hd, rfl⟩
  · exact fun _ _ _ => rfl
  · exact sameDefs_setMem_derived s a q name w hq hd

theorem goodUnless_after_define (st : St) (hwf : WF st) (hg : ∀ a q n, Good1 st a q n)
    (a : Attr) (p : Path) (name : String) (v : Nat) (hp : p ∈ st.ids) :
    let st1 := st.setMem a p name { derived := false, payload := v }
    Shape st st1 ∧ KeysOK st1 ∧ st1.defd a p name = some v ∧
    (∀ a' q n', ¬ (a' = a ∧ n' = name) → Good1 st1 a' q n') ∧
    (∀ q, GoodUnless st1 a q name p) := by
  intro st1
  have hs : Shape st st1 := shape_setMem st a p name _
  have hd : ∀ a' q n', ¬ (q = p ∧ a' = a ∧ n' = name) → st1.defd a' q n' = st.defd a' q n' := by
    intro a' q n' h
    rw [defd_setMem st a p name _ hp]
    simp [h]
  have hm : ∀ a' q n', ¬ (q = p ∧ a' = a ∧ n' = name) → st1.mem a' q n' = st.mem a' q n' := by
    intro a' q n' h
    rw [mem_setMem st a p name _ hp]
    simp [h]
  have hdp : st1.defd a p name = some v := by
    rw [defd_setMem st a p name _ hp]; simp
  refine ⟨hs, keysOK_setMem st hwf.keys a p name _, hdp, ?_, ?_⟩
  · intro a' q n' h
    exact (hg a' q n').congr (hm a' q n' (fun h' => h ⟨h'.2.1, h'.2.2⟩)) (hs.tail q)
      (fun b _ => hd a' b n' (fun h' => h ⟨h'.2.1, h'.2.2⟩))
  · intro q
    by_cases hqp : q = p
    · subst hqp
      right
      unfold Good1
      rw [mem_setMem st a q name _ hp]
      simp
    · by_cases hfp : ∃ w, st1.firstDef a (st1.tail q) name = some (p, w)
      · exact Or.inl hfp
      · right
        have hf0 := firstDef_eq_of_not_first st st1 a p name (fun b hb => hd a b name (fun h' => hb h'.1))
          (by rw [hdp]; rfl) (st1.tail q) (fun w hw => hfp ⟨w, hw⟩)
        have := hg a q name
        unfold Good1 at this ⊢
        rw [hm a q name (fun h' => hqp h'.1), ← hf0, hs.tail]
        exact this

structure SubStep (a : Attr) (name : String) (s s' : St) (q : Path) : Prop extends Kept s s' where
  other : ∀ a' q' n', ¬ (a' = a ∧ q' = q ∧ n' = name) → s'.mem a' q' n' = s.mem a' q' n'
  good : Good1 s' a q name
  mono : (s.mem a q name).isSome = true → (s'.mem a q name).isSome = true

theorem SubStep.refl_of_good (a : Attr) (name : String) (s : St) (q : Path) (hk : KeysOK s)
    (hg : Good1 s a q name) : SubStep a name s s q :=
  ⟨Kept.refl hk, fun _ _ _ _ => rfl, hg, id⟩

theorem subStep_set (a : Attr) (name : String) (s : St) (q p : Path) (v : Nat) (hk : KeysOK s)
    (hq : q ∈ s.ids) (hnd : s.defd a q name = none)
    (hf : s.firstDef a (s.tail q) name = some (p, v)) :
    SubStep a name s (s.setMem a q name { derived := true, payload := v }) q := by
  have hs := shape_setMem s a q name { derived := true, payload := v }
  have hd := sameDefs_setMem_derived s a q name v hq hnd
  refine ⟨⟨hs, hd, keysOK_setMem s hk a q name _⟩, ?_, ?_, ?_⟩
  · intro a' q' n' h
    rw [mem_setMem s a q name _ hq]
    have : ¬ (q' = q ∧ a' = a ∧ n' = name) := fun h' => h ⟨h'.2.1, h'.1, h'.2.2⟩
    simp [this]
  · unfold Good1
    rw [mem_setMem s a q name _ hq, hs.tail, hd.firstDef, hf]
    simp
  · intro _
    rw [mem_setMem s a q name _ hq]; simp

theorem firstDef_p_payload (s : St) (a : Attr) (l : List Path) (name : String) (p : Path) (v w : Nat)
    (hdp : s.defd a p name = some v) (hf : s.firstDef a l name = some (p, w)) : w = v := by
  have := (firstDef_some s a l name p w hf).2
  rw [hdp] at this
  exact (Option.some.inj this).symm

/-- `pay`: `changeMemberSub` writes the new value `v`, `newMemberSub` the payload `w` it finds at the first
definer; where the first definer is `p` both are `w` (`hpay`), so one lemma serves both walks -/
theorem subStep_derived (a : Attr) (p : Path) (name : String) (v : Nat) (s : St) (q : Path)
    (hk : KeysOK s) (hq : q ∈ s.ids) (hdp : s.defd a p name = some v) (hgu : GoodUnless s a q name p)
    (m : Member) (hm : s.mem a q name = some m) (hd : m.derived = true) (pay : Nat → Nat)
    (hpay : ∀ w, s.firstDef a (s.tail q) name = some (p, w) → pay w = w) :
    SubStep a name s
      (match s.firstDef a (s.tail q) name with
       | some (b, w) => if b == p then s.setMem a q name { derived := true, payload := pay w } else s
       | none => s) q := by
  have hrefl : (∀ w, s.firstDef a (s.tail q) name ≠ some (p, w)) → SubStep a name s s q := fun hne =>
    SubStep.refl_of_good a name s q hk (hgu.resolve_left (fun ⟨w, hw⟩ => hne w hw))
  cases hf : s.firstDef a (s.tail q) name with
  | none => exact hrefl (fun w hw => by rw [hf] at hw; cases hw)
  | some d =>
    obtain ⟨b, w⟩ := d
    by_cases hbp : b = p
    · subst hbp
      simp only [beq_self_eq_true, if_true, hpay w hf]
      exact subStep_set a name s q b w hk hq (St.defd_of_mem_derived hm hd) hf
    · have : (b == p) = false := by simpa using hbp
      simp only [this, Bool.false_eq_true, if_false]
      exact hrefl (fun w' hw => by rw [hf] at hw; cases hw; exact hbp rfl)

theorem SubStep.refl_of_defined (a : Attr) (name : String) (s : St) (q : Path) (hk : KeysOK s) (m : Member)
    (hm : s.mem a q name = some m) (hd : m.derived = false) : SubStep a name s s q :=
  SubStep.refl_of_good a name s q hk (by unfold Good1; rw [hm]; intro h; rw [hd] at h; cases h)

theorem subStep_change (a : Attr) (p : Path) (name : String) (v : Nat) (s : St) (q : Path)
    (hk : KeysOK s) (hq : q ∈ s.ids) (hdp : s.defd a p name = some v)
    (hgu : GoodUnless s a q name p) (hsome : (s.mem a q name).isSome = true) :
    SubStep a name s (s.changeMemberSub a p name v q) q := by
  unfold St.changeMemberSub
  cases hm : s.mem a q name with
  | none => rw [hm] at hsome; cases hsome
  | some m =>
    cases hd : m.derived with
    | false => simpa [hd] using SubStep.refl_of_defined a name s q hk m hm hd
    | true =>
      simp only [hd, Bool.not_true, Bool.false_eq_true, if_false]
      exact subStep_derived a p name v s q hk hq hdp hgu m hm hd (fun _ => v)
        (fun w hw => (firstDef_p_payload s a _ name p v w hdp hw).symm)

theorem subStep_new (a : Attr) (p : Path) (name : String) (v : Nat) (s : St) (q : Path)
    (hk : KeysOK s) (hq : q ∈ s.ids) (hdp : s.defd a p name = some v)
    (hgu : GoodUnless s a q name p) (hpt : p ∈ s.tail q) :
    SubStep a name s (s.newMemberSub a p name v q) q := by
  unfold St.newMemberSub
  cases hm : s.mem a q name with
  | none =>
    -- `p` defines the name, so there is a first definer: it is `p`, or `q` was not good
    obtain ⟨d, hd⟩ := firstDef_isSome_of s a _ name p hpt (by rw [hdp]; rfl)
    rcases hgu with ⟨w, hw⟩ | hg
    · have hwv := firstDef_p_payload s a _ name p v w hdp hw
      subst hwv
      exact subStep_set a name s q p w hk hq (St.defd_of_mem_none hm) hw
    · unfold Good1 at hg
      rw [hm] at hg
      rw [hg] at hd; cases hd
  | some m =>
    cases hd : m.derived with
    | false => simpa [hd] using SubStep.refl_of_defined a name s q hk m hm hd
    | true =>
      simp only [hd, if_true]
      exact subStep_derived a p name v s q hk hq hdp hgu m hm hd id (fun _ _ => rfl)

structure Walked (a : Attr) (p : Path) (name : String) (s0 s : St) (L : List Path) : Prop extends Kept s0 s where
  other : ∀ a' q' n', ¬ (a' = a ∧ q' ∈ L ∧ n' = name) → s.mem a' q' n' = s0.mem a' q' n'
  good : ∀ q ∈ L, Good1 s a q name
  gu : ∀ q, GoodUnless s a q name p

theorem walked_nil (a : Attr) (p : Path) (name : String) (s0 : St) (hk : KeysOK s0)
    (hgu : ∀ q, GoodUnless s0 a q name p) : Walked a p name s0 s0 [] :=
  ⟨Kept.refl hk, fun _ _ _ _ => rfl, (fun _ h => nomatch h), hgu⟩

theorem walked_snoc {a : Attr} {p : Path} {name : String} {s0 s s' : St} {L : List Path} {q : Path}
    (h : Walked a p name s0 s L) (hst : SubStep a name s s' q) : Walked a p name s0 s' (L ++ [q]) := by
  refine ⟨h.toKept.trans hst.toKept, ?_, ?_, ?_⟩
  · intro a' q' n' hn
    rw [hst.other a' q' n' (fun h' => hn ⟨h'.1, by simp [h'.2.1], h'.2.2⟩)]
    exact h.other a' q' n' (fun h' => hn ⟨h'.1, by simp [h'.2.1], h'.2.2⟩)
  · intro q' hq'
    by_cases hqq : q' = q
    · subst hqq; exact hst.good
    · simp only [List.mem_append, List.mem_singleton, hqq, or_false] at hq'
      exact (h.good q' hq').congr (hst.other a q' name (fun h' => hqq h'.2.1)) (hst.shape.tail q')
        (fun b _ => hst.defs a b name)
  · intro q'
    by_cases hqq : q' = q
    · subst hqq; exact Or.inr hst.good
    · exact (h.gu q').congr (hst.other a q' name (fun h' => hqq h'.2.1)) hst.shape hst.defs

/-- `C s q`: what the step at `q` needs besides `GoodUnless` (`q` exists and has the name already, or has
`p` in its linearisation); `hC`: the steps at the other sub spaces keep it -/
theorem walked_foldl (a : Attr) (p : Path) (name : String) (v : Nat) (f : St → Path → St)
    (C : St → Path → Prop)
    (hC : ∀ s s' q q', SubStep a name s s' q' → C s q → C s' q)
    (hstep : ∀ s q, KeysOK s → s.defd a p name = some v → GoodUnless s a q name p → C s q →
      SubStep a name s (f s q) q)
    (s0 : St) (hdp : s0.defd a p name = some v) :
    ∀ (L L0 : List Path) (s : St), Walked a p name s0 s L0 → (∀ q ∈ L, C s q) →
      Walked a p name s0 (L.foldl f s) (L0 ++ L) := by
  intro L
  induction L with
  | nil => intro L0 s h _; simpa using h
  | cons q L ih =>
    intro L0 s h hc
    simp only [List.foldl_cons]
    have hdp' : s.defd a p name = some v := by rw [h.defs]; exact hdp
    have hst := hstep s q h.keys hdp' (h.gu q) (hc q (by simp))
    have := ih (L0 ++ [q]) (f s q) (walked_snoc h hst)
      (fun q' hq' => hC s _ q' q hst (hc q' (List.mem_cons_of_mem _ hq')))
    simpa using this

theorem walked_all_good {a : Attr} {p : Path} {name : String} {s0 s : St}
    (hwf : WF s0) (h : Walked a p name s0 s (s0.subs p)) (q : Path) :
    Good1 s a q name := by
  by_cases hq : q ∈ s0.subs p
  · exact h.good q hq
  · rcases h.gu q with ⟨w, hw⟩ | hg
    · exfalso
      have hpt : p ∈ s0.tail q := by
        have := (firstDef_some s a _ name p w hw).1
        rw [h.shape.tail] at this; exact this
      by_cases hqi : q ∈ s0.ids
      · by_cases hqp : q = p
        · subst hqp; exact hwf.not_mem_tail_self q hpt
        · exact hq ((mem_subs p q).mpr ⟨hqi, hqp, hpt⟩)
      · rw [St.tail_of_not_mem s0 q hqi] at hpt; cases hpt
    · exact hg

end MxModel.SM
