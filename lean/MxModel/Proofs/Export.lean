import MxModel.Kernels.Export
import MxModel.Generated.Tables
/-!
Lemmas behind `Props/C15.lean`.  The functions of `Kernels/Export.lean` take the statement and branch orders
as arguments; here they are evaluated at the orders extracted from the sources (`Generated.*`: the
`…_generated` lemmas, `argOf_cons_*`, `after_cons_*`), so these proofs are what is re-checked when a table
changes.  `after_inv` is the invariant of the generated `__call__` along a path of ItemSpaces.  The checker
of the cache methods is sound because no statement inspects a value or the counter: a read from any state
is the image of one of four test reads over `Bool` (`runCache_lift`, `cacheOK_of_cacheWF`).
-/
namespace MxModel.Export

@[simp] theorem get_nil (k : String) : get [] k = none := rfl

@[simp] theorem get_set (e : Env) (k' k : String) (v : Int) :
    get (set e k' v) k = if k' = k then some v else get e k := rfl

theorem get_none_of_not_mem (e : Env) (k : String) (h : k ∉ e.map (·.1)) : get e k = none := by
  induction e with
  | nil => rfl
  | cons p rest ih =>
    obtain ⟨k', v⟩ := p
    simp only [List.map_cons, List.mem_cons, not_or] at h
    simp only [get]
    rw [if_neg (fun hc => h.1 hc.symm)]
    exact ih h.2

theorem get_append (e1 e2 : Env) (k : String) :
    get (e1 ++ e2) k = (get e1 k).orElse (fun _ => get e2 k) := by
  induction e1 with
  | nil => simp [Option.orElse]
  | cons p rest ih =>
    obtain ⟨k', v⟩ := p
    simp only [List.cons_append, get]
    by_cases h : k' = k
    · simp [h, Option.orElse]
    · simp [h, ih]

theorem get_copyFrom (names : List String) (src e : Env) (k : String) :
    get (copyFrom names src e) k =
      if k ∈ names then (get src k).orElse (fun _ => get e k) else get e k := by
  unfold copyFrom
  induction names generalizing e with
  | nil => simp
  | cons n rest ih =>
    simp only [List.foldl_cons]
    rw [ih]
    by_cases hk : k ∈ rest
    · simp only [hk, if_true, List.mem_cons, or_true]
      cases hs : get src k with
      | some v => simp [Option.orElse]
      | none =>
        simp only [Option.orElse]
        cases hn : get src n with
        | none => rfl
        | some w =>
          simp only [get_set]
          by_cases hnk : n = k
          · subst hnk; rw [hs] at hn; cases hn
          · simp [hnk]
    · simp only [hk, if_false, List.mem_cons, or_false]
      by_cases hnk : k = n
      · subst hnk
        simp only [if_true]
        cases hn : get src k with
        | none => simp [Option.orElse]
        | some w => simp [Option.orElse]
      · simp only [hnk, if_false]
        cases hn : get src n with
        | none => rfl
        | some w =>
          have hne : ¬ n = k := fun h => hnk h.symm
          simp [get_set, hne]

theorem get_zip_none (ps : List String) (a : List Int) (k : String) (h : k ∉ ps) :
    get (ps.zip a) k = none := by
  induction ps generalizing a with
  | nil => rfl
  | cons p rest ih =>
    cases a with
    | nil => rfl
    | cons v a' =>
      simp only [List.mem_cons, not_or] at h
      simp only [List.zip_cons_cons, get]
      rw [if_neg (fun hc => h.1 hc.symm)]
      exact ih a' h.2

theorem get_zip_some (ps : List String) (a : List Int) (k : String) (h : k ∈ ps)
    (hl : a.length = ps.length) : ∃ v, get (ps.zip a) k = some v := by
  induction ps generalizing a with
  | nil => cases h
  | cons p rest ih =>
    cases a with
    | nil => simp at hl
    | cons v a' =>
      simp only [List.zip_cons_cons, get]
      by_cases hp : p = k
      · exact ⟨v, by simp [hp]⟩
      · simp only [hp, if_false]
        simp only [List.mem_cons] at h
        rcases h with h | h
        · exact absurd h.symm hp
        · exact ih a' h (by simpa using hl)

/-- `hnd`: of two assignments to one name the later one stays, whereas `get (ps.zip a)` takes the first -/
theorem get_assignParams (ps : List String) (a : List Int) (e : Env) (k : String)
    (hnd : ps.Nodup) :
    get (assignParams ps a e) k = (get (ps.zip a) k).orElse (fun _ => get e k) := by
  unfold assignParams
  induction ps generalizing a e with
  | nil => simp [Option.orElse]
  | cons p rest ih =>
    cases a with
    | nil => simp [Option.orElse]
    | cons v a' =>
      simp only [List.zip_cons_cons, List.foldl_cons]
      rw [List.nodup_cons] at hnd
      rw [ih a' _ hnd.2]
      simp only [get, get_set]
      by_cases hp : p = k
      · subst hp
        simp [get_zip_none rest a' p hnd.1, Option.orElse]
      · simp [hp]

theorem copyAllParams_append (rs : List Root) (r : Root) (e : Env) :
    copyAllParams (rs ++ [r]) e = copyParams r (copyAllParams rs e) := by
  simp [copyAllParams, List.foldl_append]

/-- the loop body of the generated `__call__`, in the statement order found in exporter.py -/
theorem newAttrs_generated (rn : List String) (base : Env) (roots : List Root) (ps : List String)
    (a : List Int) :
    newAttrs Generated.exportCallLoop rn base roots ps a =
      assignParams ps a (copyAllParams roots (copyFrom rn base [])) := by
  simp [newAttrs, Generated.exportCallLoop, loopStep]

theorem argOf_cons_none (l : Level) (outer : List Level) (k : String) (h : l.args = none) :
    argOf Generated.mxAllargsOrder (l :: outer) k = argOf Generated.mxAllargsOrder outer k := by
  simp [argOf, h]

theorem argOf_cons_some (l : Level) (outer : List Level) (k : String) (a : List Int)
    (h : l.args = some a) :
    argOf Generated.mxAllargsOrder (l :: outer) k =
      (get (l.sp.params.zip a) k).orElse (fun _ => argOf Generated.mxAllargsOrder outer k) := by
  have e : argOf Generated.mxAllargsOrder (l :: outer) k
      = firstSome [get (l.sp.params.zip a) k, argOf Generated.mxAllargsOrder outer k] := by
    simp only [argOf, h]; rfl
  rw [e]
  cases get (l.sp.params.zip a) k <;> cases argOf Generated.mxAllargsOrder outer k <;> rfl

theorem after_cons_none (g : Env) (l : Level) (outer : List Level) (h : l.args = none) :
    after Generated.exportCallLoop g (l :: outer) = after Generated.exportCallLoop g outer := by
  simp [after, h]

theorem after_cons_some (g : Env) (l : Level) (outer : List Level) (a : List Int)
    (h : l.args = some a) :
    after Generated.exportCallLoop g (l :: outer) =
      ((fun d => newAttrs Generated.exportCallLoop (refNames g d)
                  ((after Generated.exportCallLoop g outer).1 d)
                  (after Generated.exportCallLoop g outer).2 l.sp.params a),
       (after Generated.exportCallLoop g outer).2 ++
         [⟨l.sp.params, newAttrs Generated.exportCallLoop (refNames g l.sp)
             ((after Generated.exportCallLoop g outer).1 l.sp)
             (after Generated.exportCallLoop g outer).2 l.sp.params a⟩]) := by
  simp [after, h]

/-- The invariant of the generated `__call__`: an attribute of any instance below the
innermost call is the innermost argument of that name, else the static reference; and the
`_mx_roots` list, copied in order, yields the innermost argument. -/
theorem after_inv (g : Env) (lv : List Level) (hwf : WF lv) :
    (∀ d k, get ((after Generated.exportCallLoop g lv).1 d) k =
        (argOf Generated.mxAllargsOrder lv k).orElse (fun _ => get (staticRefs g d) k)) ∧
    (∀ e k, get (copyAllParams (after Generated.exportCallLoop g lv).2 e) k =
        (argOf Generated.mxAllargsOrder lv k).orElse (fun _ => get e k)) := by
  induction lv with
  | nil =>
    refine ⟨fun d k => ?_, fun e k => ?_⟩
    · simp [after, argOf, Option.orElse]
    · simp [after, argOf, copyAllParams, Option.orElse]
  | cons l outer ih =>
    obtain ⟨hnd, hlen, hwf'⟩ := hwf
    obtain ⟨iha, ihb⟩ := ih hwf'
    cases hargs : l.args with
    | none =>
      rw [after_cons_none g l outer hargs]
      refine ⟨fun d k => ?_, fun e k => ?_⟩
      · rw [argOf_cons_none l outer k hargs]; exact iha d k
      · rw [argOf_cons_none l outer k hargs]; exact ihb e k
    | some a =>
      rw [after_cons_some g l outer a hargs]
      have ha : ∀ d k, get (newAttrs Generated.exportCallLoop (refNames g d)
            ((after Generated.exportCallLoop g outer).1 d)
            (after Generated.exportCallLoop g outer).2 l.sp.params a) k =
          (argOf Generated.mxAllargsOrder (l :: outer) k).orElse
            (fun _ => get (staticRefs g d) k) := by
        intro d k
        rw [newAttrs_generated, get_assignParams _ _ _ _ hnd, ihb, get_copyFrom, iha,
          argOf_cons_some l outer k a hargs]
        cases hz : get (l.sp.params.zip a) k with
        | some v => simp [Option.orElse]
        | none =>
          cases ho : argOf Generated.mxAllargsOrder outer k with
          | some v => simp [Option.orElse]
          | none =>
            by_cases hk : k ∈ refNames g d
            · cases hs : get (staticRefs g d) k <;> simp [Option.orElse, hk]
            · have := get_none_of_not_mem (staticRefs g d) k hk
              simp [Option.orElse, hk, this]
      refine ⟨ha, fun e k => ?_⟩
      simp only []
      rw [copyAllParams_append, copyParams, get_copyFrom, ha l.sp k, ihb,
        argOf_cons_some l outer k a hargs]
      by_cases hk : k ∈ l.sp.params
      · obtain ⟨v, hv⟩ := get_zip_some l.sp.params a k hk (hlen a hargs)
        simp [hk, hv, Option.orElse]
      · simp [hk, get_zip_none l.sp.params a k hk, Option.orElse]

theorem replaceGlobal_generated (inTop topAssigned isBuiltin : Bool) :
    replaceGlobal inTop topAssigned isBuiltin Generated.exportReplaceOrder =
      (if inTop then topAssigned else !isBuiltin) := by
  cases inTop <;> cases topAssigned <;> cases isBuiltin <;>
    simp [replaceGlobal, Generated.exportReplaceOrder]

theorem shouldReplace_generated (dummyFor builtins : List String) (t : SpaceNames) (n : String) :
    shouldReplace Generated.exportReplaceOrder dummyFor builtins t .global n =
      (if (topNames dummyFor t).contains n then true else !builtins.contains n) := by
  simp only [shouldReplace, replaceGlobal_generated]

/-- module-level names of the source built by `_get_class_def`: every member of the space -
references, child spaces, parameters (dummy bindings, the last two since fix 77f6b99) and cells -/
theorem topNames_generated (t : SpaceNames) (n : String) :
    (topNames Generated.exportDummyFor t).contains n = t.isMember n := by
  simp only [topNames, Generated.exportDummyFor, container, SpaceNames.isMember, List.flatMap_cons,
    List.flatMap_nil, List.append_nil, List.contains_append, String.reduceEq, ↓reduceIte]
  simp only [Bool.or_assoc, Bool.or_comm]

/-- the decision table of `should_replace` against modelx's namespace-then-builtins rule -/
theorem resolve_table (b mem : Bool) :
    (if (if mem = true then true else !b) = true then
        (if mem = true then Target.member else Target.unbound)
      else (if b = true then Target.builtin else Target.unbound)) =
    (if mem = true then Target.member
      else if b = true then Target.builtin else Target.unbound) := by
  cases b <;> cases mem <;> simp

/-- the same with parameters that may have no value (`bd`: bound on the access path), where the class-level
line `k = k` gives the built-in -/
theorem resolveAt_table (c r sp p bd bi : Bool) :
    (if (if (c || r || sp || p) = true then true else !bi) = true then
        (if (c || r || sp || p && bd) = true then Target.member
          else if (p && bi && !(c || (r || sp))) = true then Target.builtin else Target.unbound)
      else (if bi = true then Target.builtin else Target.unbound)) =
    (if (c || r || sp || p && bd) = true then Target.member
      else if bi = true then Target.builtin else Target.unbound) := by
  revert c r sp p bd bi; decide

/-- the chain of `ParentTranslator.ref_value` as it stands in exporter.py (since 3bae90c the literal
branch excludes the floats that are not finite) -/
theorem refValue_generated (v : PyVal) :
    refValue Generated.exportLiteralTest Generated.exportLiteralTypes v Generated.exportRefValueOrder =
      if v.iface then (if v.valid then .path else .noneLit)
      else if (Generated.exportLiteralTypes.contains v.ty && !(v.ty == "float" && !v.finite)) then .literal
      else if v.sysmod then .importModule
      else if v.iospec then .ioData else .pickle := by
  rfl

theorem contains_flatMap_binds (n : String) (ss : List PyScope) :
    (ss.flatMap (·.binds)).contains n = pyBound n ss := by
  induction ss with
  | nil => rfl
  | cons s rest ih =>
    simp only [List.flatMap_cons, pyBound, List.any_cons] at *
    rw [← ih]
    simp [List.contains_eq_mem, List.mem_append]

theorem classify_table (n : String) (ng : List String) (r : List Frame) :
    classify n (.table ng :: r) = if ng.contains n then .localOrFree else .global := rfl

theorem classify_comp (n : String) (b : List String) (r : List Frame) :
    classify n (.comp b :: r) = if b.contains n then .localOrFree else classify n r := rfl

theorem pyBound_cons (n : String) (s : PyScope) (ss : List PyScope) :
    pyBound n (s :: ss) = (s.binds.contains n || pyBound n ss) := rfl

theorem view_cons (s : PyScope) (rest : List PyScope) :
    view (s :: rest) =
      (if s.inlined then Frame.comp s.binds else Frame.table ((s :: rest).flatMap (·.binds))) :: view rest := rfl

theorem ite_or_kind (a b : Bool) :
    (if a = true then ScopeKind.localOrFree else if b = true then ScopeKind.localOrFree else ScopeKind.global) =
      if (a || b) = true then ScopeKind.localOrFree else ScopeKind.global := by
  cases a <;> cases b <;> rfl

/-- the climb computes Python's rule, for every chain of scopes that ends in a scope with a table -/
theorem classify_view (n : String) (ss : List PyScope) (m : PyScope) (hm : m.inlined = false) :
    classify n (view (ss ++ [m])) = pyKind n (ss ++ [m]) := by
  induction ss with
  | nil =>
    rw [List.nil_append, view_cons, hm]
    simp only [Bool.false_eq_true, if_false]
    rw [classify_table, contains_flatMap_binds]
    rfl
  | cons s rest ih =>
    rw [List.cons_append, view_cons]
    cases hs : s.inlined with
    | true =>
      simp only [if_true]
      rw [classify_comp, ih]
      simp only [pyKind, pyBound_cons]
      exact ite_or_kind _ _
    | false =>
      simp only [Bool.false_eq_true, if_false]
      rw [classify_table, contains_flatMap_binds]
      rfl

/-- the cache of one element holds what modelx holds for it: nothing, or the value `v` -/
def Rep {V : Type} (s : CSt V) : Option V → Prop
  | none => s.has = false
  | some v => s.has = true ∧ s.slot = some v

theorem specCalls_stored {V : Type} (fs : List (Option V)) (v : V) : specCalls fs (some v) = 0 := by
  cases fs <;> rfl

theorem specReads_stored {V : Type} (f : Option V) (rest : List (Option V)) (v : V) :
    specReads (f :: rest) (some v) = .value (some v) :: specReads rest (some v) := by
  cases f <;> rfl

theorem specReads_all_stored {V : Type} (fs : List (Option V)) (v : V) :
    specReads fs (some v) = fs.map (fun _ => .value (some v)) := by
  induction fs with
  | nil => rfl
  | cons f rest ih => rw [specReads_stored, List.map_cons, ih]

/-- A cache method that follows the protocol shows, for every sequence of reads of one element and whatever
the formula does at each of them, what modelx shows, and evaluates the formula as often as modelx does. -/
theorem reads_eq_spec_of_ok {V : Type} {p : CProg} (ok : CacheOK V p) (fs : List (Option V)) :
    ∀ (s : CSt V) (st : Option V), Rep s st →
      reads p fs s = specReads fs st ∧ callsAfter p fs s = s.calls + specCalls fs st := by
  induction fs with
  | nil => intro s st _; cases st <;> simp [reads, specReads, callsAfter, specCalls]
  | cons f rest ih =>
    intro s st hr
    cases st with
    | none =>
      have h : s.has = false := hr
      cases f with
      | none =>
        obtain ⟨h1, h2, _, h4⟩ := ok.fail s h
        obtain ⟨ihr, ihc⟩ := ih (runCache p none s).2 none h2
        refine ⟨?_, ?_⟩
        · simp only [reads, specReads, h1, CRes.seen, ihr]
        · show callsAfter p rest (runCache p none s).2 = _
          rw [ihc, h4]
          simp only [specCalls]
          omega
      | some v =>
        obtain ⟨h1, h2, h3, h4⟩ := ok.succ s v h
        obtain ⟨ihr, ihc⟩ := ih (runCache p (some v) s).2 (some v) ⟨h2, h3⟩
        refine ⟨?_, ?_⟩
        · simp only [reads, specReads, h1, CRes.seen, ihr]
        · show callsAfter p rest (runCache p (some v) s).2 = _
          rw [ihc, h4, specCalls_stored]
          simp only [specCalls]
    | some v =>
      obtain ⟨h, hs⟩ := hr
      obtain ⟨h1, h2, h3, h4⟩ := ok.hit s f h
      obtain ⟨ihr, ihc⟩ := ih (runCache p f s).2 (some v) ⟨h2, h3.trans hs⟩
      refine ⟨?_, ?_⟩
      · rw [specReads_stored]
        simp only [reads, h1, CRes.seen, ihr, hs]
      · show callsAfter p rest (runCache p f s).2 = _
        rw [ihc, h4, specCalls_stored, specCalls_stored]

/-! ### soundness of the checker `cacheWF`: the statements are parametric in the values and in the counter -/

/-- a test state seen as a state over `V`: values through `g`, the counter shifted by `n` -/
def CSt.lift {T V : Type} (g : T → Option V) (n : Nat) (s : CSt T) : CSt V :=
  { has := s.has, slot := s.slot.bind g, tmp := s.tmp.bind g, calls := n + s.calls }

def CRes.lift {T V : Type} (g : T → Option V) : CRes T → CRes V
  | .ret v => .ret (v.bind g)
  | .raised => .raised
  | .fell => .fell

/-- the formula does "the same" at the test read and at the real read -/
inductive Compat {T V : Type} (g : T → Option V) : Option T → Option V → Prop
  | none : Compat g none none
  | some (x : T) (v : V) : g x = some v → Compat g (some x) (some v)

theorem execOps_lift {T V : Type} (g : T → Option V) (n : Nat) {f : Option T} {f' : Option V}
    (hc : Compat g f f') : ∀ (ops : List COp) (s : CSt T),
      execOps f' ops (s.lift g n) = ((execOps f ops s).1.lift g, (execOps f ops s).2.lift g n) := by
  intro ops
  induction ops with
  | nil => intro s; rfl
  | cons o r ih =>
    intro s
    cases o with
    | retSlot | retTmp => rfl
    | retItem => by_cases h : s.has = true <;> simp [execOps, CSt.lift, CRes.lift, h]
    | setHas => exact ih { s with has := true }
    | clearHas => exact ih { s with has := false }
    | storeTmp => exact ih { s with slot := s.tmp }
    | putTmp => exact ih { s with has := true, slot := s.tmp }
    | evalTmp =>
      cases hc with
      | none => rfl
      | some x v hg =>
        have := ih { s with tmp := some x, calls := s.calls + 1 }
        simp only [CSt.lift, show (some x : Option T).bind g = some v from hg, ← Nat.add_assoc] at this
        simpa only [execOps, CSt.lift] using this
    | evalSlot =>
      cases hc with
      | none => rfl
      | some x v hg =>
        have := ih { s with slot := some x, calls := s.calls + 1 }
        simp only [CSt.lift, show (some x : Option T).bind g = some v from hg, ← Nat.add_assoc] at this
        simpa only [execOps, CSt.lift] using this
    | evalBoth =>
      cases hc with
      | none => rfl
      | some x v hg =>
        have := ih { s with slot := some x, tmp := some x, calls := s.calls + 1 }
        simp only [CSt.lift, show (some x : Option T).bind g = some v from hg, ← Nat.add_assoc] at this
        simpa only [execOps, CSt.lift] using this
    | evalItem =>
      cases hc with
      | none => rfl
      | some x v hg =>
        have := ih { s with has := true, slot := some x, calls := s.calls + 1 }
        simp only [CSt.lift, show (some x : Option T).bind g = some v from hg, ← Nat.add_assoc] at this
        simpa only [execOps, CSt.lift] using this

theorem runCache_lift {T V : Type} (g : T → Option V) (n : Nat) {f : Option T} {f' : Option V}
    (hc : Compat g f f') (p : CProg) (s : CSt T) :
    runCache p f' (s.lift g n) = ((runCache p f s).1.lift g, (runCache p f s).2.lift g n) := by
  have h0 : runCache p f' (s.lift g n) =
      match execOps f' (if s.has != p.neg then p.thn else p.els) (CSt.lift g n { s with tmp := none }) with
      | (.fell, s1) =>
        (match execOps f' p.aft s1 with
         | (.fell, s2) => (.ret none, s2)
         | r => r)
      | r => r := rfl
  have h1 : runCache p f s =
      match execOps f (if s.has != p.neg then p.thn else p.els) { s with tmp := none } with
      | (.fell, s1) =>
        (match execOps f p.aft s1 with
         | (.fell, s2) => (.ret none, s2)
         | r => r)
      | r => r := rfl
  rw [h0, h1, execOps_lift g n hc]
  generalize execOps f (if s.has != p.neg then p.thn else p.els) { s with tmp := none } = r1
  obtain ⟨c, s1⟩ := r1
  cases c with
  | ret v => rfl
  | raised => rfl
  | fell =>
    simp only [CRes.lift]
    rw [execOps_lift g n hc]
    generalize execOps f p.aft s1 = r2
    obtain ⟨c2, s2⟩ := r2
    cases c2 <;> rfl

theorem runCache_tmp {V : Type} (p : CProg) (f : Option V) (s : CSt V) :
    runCache p f s = runCache p f { s with tmp := none } := rfl

theorem resIs_spec {r : CRes Bool × CSt Bool} {raised : Bool} {v : Option Bool} {has : Bool}
    {slot : Option Bool} {calls : Nat} (h : resIs r raised v has slot calls = true) :
    r.1 = (if raised then .raised else .ret v) ∧ r.2.has = has ∧ r.2.slot = slot ∧ r.2.calls = calls := by
  obtain ⟨c, s⟩ := r
  simp only [resIs, Bool.and_eq_true, beq_iff_eq] at h
  obtain ⟨⟨⟨h1, h2⟩, h3⟩, h4⟩ := h
  refine ⟨?_, h2, h3, h4⟩
  cases c with
  | raised => simp only at h1; simp [h1]
  | fell => simp at h1
  | ret x =>
    simp only [Bool.and_eq_true, Bool.not_eq_true', beq_iff_eq] at h1
    simp [h1.1, h1.2]

/-- **The checker is sound**: a program that passes the four test reads follows the protocol for every type
of values, from every state of the cache. -/
theorem cacheOK_of_cacheWF (V : Type) (p : CProg) (h : cacheWF p = true) : CacheOK V p := by
  simp only [cacheWF, Bool.and_eq_true] at h
  obtain ⟨⟨⟨t1, t2⟩, t3⟩, t4⟩ := h
  have t1 := resIs_spec t1
  have t2 := resIs_spec t2
  have t3 := resIs_spec t3
  have t4 := resIs_spec t4
  -- every state is the image of a test state: `false ↦` what the slot holds, `true ↦` what the formula returns
  have key : ∀ (s : CSt V) (f' : Option V) (f : Option Bool),
      Compat (fun b : Bool => if b then f' else s.slot) f f' →
      runCache p f' s = ((runCache p f (testSt s.has)).1.lift (fun b : Bool => if b then f' else s.slot),
        (runCache p f (testSt s.has)).2.lift (fun b : Bool => if b then f' else s.slot) s.calls) := by
    intro s f' f hc
    rw [runCache_tmp, ← runCache_lift _ s.calls hc p (testSt s.has)]
    rfl
  refine ⟨?_, ?_, ?_⟩
  · intro s hs
    have := key s none none .none
    rw [hs] at this
    rw [this, t1.1]
    simp [CRes.lift, CSt.lift, t1.2.1, t1.2.2.1, t1.2.2.2]
  · intro s v hs
    have := key s (some v) (some true) (.some true v rfl)
    rw [hs] at this
    rw [this, t2.1]
    simp [CRes.lift, CSt.lift, t2.2.1, t2.2.2.1, t2.2.2.2]
  · intro s f' hs
    cases f' with
    | none =>
      have := key s none none .none
      rw [hs] at this
      rw [this, t3.1]
      simp [CRes.lift, CSt.lift, t3.2.1, t3.2.2.1, t3.2.2.2]
    | some v =>
      have := key s (some v) (some true) (.some true v rfl)
      rw [hs] at this
      rw [this, t4.1]
      simp [CRes.lift, CSt.lift, t4.2.1, t4.2.2.1, t4.2.2.2]

theorem resIs_of {r : CRes Bool × CSt Bool} {raised : Bool} {v : Option Bool} {has : Bool}
    {slot : Option Bool} {calls : Nat}
    (h1 : r.1 = (if raised then .raised else .ret v)) (h2 : r.2.has = has) (h3 : r.2.slot = slot)
    (h4 : r.2.calls = calls) : resIs r raised v has slot calls = true := by
  obtain ⟨c, s⟩ := r
  simp only at h1 h2 h3 h4
  subst h1 h2 h3 h4
  cases raised <;> simp [resIs]

/-- the checker is complete: it rejects only programs that break the protocol (over `Bool` already) -/
theorem cacheWF_of_cacheOK (p : CProg) (ok : CacheOK Bool p) : cacheWF p = true := by
  have a := ok.fail (testSt false) rfl
  have b := ok.succ (testSt false) true rfl
  have c := ok.hit (testSt true) none rfl
  have d := ok.hit (testSt true) (some true) rfl
  simp only [cacheWF, Bool.and_eq_true]
  exact ⟨⟨⟨resIs_of (by simpa using a.1) a.2.1 a.2.2.1 a.2.2.2, resIs_of (by simpa using b.1) b.2.1 b.2.2.1 b.2.2.2⟩,
    resIs_of c.1 c.2.1 c.2.2.1 c.2.2.2⟩, resIs_of d.1 d.2.1 d.2.2.1 d.2.2.2⟩

end MxModel.Export
