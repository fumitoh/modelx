import MxModel.Kernels.SerialRead
/-!
# SerialWF: which descriptions the round-trip theorem is about (C04)

`WellFormed m` - what every model built through the public API satisfies, as far as the proof needs it
(each conjunct is decidable; the names are weaker than `is_valid_name`).

`Hk m` - the conjunction of the hypotheses that exclude the recorded C04 findings, one named predicate
per finding:

| finding (known_findings.json)   | hypothesis              |
|---------------------------------|-------------------------|
| C04-refmode-noninterface        | `RefModesWritten`       |
| C04-derived-input               | `NoDerivedInputs`       |
| C04-def-text-outside-node       | `DefTextIsNode`         |
| C04-doc-section-marker          | `NoMarkerInText`        |
| C04-ref-override-order          | `NoRefOverrideOrder`    |
| C04-relref-override-order       | `NoRelRefOverrideOrder` |
| C04-bases-order (found here)    | `NoBasesOrderConflict`  |

C04-derived-member-stale is about a DERIVED member of the live model; a description holds defined
members only, so the finding cannot be expressed (it is outside the statement, not excluded by it).
-/
namespace MxModel.Serial
open MxModel.PathCodec

/-! ## what the reader's checks look at, computed from the description -/

mutual
def spacePaths (parent : Path) : SpaceD → List Path
  | .mk i cs => (parent ++ [i.name]) :: spacesPaths (parent ++ [i.name]) cs
def spacesPaths (parent : Path) : List SpaceD → List Path
  | [] => []
  | s :: ss => spacePaths parent s ++ spacesPaths parent ss
end

mutual
def spaceCells (parent : Path) : SpaceD → List (Path × List Name)
  | .mk i cs => (parent ++ [i.name], i.cells.map (·.name)) :: spacesCells (parent ++ [i.name]) cs
def spacesCells (parent : Path) : List SpaceD → List (Path × List Name)
  | [] => []
  | s :: ss => spaceCells parent s ++ spacesCells parent ss
end

/- the direct bases of every space, in tree order (the order in which the reader adds them) -/
mutual
def spaceBases (parent : Path) : SpaceD → BaseRel
  | .mk i cs => (parent ++ [i.name], i.bases) :: spacesBases (parent ++ [i.name]) cs
def spacesBases (parent : Path) : List SpaceD → BaseRel
  | [] => []
  | s :: ss => spaceBases parent s ++ spacesBases parent ss
end

/- the reference definitions of every space, in tree order (the order in which the reader creates them) -/
mutual
def spaceRefDefs (parent : Path) : SpaceD → List (Path × RefD)
  | .mk i cs => i.refs.map (fun r => (parent ++ [i.name], r)) ++ spacesRefDefs (parent ++ [i.name]) cs
def spacesRefDefs (parent : Path) : List SpaceD → List (Path × RefD)
  | [] => []
  | s :: ss => spaceRefDefs parent s ++ spacesRefDefs parent ss
end

def ctxOf (m : MDesc) : Ctx := ⟨m.name, spacesPaths [] m.spaces, spacesCells [] m.spaces, pickleIds m⟩

def baseDefs (m : MDesc) : BaseRel := spacesBases [] m.spaces

/-- model-level references first (owner `[]`), then the spaces' in tree order -/
def refDefs (m : MDesc) : List (Path × RefD) :=
  m.refs.map (fun r => (([] : Path), (⟨r.1, r.2, .auto⟩ : RefD))) ++ spacesRefDefs [] m.spaces

/-! ## well-formedness -/

/-- non-empty, does not start with an underscore, contains no dot -/
def validName (n : Name) : Bool := n != [] && n.head? != some '_' && !n.contains '.'

def startsLambda (t : Text) : Bool := t.take 6 == "lambda".toList

def cellsWF (c : CellsD) : Bool :=
  validName c.name &&
  (match c.formula with
   | .lambda t => startsLambda t
   | .defn _ _ => c.doc == none)

def refValWF (ctx : Ctx) (bs : BaseRel) : RefVal → Bool
  | .interface t => targetExists ctx bs t
  | _ => true

def infoWF (ctx : Ctx) (bs : BaseRel) (i : SpaceInfo) : Bool :=
  validName i.name &&
  i.cells.all cellsWF && (i.cells.map (·.name)).Nodup &&
  i.refs.all (fun r => validName r.name && refValWF ctx bs r.val) && (i.refs.map (·.name)).Nodup &&
  (match i.formula with | some (.lambda t) => startsLambda t | _ => true) &&
  i.bases.all (fun b => ctx.spaces.contains b && b.all validName)

mutual
def spaceWF (ctx : Ctx) (bs : BaseRel) : SpaceD → Bool
  | .mk i cs => infoWF ctx bs i && (cs.map SpaceD.name).Nodup && spacesWF ctx bs cs
def spacesWF (ctx : Ctx) (bs : BaseRel) : List SpaceD → Bool
  | [] => true
  | s :: ss => spaceWF ctx bs s && spacesWF ctx bs ss
end

/-- unique names per container, valid names, bases exist, targets of object-valued references exist -/
def wellFormed (m : MDesc) : Bool :=
  validName m.name &&
  m.refs.all (fun r => validName r.1 && refValWF (ctxOf m) (baseDefs m) r.2) && (m.refs.map (·.1)).Nodup &&
  (m.spaces.map SpaceD.name).Nodup && spacesWF (ctxOf m) (baseDefs m) m.spaces

def WellFormed (m : MDesc) : Prop := wellFormed m = true
instance (m : MDesc) : Decidable (WellFormed m) := by unfold WellFormed; exact inferInstance

/-! ## the hypotheses that exclude the recorded findings -/

/- every space of the description satisfies `p` -/
mutual
def allSpace (p : SpaceInfo → Bool) : SpaceD → Bool
  | .mk i cs => p i && allSpaces p cs
def allSpaces (p : SpaceInfo → Bool) : List SpaceD → Bool
  | [] => true
  | s :: ss => allSpace p s && allSpaces p ss
end

def isInterface : RefVal → Bool
  | .interface _ => true
  | _ => false

/-- C04-refmode-noninterface: only `("Interface", path, mode)` carries a mode -/
def refModesWritten (m : MDesc) : Bool :=
  allSpaces (fun i => i.refs.all (fun r => isInterface r.val || r.mode == .auto)) m.spaces
def RefModesWritten (m : MDesc) : Prop := refModesWritten m = true
instance (m : MDesc) : Decidable (RefModesWritten m) := by unfold RefModesWritten; exact inferInstance

/-- C04-derived-input: no input value sits in a derived cells -/
def noDerivedInputs (m : MDesc) : Bool := allSpaces (fun i => i.derivedInputs.isEmpty) m.spaces
def NoDerivedInputs (m : MDesc) : Prop := noDerivedInputs m = true
instance (m : MDesc) : Decidable (NoDerivedInputs m) := by unfold NoDerivedInputs; exact inferInstance

def formulaIsNode : Formula → Bool
  | .lambda _ => true
  | .defn s n => s == n

/-- C04-def-text-outside-node: the text of every `def` is the text of its syntax node -/
def defTextIsNode (m : MDesc) : Bool :=
  allSpaces (fun i => i.cells.all (fun c => formulaIsNode c.formula) &&
    (match i.formula with | some f => formulaIsNode f | none => true)) m.spaces
def DefTextIsNode (m : MDesc) : Prop := defTextIsNode m = true
instance (m : MDesc) : Decidable (DefTextIsNode m) := by unfold DefTextIsNode; exact inferInstance

def stmtsClean (l : List Stmt) : Bool := l.all (fun s => (markerIn (stmtText s)).isNone)

mutual
def spaceClean (model : Name) (parent : Path) : SpaceD → Bool
  | .mk i cs => stmtsClean (spaceStmts model parent i (cs.map SpaceD.name)) &&
      spacesClean model (parent ++ [i.name]) cs
def spacesClean (model : Name) (parent : Path) : List SpaceD → Bool
  | [] => true
  | s :: ss => spaceClean model parent s && spacesClean model parent ss
end

/-- C04-doc-section-marker: no documentation string, formula or literal holds the divider line followed by
another line -/
def noMarkerInText (m : MDesc) : Bool := stmtsClean (modelStmts m) && spacesClean m.name [] m.spaces
def NoMarkerInText (m : MDesc) : Prop := noMarkerInText m = true
instance (m : MDesc) : Decidable (NoMarkerInText m) := by unfold NoMarkerInText; exact inferInstance

/-- the base lists added one space after the other in tree order: every intermediate graph has a
linearisation for every space -/
def basesPass (ctx : Ctx) : BaseRel → BaseRel → Bool
  | _, [] => true
  | bs, e :: rest => allMro ctx (bs ++ [e]) && basesPass ctx (bs ++ [e]) rest

/-- C04-bases-order -/
def noBasesOrderConflict (m : MDesc) : Bool := basesPass (ctxOf m) [] (baseDefs m)
def NoBasesOrderConflict (m : MDesc) : Prop := noBasesOrderConflict m = true
instance (m : MDesc) : Decidable (NoBasesOrderConflict m) := by unfold NoBasesOrderConflict; exact inferInstance

/-- the references created one after the other in tree order: `g done owner ref` holds each time -/
def refsPass (g : List (Path × Name) → Path → RefD → Bool) : List (Path × Name) → List (Path × RefD) → Bool
  | _, [] => true
  | done, e :: rest => g done e.1 e.2 && refsPass g (done ++ [(e.1, e.2.name)]) rest

/-- C04-ref-override-order: creating the references after all bases, in tree order, never meets a sub
space that already has the name -/
def noRefOverrideOrder (m : MDesc) : Bool :=
  refsPass (fun done p r => p == [] || !refConflict (ctxOf m) (baseDefs m) done p r.name) [] (refDefs m)
def NoRefOverrideOrder (m : MDesc) : Prop := noRefOverrideOrder m = true
instance (m : MDesc) : Decidable (NoRefOverrideOrder m) := by unfold NoRefOverrideOrder; exact inferInstance

def relTarget (r : RefD) : Option Path :=
  match r.val, r.mode with
  | .interface t, .relative => some t
  | _, _ => none

/-- C04-relref-override-order: a `relative` object-valued reference is never created while a sub space that
would take its value has no counterpart of the target -/
def noRelRefOverrideOrder (m : MDesc) : Bool :=
  refsPass (fun done p r => p == [] ||
    (match relTarget r with
     | some t => !relConflict (ctxOf m) (baseDefs m) done p r.name t
     | none => true)) [] (refDefs m)
def NoRelRefOverrideOrder (m : MDesc) : Prop := noRelRefOverrideOrder m = true
instance (m : MDesc) : Decidable (NoRelRefOverrideOrder m) := by unfold NoRelRefOverrideOrder; exact inferInstance

/-- the description avoids the triggers of all recorded findings of C04 that it can express -/
structure Hk (m : MDesc) : Prop where
  refmode : RefModesWritten m
  derivedInput : NoDerivedInputs m
  defText : DefTextIsNode m
  sectionMarker : NoMarkerInText m
  basesOrder : NoBasesOrderConflict m
  refOverride : NoRefOverrideOrder m
  relRefOverride : NoRelRefOverrideOrder m

def hk (m : MDesc) : Bool :=
  refModesWritten m && noDerivedInputs m && defTextIsNode m && noMarkerInText m &&
  noBasesOrderConflict m && noRefOverrideOrder m && noRelRefOverrideOrder m

theorem hk_iff (m : MDesc) : hk m = true ↔ Hk m := by
  unfold hk
  simp only [Bool.and_eq_true]
  constructor
  · rintro ⟨⟨⟨⟨⟨⟨a, b⟩, c⟩, d⟩, e⟩, f⟩, g⟩; exact ⟨a, b, c, d, e, f, g⟩
  · rintro ⟨a, b, c, d, e, f, g⟩; exact ⟨⟨⟨⟨⟨⟨a, b⟩, c⟩, d⟩, e⟩, f⟩, g⟩

instance (m : MDesc) : Decidable (Hk m) := decidable_of_iff _ (hk_iff m)

/-! The per-space predicates and the two guards inside the hypotheses above, under names: the lemmas about one
space and about one executed reference are stated with them, and a hypothesis is handed to them in this form. -/

def pRefMode (i : SpaceInfo) : Bool := i.refs.all (fun r => isInterface r.val || r.mode == .auto)
def pNoDerived (i : SpaceInfo) : Bool := i.derivedInputs.isEmpty
def pDefText (i : SpaceInfo) : Bool :=
  i.cells.all (fun c => formulaIsNode c.formula) && (match i.formula with | some f => formulaIsNode f | none => true)

theorem RefModesWritten.perSpace {m : MDesc} (h : RefModesWritten m) : allSpaces pRefMode m.spaces = true := h
theorem NoDerivedInputs.perSpace {m : MDesc} (h : NoDerivedInputs m) : allSpaces pNoDerived m.spaces = true := h
theorem DefTextIsNode.perSpace {m : MDesc} (h : DefTextIsNode m) : allSpaces pDefText m.spaces = true := h

def gRef (ctx : Ctx) (bs : BaseRel) (done : List (Path × Name)) (p : Path) (r : RefD) : Bool :=
  p == [] || !refConflict ctx bs done p r.name

def gRel (ctx : Ctx) (bs : BaseRel) (done : List (Path × Name)) (p : Path) (r : RefD) : Bool :=
  p == [] || (match relTarget r with
    | some t => !relConflict ctx bs done p r.name t
    | none => true)

theorem NoRefOverrideOrder.refsPass {m : MDesc} (h : NoRefOverrideOrder m) :
    Serial.refsPass (gRef (ctxOf m) (baseDefs m)) [] (refDefs m) = true := h
theorem NoRelRefOverrideOrder.refsPass {m : MDesc} (h : NoRelRefOverrideOrder m) :
    Serial.refsPass (gRel (ctxOf m) (baseDefs m)) [] (refDefs m) = true := h

end MxModel.Serial
